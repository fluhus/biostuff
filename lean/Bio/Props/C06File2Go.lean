/-
  C06 / C07 / C11 / C18, READER and FILE level, for the Go SOURCE TEXT of `fasta.Reader`, `fasta.File`
  (formats/fasta/iter.go) and `fastq.Reader`, `fastq.File` (formats/fastq/iter.go), as translated on every
  run, statement by statement, into `Bio.Generated.GoSrc.fasta_Reader`, `fasta_File`, `fastq_Reader`,
  `fastq_File`:

      func Reader(r io.Reader) iter.Seq2[*T, error] {
        return func(yield func(*T, error) bool) {
          for x, err := range newReader(r).iter() { if !yield(x, err) { break } } } }
      func File(file string) iter.Seq2[*T, error] {
        return func(yield func(*T, error) bool) {
          f, err := aio.Open(file)
          if err != nil { yield(nil, err); return }
          defer f.Close()
          for x, err := range Reader(f) { if !yield(x, err) { break } } } }

  THREE layers `File → Reader → (*reader).iter`, the upper two being the forwarding range-over-func loop
  of `Bio/Lemmas/GoSrcFile.lean` (`FileW.fwd`, `fwdC`; `SamRd.runG`; `C06FileGo.go_file_forwarding`).  The `io.Reader` /
  opened file is the pair the translated `fasta_iter` / `fastq_iter` work on: `(remaining bytes, ending)`
  for fasta, `(remaining bufio.ScanLines tokens, ending)` for fastq.  `o` stands for `aio.Open` — a
  PARAMETER `name ↦ (pair, error)`, nothing assumed.  `defer f.Close()` is not modelled.

  For fasta and fastq each, for an ARBITRARY `aio.Open`, file name and EVERY history consumer:

  1. `go_*_reader_eq_iter` (C06 / C18): `Reader fuel r yield = iter fuel r.1 r.2 yield`.
  2. `go_*_file_open_error` (C07): `aio.Open` failed — exactly ONE item `(nil, that error)`, whatever the
     consumer answers, any fuel.
     `go_*_file_eq_reader` (C06): `aio.Open` succeeded — `File file = Reader (opened pair) = iter …`.
     `go_*_file_no_panic` (C11 / C18): with the fuel of the inner theorems (`len + 1` of the opened
     bytes / line tokens) never `none`; through the three layers: `iter` returns a history `inner` under
     the loop body of `Reader` under the loop body of `File`; BOTH run-time-panic tests ("range function
     continued iteration after function for loop body returned false") fail on it; both replays give it
     back; `Reader` and `File` return it.  And for ANY fuel, `File = none ↔ iter = none` (out of fuel).
     `go_*_file_early_stop` (C18): the clauses of `C06FileGo.go_bed_file_early_stop`, path opened or not.
  3. `go_*_file_all` (C01 / C02 / C06): opened, consumer that never stops — the items, read back as model
     items (`faItem` / `fqItem`), are exactly the model decode `Fasta.decodeSrc e src` /
     `Fastq.fromLines e ls` (`= Fastq.decodeSrc e x` on the `bufio.ScanLines` tokens of `x`).
  4. Concrete runs (`decide`).

  (1) and `eq_reader` hold for EVERY fuel, not only above the bound of the inner theorems (both sides run
  out of fuel together: `FileW2.iterSpec_fwdC`, `iterSpec_go_on`, `after_iterSpec`), and without the
  `*_read_Found` flags.  As in C06FileGo, "a consumer declining at the k-th item sees exactly k" is stated
  for an item that exists in the uninterrupted run (`k < I'.length`).

  Guarded by the translator's `_Found` flags (see `Bio.Lemmas.GoSrc`).
-/
import Bio.Lemmas.GoSrcFile2
import Bio.Props.C06FileGo
import Bio.Props.C18Go
set_option linter.unusedVariables false -- the `hF` of the flag idiom (Lemmas/GoSrc.lean)
namespace Bio.Props.C06File2Go
open Bio Bio.GoRt Bio.Generated Bio.GoSrcLemmas Bio.GoSrcLemmas.FileW Bio.GoSrcLemmas.FileW2
open Bio.GoSrcLemmas.SamRd (runG)

/-- every translator flag this file depends on; the non-vacuity examples below are stated as
`allFound = false ∨ …` so that a source the translator no longer recognises is not an alarm -/
def allFound : Bool :=
  GoSrc.fasta_Reader_Found && GoSrc.fasta_File_Found && GoSrc.fastq_Reader_Found && GoSrc.fastq_File_Found
    && C18Go.allFound

/-! ## fasta -/

/-- C06 / C18: `Reader(r)` IS `newReader(r).iter()`, for EVERY history consumer and ANY fuel. -/
theorem go_fasta_reader_eq_iter : GoSrc.fasta_Reader_Found = true → GoSrc.fasta_iter_Found = true →
    ∀ (fuel : Nat) (r : Bytes × Ending) (yield : List FaItem → Bool),
      GoSrc.fasta_Reader fuel r yield = GoSrc.fasta_iter fuel r.1 r.2 yield :=
  fun hRd hI fuel r yield => fasta_Reader_any hRd hI fuel r yield

/-- C07: the path cannot be opened — exactly ONE item, `(nil, err)`, the consumer's verdict ignored. -/
theorem go_fasta_file_open_error : GoSrc.fasta_File_Found = true →
    ∀ (o : Bytes → (Bytes × Ending) × GoErr) (fuel : Nat) (file : Bytes) (yield : List FaItem → Bool),
      (o file).2 ≠ GoErr.nil →
    GoSrc.fasta_File o fuel file yield = some [(none, (o file).2)] := by
  intro hFl o fuel file yield ho
  rw [fasta_File_spec hFl, if_pos ho]

/-- C06: the path opens — `File(file)` IS `Reader(f)`, hence `newReader(f).iter()`, on the opened stream,
for EVERY history consumer and ANY fuel. -/
theorem go_fasta_file_eq_reader : GoSrc.fasta_File_Found = true → GoSrc.fasta_Reader_Found = true →
    GoSrc.fasta_iter_Found = true →
    ∀ (o : Bytes → (Bytes × Ending) × GoErr) (fuel : Nat) (file : Bytes), (o file).2 = GoErr.nil →
    ∀ yield : List FaItem → Bool,
      GoSrc.fasta_File o fuel file yield = GoSrc.fasta_Reader fuel (o file).1 yield
      ∧ GoSrc.fasta_File o fuel file yield = GoSrc.fasta_iter fuel (o file).1.1 (o file).1.2 yield := by
  intro hFl hRd hI o fuel file ho yield
  have h := fasta_File_any hFl hRd hI o fuel file yield ho
  exact ⟨h, by rw [h, fasta_Reader_any hRd hI]⟩

/-- C11 / C18, three layers.  With `len(opened bytes) + 1` fuel `File` is never `none`, path opened or
not.  When it opened: `iter`, run under the loop body of `Reader` run under the loop body of `File`,
returns a history `inner`; the run-time-panic test of `Reader` fails on it and its replay is `inner`, which
`Reader` returns; the run-time-panic test of `File` fails on it and its replay is `inner`, which `File`
returns.  And for ANY fuel: `File` is `none` exactly when `iter` itself is (out of fuel). -/
theorem go_fasta_file_no_panic : GoSrc.fasta_File_Found = true → GoSrc.fasta_Reader_Found = true →
    GoSrc.fasta_iter_Found = true → GoSrc.fasta_read_Found = true →
    ∀ (o : Bytes → (Bytes × Ending) × GoErr) (fuel : Nat) (file : Bytes) (yield : List FaItem → Bool),
    (((o file).2 = GoErr.nil → (o file).1.1.length + 1 ≤ fuel) →
      GoSrc.fasta_File o fuel file yield ≠ none
      ∧ ((o file).2 = GoErr.nil → ∃ inner,
          GoSrc.fasta_iter fuel (o file).1.1 (o file).1.2 (fwdC (fwdC yield)) = some inner
          ∧ (runG (fwd (fwdC yield)) inner.dropLast).2 = true ∧ (runG (fwd (fwdC yield)) inner).1 = inner
          ∧ GoSrc.fasta_Reader fuel (o file).1 (fwdC yield) = some inner
          ∧ (runG (fwd yield) inner.dropLast).2 = true ∧ (runG (fwd yield) inner).1 = inner
          ∧ GoSrc.fasta_File o fuel file yield = some inner))
    ∧ ((o file).2 = GoErr.nil →
        (GoSrc.fasta_File o fuel file yield = none
          ↔ GoSrc.fasta_iter fuel (o file).1.1 (o file).1.2 yield = none)) := by
  intro hFl hRd hI hR o fuel file yield
  refine ⟨fun hf => ⟨by rw [fasta_File_law hFl hRd hI hR o fuel file hf yield]; simp, fun ho => ?_⟩,
    fun ho => by rw [(go_fasta_file_eq_reader hFl hRd hI o fuel file ho yield).2]⟩
  have hl := fasta_iter_law hI hR fuel (o file).1.1 (o file).1.2 (hf ho)
  obtain ⟨l, h1, h2, h3, h4⟩ := hl.no_panic (fwdC yield)
  obtain ⟨l', h1', h2', h3', h4'⟩ := hl.no_panic yield
  obtain rfl : l = l' := Option.some.inj (h4.symm.trans h1')
  exact ⟨l, h1, h2, h3, by rw [go_fasta_reader_eq_iter hRd hI, h4], h2', h3',
    by rw [(go_fasta_file_eq_reader hFl hRd hI o fuel file ho yield).2, h4']⟩

/-- C18, nested layers `File → Reader → iter → read`, EVERY history consumer `y`, path opened or not:
`File` returns a log `L`; with the consumer that never stops it returns `I'` (when the path opened: the
uninterrupted log of `iter` on the opened stream); `L` is a prefix of `I'`; `y` answered `true` on every
proper prefix history and an item after which `y` answered `false` is the last one: nothing is handed
over after the consumer declined; if `y` first declines at item `k + 1` of `I'`, the log is exactly the
first `k + 1` items; if it never declines before the last item, the log is `I'`; the stateful "at most `k`
items" (`k ≥ 1`) sees `I'.take k`. -/
theorem go_fasta_file_early_stop : GoSrc.fasta_File_Found = true → GoSrc.fasta_Reader_Found = true →
    GoSrc.fasta_iter_Found = true → GoSrc.fasta_read_Found = true →
    ∀ (o : Bytes → (Bytes × Ending) × GoErr) (fuel : Nat) (file : Bytes) (y : List FaItem → Bool),
      ((o file).2 = GoErr.nil → (o file).1.1.length + 1 ≤ fuel) →
    ∃ L I', GoSrc.fasta_File o fuel file y = some L
      ∧ GoSrc.fasta_File o fuel file (fun _ => true) = some I'
      ∧ ((o file).2 = GoErr.nil → GoSrc.fasta_iter fuel (o file).1.1 (o file).1.2 (fun _ => true) = some I')
      ∧ L <+: I'
      ∧ (∀ i, i + 1 < L.length → y (L.take (i + 1)) = true)
      ∧ (∀ i, i < L.length → y (L.take (i + 1)) = false → i + 1 = L.length)
      ∧ (∀ k, k < I'.length → (∀ j, j < k → y (I'.take (j + 1)) = true) → y (I'.take (k + 1)) = false →
          L = I'.take (k + 1) ∧ L.length = k + 1)
      ∧ ((∀ j, j + 1 < I'.length → y (I'.take (j + 1)) = true) → L = I')
      ∧ (∀ k, 1 ≤ k → GoSrc.fasta_File o fuel file (fun l => decide (l.length < k)) = some (I'.take k)) := by
  intro hFl hRd hI hR o fuel file y hf
  exact (fasta_File_law hFl hRd hI hR o fuel file hf).early_stop _ (fun hall ho => by
    rw [← (go_fasta_file_eq_reader hFl hRd hI o fuel file ho _).2, hall]) y

/-- C01 / C06: the path opens on the bytes `src` (then `io.EOF` or a read error `e`); with the consumer
that never stops `File` hands over — read back as model items — exactly the model decode
`Fasta.decodeSrc e src`. -/
theorem go_fasta_file_all : GoSrc.fasta_File_Found = true → GoSrc.fasta_Reader_Found = true →
    GoSrc.fasta_iter_Found = true → GoSrc.fasta_read_Found = true →
    ∀ (o : Bytes → (Bytes × Ending) × GoErr) (fuel : Nat) (file : Bytes), (o file).2 = GoErr.nil →
      (o file).1.1.length + 1 ≤ fuel →
    (GoSrc.fasta_File o fuel file (fun _ => true)).map (·.map faItem)
      = some (Fasta.decodeSrc (o file).1.2 (o file).1.1) := by
  intro hFl hRd hI hR o fuel file ho hf
  rw [(go_fasta_file_eq_reader hFl hRd hI o fuel file ho _).2]
  exact C18Go.go_fasta_iter_all hI hR fuel _ _ hf

/-! ## fastq -/

/-- C06 / C18: `Reader(r)` IS `newReader(r).iter()`, for EVERY history consumer and ANY fuel. -/
theorem go_fastq_reader_eq_iter : GoSrc.fastq_Reader_Found = true → GoSrc.fastq_iter_Found = true →
    ∀ (fuel : Nat) (r : List Bytes × Ending) (yield : List FqItem → Bool),
      GoSrc.fastq_Reader fuel r yield = GoSrc.fastq_iter fuel r.1 r.2 yield :=
  fun hRd hI fuel r yield => fastq_Reader_any hRd hI fuel r yield

/-- C07: the path cannot be opened — exactly ONE item, `(nil, err)`, the consumer's verdict ignored. -/
theorem go_fastq_file_open_error : GoSrc.fastq_File_Found = true →
    ∀ (o : Bytes → (List Bytes × Ending) × GoErr) (fuel : Nat) (file : Bytes) (yield : List FqItem → Bool),
      (o file).2 ≠ GoErr.nil →
    GoSrc.fastq_File o fuel file yield = some [(none, (o file).2)] := by
  intro hFl o fuel file yield ho
  rw [fastq_File_spec hFl, if_pos ho]

/-- C06: the path opens — `File(file)` IS `Reader(f)`, hence `newReader(f).iter()`, on the opened stream,
for EVERY history consumer and ANY fuel. -/
theorem go_fastq_file_eq_reader : GoSrc.fastq_File_Found = true → GoSrc.fastq_Reader_Found = true →
    GoSrc.fastq_iter_Found = true →
    ∀ (o : Bytes → (List Bytes × Ending) × GoErr) (fuel : Nat) (file : Bytes), (o file).2 = GoErr.nil →
    ∀ yield : List FqItem → Bool,
      GoSrc.fastq_File o fuel file yield = GoSrc.fastq_Reader fuel (o file).1 yield
      ∧ GoSrc.fastq_File o fuel file yield = GoSrc.fastq_iter fuel (o file).1.1 (o file).1.2 yield := by
  intro hFl hRd hI o fuel file ho yield
  have h := fastq_File_any hFl hRd hI o fuel file yield ho
  exact ⟨h, by rw [h, fastq_Reader_any hRd hI]⟩

/-- C11 / C18, three layers (as `go_fasta_file_no_panic`; fuel: `number of line tokens + 1`). -/
theorem go_fastq_file_no_panic : GoSrc.fastq_File_Found = true → GoSrc.fastq_Reader_Found = true →
    GoSrc.fastq_iter_Found = true → GoSrc.fastq_read_Found = true →
    ∀ (o : Bytes → (List Bytes × Ending) × GoErr) (fuel : Nat) (file : Bytes) (yield : List FqItem → Bool),
    (((o file).2 = GoErr.nil → (o file).1.1.length + 1 ≤ fuel) →
      GoSrc.fastq_File o fuel file yield ≠ none
      ∧ ((o file).2 = GoErr.nil → ∃ inner,
          GoSrc.fastq_iter fuel (o file).1.1 (o file).1.2 (fwdC (fwdC yield)) = some inner
          ∧ (runG (fwd (fwdC yield)) inner.dropLast).2 = true ∧ (runG (fwd (fwdC yield)) inner).1 = inner
          ∧ GoSrc.fastq_Reader fuel (o file).1 (fwdC yield) = some inner
          ∧ (runG (fwd yield) inner.dropLast).2 = true ∧ (runG (fwd yield) inner).1 = inner
          ∧ GoSrc.fastq_File o fuel file yield = some inner))
    ∧ ((o file).2 = GoErr.nil →
        (GoSrc.fastq_File o fuel file yield = none
          ↔ GoSrc.fastq_iter fuel (o file).1.1 (o file).1.2 yield = none)) := by
  intro hFl hRd hI hR o fuel file yield
  refine ⟨fun hf => ⟨by rw [fastq_File_law hFl hRd hI hR o fuel file hf yield]; simp, fun ho => ?_⟩,
    fun ho => by rw [(go_fastq_file_eq_reader hFl hRd hI o fuel file ho yield).2]⟩
  have hl := fastq_iter_law hI hR fuel (o file).1.1 (o file).1.2 (hf ho)
  obtain ⟨l, h1, h2, h3, h4⟩ := hl.no_panic (fwdC yield)
  obtain ⟨l', h1', h2', h3', h4'⟩ := hl.no_panic yield
  obtain rfl : l = l' := Option.some.inj (h4.symm.trans h1')
  exact ⟨l, h1, h2, h3, by rw [go_fastq_reader_eq_iter hRd hI, h4], h2', h3',
    by rw [(go_fastq_file_eq_reader hFl hRd hI o fuel file ho yield).2, h4']⟩

/-- C18, nested layers `File → Reader → iter → read` (clauses as in `go_fasta_file_early_stop`). -/
theorem go_fastq_file_early_stop : GoSrc.fastq_File_Found = true → GoSrc.fastq_Reader_Found = true →
    GoSrc.fastq_iter_Found = true → GoSrc.fastq_read_Found = true →
    ∀ (o : Bytes → (List Bytes × Ending) × GoErr) (fuel : Nat) (file : Bytes) (y : List FqItem → Bool),
      ((o file).2 = GoErr.nil → (o file).1.1.length + 1 ≤ fuel) →
    ∃ L I', GoSrc.fastq_File o fuel file y = some L
      ∧ GoSrc.fastq_File o fuel file (fun _ => true) = some I'
      ∧ ((o file).2 = GoErr.nil → GoSrc.fastq_iter fuel (o file).1.1 (o file).1.2 (fun _ => true) = some I')
      ∧ L <+: I'
      ∧ (∀ i, i + 1 < L.length → y (L.take (i + 1)) = true)
      ∧ (∀ i, i < L.length → y (L.take (i + 1)) = false → i + 1 = L.length)
      ∧ (∀ k, k < I'.length → (∀ j, j < k → y (I'.take (j + 1)) = true) → y (I'.take (k + 1)) = false →
          L = I'.take (k + 1) ∧ L.length = k + 1)
      ∧ ((∀ j, j + 1 < I'.length → y (I'.take (j + 1)) = true) → L = I')
      ∧ (∀ k, 1 ≤ k → GoSrc.fastq_File o fuel file (fun l => decide (l.length < k)) = some (I'.take k)) := by
  intro hFl hRd hI hR o fuel file y hf
  exact (fastq_File_law hFl hRd hI hR o fuel file hf).early_stop _ (fun hall ho => by
    rw [← (go_fastq_file_eq_reader hFl hRd hI o fuel file ho _).2, hall]) y

/-- C02 / C06: the path opens on the line tokens `ls`; with the consumer that never stops `File` hands
over — read back as model items — exactly the model's `Fastq.fromLines e ls`; when `ls` are the
`bufio.ScanLines` tokens of the bytes `x`, that is the model decode `Fastq.decodeSrc e x`. -/
theorem go_fastq_file_all : GoSrc.fastq_File_Found = true → GoSrc.fastq_Reader_Found = true →
    GoSrc.fastq_iter_Found = true → GoSrc.fastq_read_Found = true →
    ∀ (o : Bytes → (List Bytes × Ending) × GoErr) (fuel : Nat) (file : Bytes), (o file).2 = GoErr.nil →
      (o file).1.1.length + 1 ≤ fuel →
    (GoSrc.fastq_File o fuel file (fun _ => true)).map (·.map fqItem)
      = some (Fastq.fromLines (o file).1.2 (o file).1.1)
    ∧ (∀ x : Bytes, (o file).1.1 = scanLines x →
        (GoSrc.fastq_File o fuel file (fun _ => true)).map (·.map fqItem)
          = some (Fastq.decodeSrc (o file).1.2 x)) := by
  intro hFl hRd hI hR o fuel file ho hf
  have h1 : (GoSrc.fastq_File o fuel file (fun _ => true)).map (·.map fqItem)
      = some (Fastq.fromLines (o file).1.2 (o file).1.1) := by
    rw [(go_fastq_file_eq_reader hFl hRd hI o fuel file ho _).2]
    exact C18Go.go_fastq_iter_all hI hR fuel _ _ hf
  refine ⟨h1, fun x hx => ?_⟩
  rw [h1, hx]; rfl

/-! ## Concrete runs of the translated closures -/

/-- the flags -/
example : allFound = false ∨ (GoSrc.fasta_Reader_Found = true ∧ GoSrc.fasta_File_Found = true
    ∧ GoSrc.fastq_Reader_Found = true ∧ GoSrc.fastq_File_Found = true ∧ C18Go.allFound = true) := by decide

/-- `a.fa`, `b.fa`, `a.fq`, `x` -/
def nameFa : Bytes := [97, 46, 102, 97]
def nameFb : Bytes := [98, 46, 102, 97]
def nameFq : Bytes := [97, 46, 102, 113]
def nameX : Bytes := [120]

/-- `>ab<LF>AC<LF>>c<LF>A` -/
def exFa : Bytes := [62, 97, 98, 10, 65, 67, 10, 62, 99, 10, 65]

/-- a toy `aio.Open`: `a.fa` opens on `exFa`; `b.fa` on the same bytes but the source FAILS after them;
any other name cannot be opened -/
def openFa (name : Bytes) : (Bytes × Ending) × GoErr :=
  if name = nameFa then ((exFa, .eof), GoErr.nil)
  else if name = nameFb then ((exFa, .fail), GoErr.nil)
  else (([], .eof), GoErr.other)

/-- the hypotheses of the theorems on it -/
example : (openFa nameX).2 ≠ GoErr.nil ∧ (openFa nameFa).2 = GoErr.nil
    ∧ (openFa nameFa).1.1.length + 1 ≤ 12
    ∧ ((openFa nameX).2 = GoErr.nil → (openFa nameX).1.1.length + 1 ≤ 0) := by decide

set_option synthInstance.maxSize 4096 in
/-- `fasta.Reader` and `fasta.File("a.fa")` read completely: the two records (what `iter` returns);
stopped after one item (a consumer that always declines; the stateful "at most one"); `iter` under the
two nested loop bodies handed over ONE item too; `"x"` cannot be opened: ONE error item, whatever the
consumer answers, even without fuel; a failing stream: the complete record, then the error item; too
little fuel: `none` -/
example : allFound = false ∨ (
    GoSrc.fasta_Reader 12 (exFa, .eof) (fun _ => true)
      = some [(some ([97, 98], [65, 67]), GoErr.nil), (some ([99], [65]), GoErr.nil)]
    ∧ GoSrc.fasta_File openFa 12 nameFa (fun _ => true)
      = some [(some ([97, 98], [65, 67]), GoErr.nil), (some ([99], [65]), GoErr.nil)]
    ∧ GoSrc.fasta_Reader 12 (exFa, .eof) (fun _ => false) = some [(some ([97, 98], [65, 67]), GoErr.nil)]
    ∧ GoSrc.fasta_File openFa 12 nameFa (fun _ => false) = some [(some ([97, 98], [65, 67]), GoErr.nil)]
    ∧ GoSrc.fasta_File openFa 12 nameFa (fun l => decide (l.length < 1))
      = some [(some ([97, 98], [65, 67]), GoErr.nil)]
    ∧ GoSrc.fasta_iter 12 exFa .eof (fwdC (fwdC (fun _ => false)))
      = some [(some ([97, 98], [65, 67]), GoErr.nil)]
    ∧ GoSrc.fasta_File openFa 0 nameX (fun _ => false) = some [(none, GoErr.other)]
    ∧ GoSrc.fasta_File openFa 0 nameX (fun _ => true) = some [(none, GoErr.other)]
    ∧ GoSrc.fasta_File openFa 12 nameFb (fun _ => true)
      = some [(some ([97, 98], [65, 67]), GoErr.nil), (none, GoErr.other)]
    ∧ GoSrc.fasta_File openFa 2 nameFa (fun _ => true) = none
    ∧ GoSrc.fasta_iter 2 exFa .eof (fun _ => true) = none) := by
  decide +kernel

/-- the model decode of the same bytes (`go_fasta_file_all`) -/
example : Fasta.decodeSrc .eof exFa = [.ok ⟨[97, 98], [65, 67]⟩, .ok ⟨[99], [65]⟩] := by decide +kernel

/-- the line tokens `@r`, `AC`, `+`, `II`, `@`, ``, `+@`, `` : two records -/
def exFq : List Bytes := [[64, 114], [65, 67], [43], [73, 73], [64], [], [43, 64], []]

/-- a toy `aio.Open` for FASTQ: `a.fq` opens on `exFq`, any other name fails (absurdly with `io.EOF`: it
is still reported) -/
def openFq (name : Bytes) : (List Bytes × Ending) × GoErr :=
  if name = nameFq then ((exFq, .eof), GoErr.nil) else (([], .eof), GoErr.eof)

example : (openFq nameX).2 ≠ GoErr.nil ∧ (openFq nameFq).2 = GoErr.nil
    ∧ (openFq nameFq).1.1.length + 1 ≤ 9 := by decide

set_option synthInstance.maxSize 4096 in
/-- `fastq.Reader` and `fastq.File("a.fq")` read completely: the two records; stopped after one item; the
stateful "at most two"; `"x"`: ONE error item carrying the error of `aio.Open`; a bad `+` line: one error
item and the end; too little fuel: `none` -/
example : allFound = false ∨ (
    GoSrc.fastq_Reader 9 (exFq, .eof) (fun _ => true)
      = some [(some ([114], [65, 67], [73, 73]), GoErr.nil), (some ([], [], []), GoErr.nil)]
    ∧ GoSrc.fastq_File openFq 9 nameFq (fun _ => true)
      = some [(some ([114], [65, 67], [73, 73]), GoErr.nil), (some ([], [], []), GoErr.nil)]
    ∧ GoSrc.fastq_Reader 9 (exFq, .eof) (fun _ => false) = some [(some ([114], [65, 67], [73, 73]), GoErr.nil)]
    ∧ GoSrc.fastq_File openFq 9 nameFq (fun _ => false) = some [(some ([114], [65, 67], [73, 73]), GoErr.nil)]
    ∧ GoSrc.fastq_File openFq 9 nameFq (fun l => decide (l.length < 1))
      = some [(some ([114], [65, 67], [73, 73]), GoErr.nil)]
    ∧ GoSrc.fastq_File openFq 9 nameFq (fun l => decide (l.length < 2))
      = some [(some ([114], [65, 67], [73, 73]), GoErr.nil), (some ([], [], []), GoErr.nil)]
    ∧ GoSrc.fastq_File openFq 0 nameX (fun _ => false) = some [(none, GoErr.eof)]
    ∧ GoSrc.fastq_File openFq 0 nameX (fun _ => true) = some [(none, GoErr.eof)]
    ∧ GoSrc.fastq_Reader 9 ([[64, 114], [65, 67], [45], [73, 73]], .eof) (fun _ => true)
      = some [(none, GoErr.other)]
    ∧ GoSrc.fastq_File openFq 1 nameFq (fun _ => true) = none) := by
  decide +kernel

/-- the model's records for the same tokens (`go_fastq_file_all`) -/
example : Fastq.fromLines .eof exFq = [.ok ⟨[114], [65, 67], [73, 73]⟩, .ok ⟨[], [], []⟩] := by decide

/-- an instance of the hypotheses of clause (c) of the early-stop theorems with `k = 1` -/
example : (fun l : List FaItem => decide (l.length < 2))
      ([(some ([97, 98], [65, 67]), GoErr.nil), (some ([99], [65]), GoErr.nil)].take 1) = true
    ∧ (fun l : List FaItem => decide (l.length < 2))
      ([(some ([97, 98], [65, 67]), GoErr.nil), (some ([99], [65]), GoErr.nil)].take 2) = false := by decide

end Bio.Props.C06File2Go

/-
  C05 (newick tokenizer) for the Go SOURCE TEXT: `(*reader).nextToken` of formats/newick/newick.go, as
  translated on every run into `Bio.Generated.GoSrc.newick_nextToken` (the labelled `for { }` loop
  bounded by `fuel`, `r.r` as a `ByteRd` used through `ReadByte`/`UnreadByte`, `r.b` as the bytes
  written since `Reset`), IS the hand-written tokenizer `Newick.nextToken` that `readLoop` /
  `readTree` / `decodeSrc` of `Bio.Model.Newick` (and so C05, C06) are built on — for EVERY input,
  both endings of the byte source, every reader history (`last`, buffer contents).
  Guarded by the translator's `<f>_Found` flag (see `Bio.Lemmas.GoSrc`).
-/
import Bio.Lemmas.GoSrcNewickTok
namespace Bio.Props.C05TokGo
open Bio Bio.GoRt Bio.Generated Bio.GoSrcLemmas Bio.GoSrcLemmas.NwkTok

/-- every translator flag this file depends on; the non-vacuity examples below are stated as
`allFound = false ∨ …` so that a source the translator no longer recognises is not an alarm -/
def allFound : Bool := GoSrc.newick_nextToken_Found

/-- One call of the translated `nextToken` on the remaining input `x` of a source ending with `e`,
whatever `UnreadByte` would put back (`last`) and whatever the buffer holds (`rb`: it is reset),
with `x.length + 1` loop iterations available, is the model's `Newick.nextToken e x`:
a token ↦ that token, `nil`, and a reader whose remaining input is EXACTLY the model's (`last'` and
the buffer `rb'` afterwards are immaterial to the next call — `go_nextToken_delivery` — and are
given exactly by `NwkTok.sGo`, `newick_nextToken_eq`); the end of the input ↦ `("", io.EOF)` with
nothing left; an error (a read error, or `unexpected ' after …`) ↦ `""` and an error that is
neither `nil` nor `io.EOF`. -/
theorem go_nextToken : GoSrc.newick_nextToken_Found = true →
    ∀ (x : Bytes) (e : Ending) (last : Option UInt8) (rb : Bytes) (fuel : Nat), x.length + 1 ≤ fuel →
      match Newick.nextToken e x with
      | .tok t rest => ∃ last' rb', GoSrc.newick_nextToken fuel ⟨last, x, e⟩ rb
          = some (t, GoErr.nil, ⟨last', rest, e⟩, rb')
      | .eof => GoSrc.newick_nextToken fuel ⟨last, x, e⟩ rb = some ([], GoErr.eof, ⟨none, [], e⟩, [])
      | .err => ∃ last' rest' rb', GoSrc.newick_nextToken fuel ⟨last, x, e⟩ rb
          = some ([], GoErr.other, ⟨last', rest', e⟩, rb') :=
  fun hF x e last rb fuel hf =>
    newick_nextToken_model hF x e last rb fuel (Nat.le_trans (sCost_le x) hf)

/-- … and when the model finds a token, (bytes consumed) + 1 iterations are enough, however long
the rest of the input is. -/
theorem go_nextToken_tok_fuel : GoSrc.newick_nextToken_Found = true →
    ∀ (x : Bytes) (e : Ending) (t rest : Bytes), Newick.nextToken e x = .tok t rest →
    ∀ (last : Option UInt8) (rb : Bytes) (fuel : Nat), x.length - rest.length + 1 ≤ fuel →
      ∃ last' rb', GoSrc.newick_nextToken fuel ⟨last, x, e⟩ rb
        = some (t, GoErr.nil, ⟨last', rest, e⟩, rb') := by
  intro hF x e t rest h last rb fuel hf
  have hc := sCost_tight e x t rest h
  have := newick_nextToken_model hF x e last rb fuel (by omega)
  simpa only [h] using this

/-- The bound `x.length + 1` cannot be improved in general: a token of ordinary bytes that runs to
the end of the input needs one iteration per byte and one for the failed `ReadByte`; with fewer the
translation reports `none` (no claim). -/
theorem go_nextToken_fuel_sharp : GoSrc.newick_nextToken_Found = true →
    ∀ (x : Bytes), (∀ b ∈ x, Newick.isStruct b = false ∧ Newick.isWS b = false ∧ b ≠ 39) →
    ∀ (e : Ending) (last : Option UInt8) (rb : Bytes) (fuel : Nat), fuel ≤ x.length →
      GoSrc.newick_nextToken fuel ⟨last, x, e⟩ rb = none := by
  intro hF x hx e last rb fuel hf
  exact newick_nextToken_short hF fuel last x e rb (by rw [sCost_clean x hx]; omega)

/-- The translated `nextToken` never panics and never runs out of `x.length + 1` iterations. -/
theorem go_nextToken_no_panic : GoSrc.newick_nextToken_Found = true →
    ∀ (r : ByteRd) (rb : Bytes) (fuel : Nat), r.rest.length + 1 ≤ fuel →
      (GoSrc.newick_nextToken fuel r rb).isSome = true := by
  intro hF r rb fuel hf
  obtain ⟨last, x, e⟩ := r
  rw [newick_nextToken_eq hF fuel last x e rb (Nat.le_trans (sCost_le x) hf)]
  rfl

/-- Progress: whenever the translated `nextToken` returns a token (error `nil`), the token is
non-empty, the remaining input is strictly shorter, and the source's ending is unchanged — so
calling it again and again terminates.  Otherwise the returned token is empty. -/
theorem go_nextToken_progress : GoSrc.newick_nextToken_Found = true →
    ∀ (x : Bytes) (e : Ending) (last : Option UInt8) (rb : Bytes) (fuel : Nat), x.length + 1 ≤ fuel →
      ∃ t err r' rb', GoSrc.newick_nextToken fuel ⟨last, x, e⟩ rb = some (t, err, r', rb') ∧
        r'.ending = e ∧
        (err = GoErr.nil → t ≠ [] ∧ r'.rest.length < x.length ∧ Newick.nextToken e x = .tok t r'.rest) ∧
        (err ≠ GoErr.nil → t = []) := by
  intro hF x e last rb fuel hf
  have hm := go_nextToken hF x e last rb fuel hf
  cases hn : Newick.nextToken e x with
  | eof => simp only [hn] at hm; exact ⟨_, _, _, _, hm, rfl, by simp, by simp⟩
  | err =>
    simp only [hn] at hm
    obtain ⟨l', r', rb', hm⟩ := hm
    exact ⟨_, _, _, _, hm, rfl, by simp, by simp⟩
  | tok t rest =>
    simp only [hn] at hm
    obtain ⟨l', rb', hm⟩ := hm
    exact ⟨_, _, _, _, hm, rfl,
      fun _ => ⟨Newick.nextToken_tok_ne_nil e x t rest hn, Newick.nextToken_lt e x t rest hn, rfl⟩, by simp⟩

/-- The token stream: the translated `nextToken` called again and again on the same receiver (reader
state and buffer carried from call to call, as `read()` does) until it reports `io.EOF` or an error
(`NwkTok.goTokens`, at most `fuel` calls of at most `fuel` iterations each) yields exactly the
tokens obtained by iterating the model's `Newick.nextToken` (`NwkTok.modelTokens`), ended the same
way — every input, both endings. -/
theorem go_tokens : GoSrc.newick_nextToken_Found = true →
    ∀ (e : Ending) (x : Bytes) (fuel : Nat), x.length + 1 ≤ fuel →
      goTokens fuel e x = some (modelTokens e x) :=
  fun hF e x fuel hf => goLoop_model hF e fuel fuel x none [] hf hf

/-- … from any reader state: the stream only depends on the remaining input and the ending. -/
theorem go_tokens_from : GoSrc.newick_nextToken_Found = true →
    ∀ (e : Ending) (x : Bytes) (last : Option UInt8) (rb : Bytes) (calls fuel : Nat),
      x.length + 1 ≤ calls → x.length + 1 ≤ fuel →
      goLoop fuel calls ⟨last, x, e⟩ rb = some (modelTokens e x) :=
  fun hF e x last rb calls fuel hc hf => goLoop_model hF e fuel calls x last rb hc hf

/-- Delivery independence at the tokenizer: the result of a call — token, error, the reader and the
buffer afterwards, even running out of fuel — does not depend on the reader's history (what
`UnreadByte` would put back, what the buffer holds): two states with the same remaining input and
the same ending behave identically, with any fuel. -/
theorem go_nextToken_delivery : GoSrc.newick_nextToken_Found = true →
    ∀ (fuel : Nat) (x : Bytes) (e : Ending) (last₁ last₂ : Option UInt8) (rb₁ rb₂ : Bytes),
      GoSrc.newick_nextToken fuel ⟨last₁, x, e⟩ rb₁ = GoSrc.newick_nextToken fuel ⟨last₂, x, e⟩ rb₂ :=
  fun hF fuel x e l1 l2 rb1 rb2 => newick_nextToken_indep hF fuel x e l1 l2 rb1 rb2

/-! ## Non-vacuity -/

example : allFound = false ∨ (GoSrc.newick_nextToken_Found = true) := by decide +kernel

-- `'a''b':1` : a quoted name with a doubled apostrophe, ended (and the ':' put back) by ':'
example : allFound = false ∨ (
    Newick.nextToken .eof [39, 97, 39, 39, 98, 39, 58, 49] = .tok [39, 97, 39, 39, 98, 39] [58, 49]
    ∧ GoSrc.newick_nextToken 9 ⟨some 7, [39, 97, 39, 39, 98, 39, 58, 49], .eof⟩ [1, 2]
      = some ([39, 97, 39, 39, 98, 39], GoErr.nil, ⟨none, [58, 49], .eof⟩, [39, 97, 39, 39, 98, 39])
    -- (bytes consumed) + 1 = 7 iterations are enough, 6 are not
    ∧ GoSrc.newick_nextToken 7 ⟨none, [39, 97, 39, 39, 98, 39, 58, 49], .eof⟩ []
      = some ([39, 97, 39, 39, 98, 39], GoErr.nil, ⟨none, [58, 49], .eof⟩, [39, 97, 39, 39, 98, 39])
    ∧ GoSrc.newick_nextToken 6 ⟨none, [39, 97, 39, 39, 98, 39, 58, 49], .eof⟩ [] = none) := by decide +kernel

-- `ab(c` : a bare token ended by '(' (put back); then `(` itself
example : allFound = false ∨ (
    Newick.nextToken .fail [97, 98, 40, 99] = .tok [97, 98] [40, 99]
    ∧ GoSrc.newick_nextToken 5 ⟨none, [97, 98, 40, 99], .fail⟩ []
      = some ([97, 98], GoErr.nil, ⟨none, [40, 99], .fail⟩, [97, 98])
    ∧ GoSrc.newick_nextToken 3 ⟨none, [40, 99], .fail⟩ [97, 98]
      = some ([40], GoErr.nil, ⟨some 40, [99], .fail⟩, [])) := by decide +kernel

-- ` \n\t\rab cd` : whitespace skipped, the token ended by (and consuming) a space
example : allFound = false ∨ (
    Newick.nextToken .eof [32, 10, 9, 13, 97, 98, 32, 99, 100] = .tok [97, 98] [99, 100]
    ∧ GoSrc.newick_nextToken 10 ⟨none, [32, 10, 9, 13, 97, 98, 32, 99, 100], .eof⟩ []
      = some ([97, 98], GoErr.nil, ⟨some 32, [99, 100], .eof⟩, [97, 98])
    -- only whitespace: `io.EOF`
    ∧ Newick.nextToken .eof [32, 10] = .eof
    ∧ GoSrc.newick_nextToken 3 ⟨none, [32, 10], .eof⟩ [5] = some ([], GoErr.eof, ⟨none, [], .eof⟩, [])) := by
  decide +kernel

-- `'ab` then EOF inside the quoted token: the token is returned; on a failing source: the error
example : allFound = false ∨ (
    Newick.nextToken .eof [39, 97, 98] = .tok [39, 97, 98] []
    ∧ GoSrc.newick_nextToken 4 ⟨none, [39, 97, 98], .eof⟩ []
      = some ([39, 97, 98], GoErr.nil, ⟨none, [], .eof⟩, [39, 97, 98])
    ∧ Newick.nextToken .fail [39, 97, 98] = .err
    ∧ GoSrc.newick_nextToken 4 ⟨none, [39, 97, 98], .fail⟩ []
      = some ([], GoErr.other, ⟨none, [], .fail⟩, [39, 97, 98])) := by decide +kernel

-- `ab` then a read error inside the bare token; `ab'c`: the syntax error `unexpected ' after "ab"`
example : allFound = false ∨ (
    Newick.nextToken .fail [97, 98] = .err
    ∧ GoSrc.newick_nextToken 3 ⟨none, [97, 98], .fail⟩ [] = some ([], GoErr.other, ⟨none, [], .fail⟩, [97, 98])
    ∧ GoSrc.newick_nextToken 2 ⟨none, [97, 98], .fail⟩ [] = none
    ∧ Newick.nextToken .eof [97, 98, 39, 99] = .err
    ∧ GoSrc.newick_nextToken 5 ⟨none, [97, 98, 39, 99], .eof⟩ []
      = some ([], GoErr.other, ⟨some 39, [99], .eof⟩, [97, 98])) := by decide +kernel

-- hypotheses of `go_nextToken_tok_fuel` / `go_nextToken_fuel_sharp`
example : allFound = false ∨ (GoSrc.newick_nextToken_Found = true
    ∧ Newick.nextToken .eof [97, 98, 40, 99, 100, 101] = .tok [97, 98] [40, 99, 100, 101]
    ∧ [97, 98, 40, 99, 100, 101].length - [40, 99, 100, 101].length + 1 ≤ 3
    ∧ (∀ b ∈ ([97, 98, 99] : Bytes), Newick.isStruct b = false ∧ Newick.isWS b = false ∧ b ≠ 39)
    ∧ 3 ≤ ([97, 98, 99] : Bytes).length) := by decide +kernel

-- the token stream of `(a:1,'b c')x;` and of `(a 'b` on a failing source
example : allFound = false ∨ (
    goTokens 15 .eof [40, 97, 58, 49, 44, 39, 98, 32, 99, 39, 41, 120, 59, 10]
      = some ([[40], [97], [58], [49], [44], [39, 98, 32, 99, 39], [41], [120], [59]], GoErr.eof)
    ∧ goTokens 6 .fail [40, 97, 32, 39, 98] = some ([[40], [97]], GoErr.other)
    ∧ goTokens 5 .eof [97, 98, 39, 99] = some ([], GoErr.other)) := by decide +kernel

end Bio.Props.C05TokGo

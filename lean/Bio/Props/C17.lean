/-
  Property C17 (mash), discrete part: the sketch is the bottom-`n` of the
  distinct hash values of the canonical k-mers (descending); invariance under
  order, partition over calls, letter case and strand; smaller sketch = tail;
  the merge walk `intersect` on full sketches.  The real-valued formula is in
  `Bio/Props/C17Real.lean`.  Parametric in the hash `h` and the complement
  table `tbl`.
-/
import Bio.Lemmas.Mash
import Bio.Props.C12
namespace Bio.Mash
open Sequtil

def CompOK (tbl : List UInt8) : Prop :=
  ∀ b c, comp tbl b = some c → comp tbl c = some b

def CaseOK (tbl : List UInt8) : Prop :=
  ∀ b, comp tbl (upperByte b) = (comp tbl b).map upperByte

theorem compOK_of_tableOK {tbl : List UInt8} (h : compTableOK tbl = true) : CompOK tbl := comp_involutive h

theorem caseOK_of_tableOK {tbl : List UInt8} (h : compTableOK tbl = true) : CaseOK tbl := comp_upperByte h

/-! ### Example data for the non-vacuity checks -/

/-- The complement table of /repo (`aAcCgGtTnN`, everything else 0 = panic). -/
def exTbl : List UInt8 :=
  List.replicate 65 0 ++ [84, 0, 71, 0, 0, 0, 67, 0, 0, 0, 0, 0, 0, 78, 0, 0, 0, 0, 0, 65] ++
  List.replicate 12 0 ++ [116, 0, 103, 0, 0, 0, 99, 0, 0, 0, 0, 0, 0, 110, 0, 0, 0, 0, 0, 97] ++
  List.replicate 139 0

/-- A small concrete hash. -/
def exHash (b : Bytes) : Nat := b.foldl (fun acc x => (acc * 31 + x.toNat) % 101) 7

theorem exTbl_ok : compTableOK exTbl = true := by
  rw [compTableOK, ← eq_of_beq exCompTable_ok]; decide +kernel

example : exTbl.length = 256 := by decide +kernel
example : CompOK exTbl := compOK_of_tableOK exTbl_ok
example : CaseOK exTbl := caseOK_of_tableOK exTbl_ok

/-! ## 1. The sketch is the bottom-`n` -/

/-- `Sequences(n,k,seqs)` = for the hashed canonical k-mers `ks.map h`, the `n`
smallest distinct values in descending order (`bottomN` is defined from
`dedup`/`sortAsc`/`take`/`reverse`, independently of `push`). Holds for all `n`
(also `n = 0`). -/
theorem sketch_is_bottom_n (tbl : List UInt8) (h : Bytes → Nat) (n k : Nat) (seqs : List Bytes) :
    sketch tbl h n k seqs = (kmers tbl k seqs).map (fun ks => bottomN n (ks.map h)) :=
  sketch_eq tbl h n k seqs

/-- The fold of `push` itself, for any list of hash values. -/
theorem C17_push_fold (n : Nat) (l : List Nat) : l.foldl (push n) [] = bottomN n l :=
  foldl_push_nil n l

/-- `bottomN` is what it says: strictly descending, … -/
theorem C17_bottomN_desc (n : Nat) (l : List Nat) : (bottomN n l).Pairwise (· > ·) :=
  SD_bottomN n l

/-- … of length `min n (number of distinct values)` (`dedup l` lists every value of `l` once), … -/
theorem C17_bottomN_length (n : Nat) (l : List Nat) :
    (bottomN n l).length = min n (dedup l).length ∧ (dedup l).Nodup ∧ ∀ x, x ∈ dedup l ↔ x ∈ l :=
  ⟨length_bottomN n l, nodup_dedup l, fun _ => mem_dedup⟩

/-- … and contains exactly the values of `l` with fewer than `n` distinct values below them. -/
theorem C17_bottomN_mem (n x : Nat) (l : List Nat) :
    x ∈ bottomN n l ↔ x ∈ l ∧ ((dedup l).filter (· < x)).length < n :=
  mem_bottomN

example : sketch exTbl exHash 3 2 [[65, 67, 103, 116, 65], [116, 116, 65]] = some [22, 20, 3] := by
  decide +kernel
example : bottomN 3 [5, 1, 9, 1, 3, 7, 3] = [5, 3, 1] := by decide
example : [5, 1, 9, 1, 3, 7, 3].foldl (push 3) [] = [5, 3, 1] := by decide

/-! ## 2. Invariances -/

/-- (a) Reordering the sequences. -/
theorem C17_perm (tbl : List UInt8) (h : Bytes → Nat) (n k : Nat) {seqs seqs' : List Bytes}
    (hp : seqs.Perm seqs') : sketch tbl h n k seqs = sketch tbl h n k seqs' :=
  sketch_perm tbl h n k hp

example : ([[65, 67, 103], [116, 116, 65]] : List Bytes).Perm [[116, 116, 65], [65, 67, 103]] :=
  List.Perm.swap _ _ _

/-- (a') More: only the set of sequences matters. -/
theorem C17_set (tbl : List UInt8) (h : Bytes → Nat) (n k : Nat) {seqs seqs' : List Bytes}
    (hm : ∀ s, s ∈ seqs ↔ s ∈ seqs') : sketch tbl h n k seqs = sketch tbl h n k seqs' :=
  sketch_congr_mem tbl h n k hm

example : ∀ s, s ∈ ([[65, 67], [65, 67], [71]] : List Bytes) ↔ s ∈ ([[71], [65, 67]] : List Bytes) := by
  intro s; simp [or_comm]

/-- (b) Building incrementally with `Add` = one call on all sequences (re-partitioning over
calls). `none` (panic) propagates. -/
theorem C17_incremental (tbl : List UInt8) (h : Bytes → Nat) (n k : Nat) (xs ys : List Bytes) :
    (sketch tbl h n k xs).bind (fun s => addTo tbl h n k s ys) = sketch tbl h n k (xs ++ ys) :=
  sketch_append tbl h n k xs ys

example : (sketch exTbl exHash 3 2 [[65, 67, 103, 116, 65]]).bind
    (fun s => addTo exTbl exHash 3 2 s [[116, 116, 65]]) = some [22, 20, 3] := by decide +kernel

/-- (c) Letter case: sequences that agree after upper-casing give the same sketch. -/
theorem C17_case_congr (tbl : List UInt8) (h : Bytes → Nat) (n k : Nat) {seqs seqs' : List Bytes}
    (e : seqs.map upper = seqs'.map upper) : sketch tbl h n k seqs = sketch tbl h n k seqs' :=
  sketch_congr_upper tbl h n k e

theorem C17_case (tbl : List UInt8) (h : Bytes → Nat) (n k : Nat) (seqs : List Bytes) :
    sketch tbl h n k (seqs.map upper) = sketch tbl h n k seqs :=
  sketch_map_upper tbl h n k seqs

example : ([[97, 67, 103]] : List Bytes).map upper = ([[65, 99, 71]] : List Bytes).map upper := by
  decide

/-- (d) Strand symmetry of canonical k-mers (also C12's last clause): a sequence and its reverse
complement yield the same items in opposite order; a panic on one strand is a panic on both. -/
theorem C17_canonical_strand {tbl : List UInt8} (hc : CompOK tbl) (s : Bytes) (k : Nat) :
    (Sequtil.revComp tbl [] s).bind (fun r => Sequtil.canonical tbl r k) =
      (Sequtil.canonical tbl s k).map List.reverse :=
  Sequtil.canonical_revComp_bind hc s k

example : Sequtil.canonical exTbl [65, 65, 67, 71, 84] 2 =
    some [[65, 65], [65, 67], [67, 71], [65, 67]] := by decide +kernel
example : Sequtil.canonical exTbl [65, 67, 71, 84, 84] 2 =
    some [[65, 67], [67, 71], [65, 67], [65, 65]] := by decide +kernel

/-- (d) Strand: replacing any one sequence by its reverse complement. -/
theorem C17_strand {tbl : List UInt8} (hc : CompOK tbl) (hu : CaseOK tbl)
    (h : Bytes → Nat) (n k : Nat) (pre post : List Bytes) {s r : Bytes}
    (hr : Sequtil.revComp tbl [] s = some r) :
    sketch tbl h n k (pre ++ r :: post) = sketch tbl h n k (pre ++ s :: post) :=
  sketch_revComp hc hu h n k pre post hr

example : Sequtil.revComp exTbl [] [116, 116, 65] = some [84, 97, 97] := by decide +kernel
example : sketch exTbl exHash 3 2 [[65, 67, 103, 116, 65], [84, 97, 97]] = some [22, 20, 3] := by
  decide +kernel

/-- (e) A smaller sketch is the tail (last `n'` entries) of a larger one. -/
theorem C17_smaller_is_tail (tbl : List UInt8) (h : Bytes → Nat) (k : Nat) {n' n : Nat}
    (hn : n' ≤ n) (seqs : List Bytes) :
    sketch tbl h n' k seqs = (sketch tbl h n k seqs).map fun s => s.drop (s.length - n') := by
  rw [sketch_eq, sketch_eq, Option.map_map]
  congr 1; funext ks
  exact bottomN_tail _ hn

theorem C17_bottomN_tail {n' n : Nat} (hn : n' ≤ n) (l : List Nat) :
    bottomN n' l = (bottomN n l).drop ((bottomN n l).length - n') :=
  bottomN_tail l hn

example : sketch exTbl exHash 2 2 [[65, 67, 103, 116, 65], [116, 116, 65]] = some [20, 3] := by
  decide +kernel

/-! ## 3. `intersect` on full sketches -/

/-- For two full sketches (strictly descending, length `n`): the union size is `n` and the
intersection is the number of values among the `n` smallest of `a ∪ b` lying in both. -/
theorem intersect_full (n : Nat) {a b : List Nat} (ha : a.Pairwise (· > ·))
    (hb : b.Pairwise (· > ·)) (hla : a.length = n) (hlb : b.length = n) :
    (intersect n a b).2 = n ∧
    (intersect n a b).1 =
      (((sortAsc (dedup (a ++ b))).take n).filter fun x => a.contains x && b.contains x).length :=
  ⟨intersect_snd n (by omega) (by omega), intersect_fst n ha hb⟩

/-- The intersection count is the spec count for arbitrary (also partial) sketches. -/
theorem C17_intersect_count (n : Nat) {a b : List Nat} (ha : a.Pairwise (· > ·))
    (hb : b.Pairwise (· > ·)) : (intersect n a b).1 = specInter n a b :=
  intersect_fst n ha hb

theorem intersect_full_symm (n : Nat) {a b : List Nat} (ha : a.Pairwise (· > ·))
    (hb : b.Pairwise (· > ·)) (hla : a.length = n) (hlb : b.length = n) :
    intersect n a b = intersect n b a := by
  apply Prod.ext
  · rw [intersect_fst n ha hb, intersect_fst n hb ha, specInter_comm]
  · rw [intersect_snd n (by omega) (by omega), intersect_snd n (by omega) (by omega)]

theorem intersect_full_self (n : Nat) {a : List Nat} (ha : a.Pairwise (· > ·))
    (hla : a.length = n) : intersect n a a = (n, n) := by
  apply Prod.ext
  · rw [intersect_fst n ha ha, specInter_self ha]; simp [hla]
  · exact intersect_snd n (by omega) (by omega)

/-- Sketches produced by `sketch` satisfy the ordering hypothesis. -/
theorem C17_sketch_desc (tbl : List UInt8) (h : Bytes → Nat) (n k : Nat) (seqs : List Bytes) :
    ∀ s, sketch tbl h n k seqs = some s → s.Pairwise (· > ·) := by
  intro s hs
  rw [sketch_eq] at hs
  cases hk : kmers tbl k seqs <;> simp [hk] at hs
  subst hs; exact SD_bottomN _ _

example : ([5, 3, 1] : List Nat).Pairwise (· > ·) ∧ ([4, 3, 1] : List Nat).Pairwise (· > ·) ∧
    ([5, 3, 1] : List Nat).length = 3 ∧ ([4, 3, 1] : List Nat).length = 3 := by decide
example : intersect 3 [5, 3, 1] [4, 3, 1] = (2, 3) := by decide

end Bio.Mash

/-
  C16 for the Go SOURCE TEXT: the whole package regions/regions.go (`eventLess`, `keys`, `cp`,
  `NewIndex`, `(*Index).At`), as translated on every run into `Bio.Generated.GoSrc` (structs as
  tuples, `map[int]struct{}` as an ascending duplicate-free list, `sort.Slice`/`sort.Ints`/
  `sort.Search` as `sortByLess`/`sortInts`/`searchGo`; `none` = the Go code panics):

  * `NewIndex` IS the hand-written model `Regions.newIndex` (the active sets as Go `int`s), for all
    inputs, and panics exactly when the lengths differ;
  * `At` on an index with strictly ascending breakpoints IS the model's `at'`;
  * hence `NewIndex(starts, ends).At(i)` is exactly the ascending list of the `x` with
    `starts[x] ≤ i < ends[x]` (C16's `covering`), for all inputs of equal length and every `i`,
    and neither function panics.

  Guarded by the translator's `<f>_Found` flags (see `Bio.Lemmas.GoSrc`).
-/
import Bio.Lemmas.GoSrcRegions
import Bio.Props.C16
namespace Bio.Props.C16Go
open Bio Bio.GoRt Bio.Generated Bio.GoSrcLemmas

/-- every translator flag this file depends on; the non-vacuity examples below are stated as
`allFound = false ∨ …` so that a source the translator no longer recognises is not an alarm -/
def allFound : Bool :=
  GoSrc.NewIndex_Found && GoSrc.Index_At_Found && GoSrc.eventLess_Found && GoSrc.keys_Found && GoSrc.cp_Found

/-- `eventLess` on events with natural indices is the model's order `evLess`; it never panics. -/
theorem go_eventLess : GoSrc.eventLess_Found = true → ∀ (i j : Nat) (p q : Int) (s t : Bool),
    GoSrc.eventLess ((i : Int), p, s) ((j : Int), q, t) = some (Regions.evLess ⟨i, p, s⟩ ⟨j, q, t⟩) :=
  fun h i j p q s t => eventLess_eq h i j p q s t

/-- `keys` returns the members sorted (`sort.Ints`). -/
theorem go_keys : GoSrc.keys_Found = true → ∀ m : List Int, GoSrc.keys m = some (sortInts m) :=
  fun h m => keys_eq h m

/-- On the ascending duplicate-free representation of a set of naturals `keys` returns the set itself. -/
theorem go_keys_set : GoSrc.keys_Found = true → ∀ l : List Nat, l.Pairwise (· < ·) →
    GoSrc.keys (l.map Int.ofNat) = some (l.map Int.ofNat) :=
  fun h l hl => keys_map_ofNat h l hl

example : ([0, 3, 7] : List Nat).Pairwise (· < ·) := by decide +kernel

/-- `cp` returns (a copy of) its argument. -/
theorem go_cp : GoSrc.cp_Found = true → ∀ a : List Int, GoSrc.cp a = some a :=
  fun h a => cp_eq h a

/-! ## `NewIndex` and `At` are the model -/

/-- For ALL inputs: the translated `NewIndex` is the model's `newIndex` — the same breakpoints with
the same active sets — and it panics (`none`) exactly when the model does. -/
theorem go_NewIndex : GoSrc.NewIndex_Found = true → GoSrc.eventLess_Found = true → GoSrc.keys_Found = true →
    ∀ starts ends : List Int, GoSrc.NewIndex starts ends = (Regions.newIndex starts ends).map ofIdx :=
  fun h hE hK starts ends => NewIndex_eq h hE hK starts ends

/-- On an index whose breakpoint positions are strictly ascending (what `Regions.breakpoints_sorted`
gives for every index built by `newIndex`), the translated `At` — Go's binary search — is the
model's linear scan `at'`, and does not panic. -/
theorem go_At : GoSrc.Index_At_Found = true → GoSrc.cp_Found = true →
    ∀ (idx : Regions.Index), idx.Pairwise (fun a b => a.1 < b.1) → ∀ i : Int,
      GoSrc.Index_At (ofIdx idx) i = some ((Regions.at' idx i).map Int.ofNat) :=
  fun h hC idx hs i => Index_At_eq h hC idx hs i

example : ([(1, [2]), (3, [2, 3, 4]), (4, [3, 4]), (9, [])] : Regions.Index).Pairwise (fun a b => a.1 < b.1) := by
  decide +kernel

/-! ## C16 for the source text -/

/-- `NewIndex(starts, ends).At(i)` is exactly the ascending list of the indices `x` with
`starts[x] ≤ i < ends[x]`, for all inputs of equal length and every integer `i`. -/
theorem go_at_spec : GoSrc.NewIndex_Found = true → GoSrc.Index_At_Found = true → GoSrc.eventLess_Found = true →
    GoSrc.keys_Found = true → GoSrc.cp_Found = true →
    ∀ starts ends : List Int, starts.length = ends.length → ∀ i : Int,
      (GoSrc.NewIndex starts ends).bind (fun ix => GoSrc.Index_At ix i)
        = some ((Regions.covering starts ends i).map Int.ofNat) := by
  intro hN hA hE hK hC starts ends h i
  obtain ⟨idx, h1, hs⟩ := Regions.breakpoints_sorted starts ends h
  obtain ⟨idx', h1', h2⟩ := Regions.at_spec starts ends h i
  rw [h1] at h1'
  cases h1'
  rw [NewIndex_eq hN hE hK, h1, Option.map_some, Option.bind_some, Index_At_eq hA hC idx hs, h2]

example : ([5, 3, 1, 10] : List Int).length = ([20, 3, 4, 12] : List Int).length := by decide +kernel

/-- `NewIndex` panics on lists of different lengths. -/
theorem go_length_mismatch : GoSrc.NewIndex_Found = true → GoSrc.eventLess_Found = true → GoSrc.keys_Found = true →
    ∀ starts ends : List Int, starts.length ≠ ends.length → GoSrc.NewIndex starts ends = none := by
  intro hN hE hK starts ends h
  rw [NewIndex_eq hN hE hK, Regions.length_mismatch starts ends h]
  rfl

example : ([1, 2] : List Int).length ≠ ([3] : List Int).length := by decide +kernel

/-- With equal lengths neither function panics: `NewIndex` returns an index, and `At` on it returns
for every position. -/
theorem go_no_panic : GoSrc.NewIndex_Found = true → GoSrc.Index_At_Found = true → GoSrc.eventLess_Found = true →
    GoSrc.keys_Found = true → GoSrc.cp_Found = true →
    ∀ starts ends : List Int, starts.length = ends.length →
      ∃ ix, GoSrc.NewIndex starts ends = some ix ∧ ∀ i : Int, (GoSrc.Index_At ix i).isSome = true := by
  intro hN hA hE hK hC starts ends h
  obtain ⟨idx, h1, hs⟩ := Regions.breakpoints_sorted starts ends h
  refine ⟨ofIdx idx, by rw [NewIndex_eq hN hE hK, h1]; rfl, fun i => ?_⟩
  rw [Index_At_eq hA hC idx hs]
  rfl

/-- The index built by the translated `NewIndex` has strictly ascending breakpoint positions (so the
binary search of `At` is meaningful), and every active set in it is strictly ascending. -/
theorem go_breakpoints_sorted : GoSrc.NewIndex_Found = true → GoSrc.eventLess_Found = true →
    GoSrc.keys_Found = true →
    ∀ starts ends : List Int, starts.length = ends.length →
      ∃ ix, GoSrc.NewIndex starts ends = some ix ∧ ix.Pairwise (fun a b => a.1 < b.1) := by
  intro hN hE hK starts ends h
  obtain ⟨idx, h1, hs⟩ := Regions.breakpoints_sorted starts ends h
  refine ⟨ofIdx idx, by rw [NewIndex_eq hN hE hK, h1]; rfl, ?_⟩
  unfold ofIdx
  rw [List.pairwise_map]
  exact hs

/-- The answer is strictly ascending (hence duplicate-free), and an empty or inverted interval
(`start ≥ end`) is never reported. -/
theorem go_result_ascending : GoSrc.NewIndex_Found = true → GoSrc.Index_At_Found = true →
    GoSrc.eventLess_Found = true → GoSrc.keys_Found = true → GoSrc.cp_Found = true →
    ∀ starts ends : List Int, starts.length = ends.length → ∀ i : Int,
      ∃ r, (GoSrc.NewIndex starts ends).bind (fun ix => GoSrc.Index_At ix i) = some r
        ∧ r.Pairwise (· < ·)
        ∧ ∀ (x : Nat) (s e : Int), starts[x]? = some s → ends[x]? = some e → s ≥ e → (x : Int) ∉ r := by
  intro hN hA hE hK hC starts ends h i
  refine ⟨_, go_at_spec hN hA hE hK hC starts ends h i,
    pairwise_map_ofNat _ (Regions.pairwise_covering starts ends i), ?_⟩
  intro x s e hs he hse hx
  obtain ⟨y, hy, hxy⟩ := List.mem_map.1 hx
  cases Int.ofNat.inj hxy
  exact Regions.not_mem_covering_of_ge hs he hse hy

/-! ## Non-vacuity / concrete instances -/

section Examples

private theorem flags (h : allFound = true) :
    GoSrc.NewIndex_Found = true ∧ GoSrc.Index_At_Found = true ∧ GoSrc.eventLess_Found = true
      ∧ GoSrc.keys_Found = true ∧ GoSrc.cp_Found = true := by
  simp only [allFound, Bool.and_eq_true] at h
  obtain ⟨⟨⟨⟨a, b⟩, c⟩, d⟩, e⟩ := h
  exact ⟨a, b, c, d, e⟩

/-- `At` of the translated index, through `go_at_spec`, is the (decidable) brute-force scan. -/
private theorem ex_at (starts ends : List Int) (i : Int) (r : List Int)
    (hl : starts.length = ends.length) (hr : (Regions.covering starts ends i).map Int.ofNat = r) :
    allFound = false ∨ (GoSrc.NewIndex starts ends).bind (fun ix => GoSrc.Index_At ix i) = some r := by
  by_cases h : allFound = true
  · obtain ⟨a, b, c, d, e⟩ := flags h
    right
    rw [go_at_spec a b c d e starts ends hl i, hr]
  · left
    simpa using h

example : allFound = false ∨ allFound = true := by decide +kernel

-- starts [5,3,1,10], ends [20,3,4,12]: interval 1 = [3,3) is empty, 3 = [10,12) is nested in 0 = [5,20)
example : allFound = false ∨
    (GoSrc.NewIndex [5, 3, 1, 10] [20, 3, 4, 12]).bind (fun ix => GoSrc.Index_At ix 11) = some [0, 3] :=
  ex_at _ _ _ _ (by decide) (by decide)
example : allFound = false ∨
    (GoSrc.NewIndex [5, 3, 1, 10] [20, 3, 4, 12]).bind (fun ix => GoSrc.Index_At ix 0) = some [] :=
  ex_at _ _ _ _ (by decide) (by decide)
-- the empty interval [3,3) is never reported, not even at 3
example : allFound = false ∨
    (GoSrc.NewIndex [5, 3, 1, 10] [20, 3, 4, 12]).bind (fun ix => GoSrc.Index_At ix 3) = some [2] :=
  ex_at _ _ _ _ (by decide) (by decide)
example : allFound = false ∨
    (GoSrc.NewIndex [5, 3, 1, 10] [20, 3, 4, 12]).bind (fun ix => GoSrc.Index_At ix 4) = some [] :=
  ex_at _ _ _ _ (by decide) (by decide)
example : allFound = false ∨
    (GoSrc.NewIndex [5, 3, 1, 10] [20, 3, 4, 12]).bind (fun ix => GoSrc.Index_At ix 12) = some [0] :=
  ex_at _ _ _ _ (by decide) (by decide)
example : allFound = false ∨
    (GoSrc.NewIndex [5, 3, 1, 10] [20, 3, 4, 12]).bind (fun ix => GoSrc.Index_At ix 20) = some [] :=
  ex_at _ _ _ _ (by decide) (by decide)
-- C16's sample: inverted, empty, and two duplicate intervals nested/overlapping with a third
example : allFound = false ∨
    (GoSrc.NewIndex [5, 3, 1, 3, 3] [2, 3, 4, 9, 9]).bind (fun ix => GoSrc.Index_At ix 3) = some [2, 3, 4] :=
  ex_at _ _ _ _ (by decide) (by decide)
example : allFound = false ∨
    (GoSrc.NewIndex [5, 3, 1, 3, 3] [2, 3, 4, 9, 9]).bind (fun ix => GoSrc.Index_At ix 8) = some [3, 4] :=
  ex_at _ _ _ _ (by decide) (by decide)
example : allFound = false ∨
    (GoSrc.NewIndex [5, 3, 1, 3, 3] [2, 3, 4, 9, 9]).bind (fun ix => GoSrc.Index_At ix (-7)) = some [] :=
  ex_at _ _ _ _ (by decide) (by decide)
-- no intervals at all, and only empty ones
example : allFound = false ∨ (GoSrc.NewIndex [] []).bind (fun ix => GoSrc.Index_At ix 0) = some [] :=
  ex_at _ _ _ _ (by decide) (by decide)
example : allFound = false ∨ (GoSrc.NewIndex [3, 7] [3, 2]).bind (fun ix => GoSrc.Index_At ix 3) = some [] :=
  ex_at _ _ _ _ (by decide) (by decide)

-- the index itself, through `go_NewIndex` and the evaluation of the model
example : allFound = false ∨ GoSrc.NewIndex [5, 3, 1, 10] [20, 3, 4, 12]
    = some [(1, [2]), (4, []), (5, [0]), (10, [0, 3]), (12, [0]), (20, [])] := by
  by_cases h : allFound = true
  · obtain ⟨a, b, c, d, e⟩ := flags h
    right
    rw [go_NewIndex a c d]
    simp [Regions.newIndex, Regions.eventsFrom, List.mergeSort, List.MergeSort.Internal.splitInTwo,
      Regions.evLe, Regions.evLess, Regions.sweep, Regions.insertNat, ofIdx]
  · left
    simpa using h

-- direct evaluation of the translated `At` (binary search) on that index, and of the small helpers
example : allFound = false ∨ (
    (List.map (GoSrc.Index_At [(1, [2]), (4, []), (5, [0]), (10, [0, 3]), (12, [0]), (20, [])])
        [0, 1, 3, 4, 5, 9, 10, 11, 12, 19, 20, 100])
      = [some [], some [2], some [2], some [], some [0], some [0], some [0, 3], some [0, 3], some [0],
         some [0], some [], some []]
    ∧ GoSrc.Index_At [] 5 = some []
    ∧ GoSrc.eventLess (3, 7, false) (1, 7, true) = some true
    ∧ GoSrc.eventLess (1, 7, true) (3, 7, false) = some false
    ∧ GoSrc.eventLess (1, 7, true) (3, 7, true) = some true
    ∧ GoSrc.eventLess (0, 8, false) (3, 7, true) = some false
    ∧ GoSrc.keys [] = some []
    ∧ GoSrc.cp [4, 1, 4] = some [4, 1, 4] ∧ GoSrc.cp [] = some []) := by decide +kernel

-- unequal lengths: the panic
example : allFound = false ∨ GoSrc.NewIndex [1, 2] [3] = none := by
  by_cases h : allFound = true
  · obtain ⟨a, b, c, d, e⟩ := flags h
    exact Or.inr (go_length_mismatch a c d _ _ (by decide))
  · left
    simpa using h

end Examples

end Bio.Props.C16Go

/-
  C08 (and the zero-gap-open part of C09) for the Go SOURCE TEXT: align/align.go, align/global.go,
  align/local.go — `(SubstitutionMatrix).Get`, `decideOnStep`, `traceAlignmentSteps`, `Global`,
  `argmax`, `traceAlignmentStepsLocal`, `Local` — as translated statement by statement on every run
  into `Bio.Generated.GoSrc` (float64 scores as `Int`, a `block{score, step}` as `Int × UInt8`, a
  `Step` as its byte, the matrix `map[[2]byte]float64` as an association list keyed by `[a, b]`;
  `none` = the Go code panics, or a `for cond { }` loop ran out of `fuel`):

  * the translated functions ARE the hand-written model `Bio/Model/Align.lean`, for ALL inputs,
    including the panic: `Global`/`Local` return `none` exactly when the model's `globalP`/`localP`
    do, i.e. when an entry of `Align.needed a b` is missing from the matrix;
  * the fuel needed by the traceback loops is `len(a) + len(b) + 1` (one iteration per step, at
    most `len(a) + len(b)` steps, plus the iteration that leaves the loop); this bound is attained
    (`Global("x", "")` needs 2);
  * hence the results of `Bio/Props/C08.lean` and `C09.lean` hold for the source text.

  Steps are encoded by `encStep` (none 0, match 1, deletion 2, insertion 3) and decoded by `decStep`.
  Helper lemmas: `Bio/Lemmas/GoSrcAlign1.lean`, `Bio/Lemmas/GoSrcAlign.lean`.  Guarded by the
  translator's `<f>_Found` flags (see `Bio.Lemmas.GoSrc`).
-/
import Bio.Lemmas.GoSrcAlign
import Bio.Props.C09
namespace Bio.Props.C08Go
open Bio Bio.GoRt Bio.Generated Bio.GoSrcLemmas

/-- every translator flag this file depends on; the non-vacuity examples below are stated as
`allFound = false ∨ …` so that a source the translator does not recognise is not an alarm -/
def allFound : Bool :=
  GoSrc.Matrix_Get_Found && GoSrc.decideOnStep_Found && GoSrc.traceAlignmentSteps_Found && GoSrc.Global_Found
    && GoSrc.argmax_Found && GoSrc.traceAlignmentStepsLocal_Found && GoSrc.Local_Found

/-- "all needed entries present": every pair the DP reads is a key of the translated matrix -/
def neededPresent (m : List (List UInt8 × Int)) (a b : Bytes) : Prop :=
  ∀ p ∈ Align.needed a b, (matOf m p.1 p.2).isSome = true

instance (m : List (List UInt8 × Int)) (a b : Bytes) : Decidable (neededPresent m a b) := by
  unfold neededPresent; infer_instance

/-- `Get`: the value when the pair is a key, a panic otherwise. -/
theorem go_Matrix_Get : GoSrc.Matrix_Get_Found = true →
    ∀ (m : List (List UInt8 × Int)) (a b : UInt8), GoSrc.Matrix_Get m a b = matOf m a b :=
  fun h m a b => Matrix_Get_eq h m a b

/-- `decideOnStep` is the model's, with the same tie order; it never panics. -/
theorem go_decideOnStep : GoSrc.decideOnStep_Found = true →
    ∀ x y z : Int, GoSrc.decideOnStep x y z
      = some (let c := Align.decideOnStep x y z; (c.score, encStep c.step)) :=
  fun h x y z => decideOnStep_eq h x y z

/-- `argmax` on the flattened table (row-major, cells as `block`s) is the model's `argmax`:
the flat index `i * (len(b)+1) + j` of the first maximal cell `(i, j)`. -/
theorem go_argmax : GoSrc.argmax_Found = true →
    ∀ (m : Align.Mat) (loc : Bool) (a b : Bytes),
      GoSrc.argmax ((Align.table m loc a b).flatten.map encCell)
        = some (((Align.argmax (Align.table m loc a b)).1 * (b.length + 1)
            + (Align.argmax (Align.table m loc a b)).2.1 : Nat) : Int) := by
  intro h m loc a b
  rw [← alnFlat_eq_flatten, argmax_eq h]
  rfl

/-- `traceAlignmentSteps` on the flattened global table is the model's traceback and score. -/
theorem go_traceAlignmentSteps : GoSrc.traceAlignmentSteps_Found = true →
    ∀ (m : Align.Mat) (a b : Bytes) (fuel : Nat), a.length + b.length + 1 ≤ fuel →
      GoSrc.traceAlignmentSteps fuel ((Align.table m false a b).flatten.map encCell) (len b + 1)
        = some ((Align.globalT m a b).1.map encStep, (Align.globalT m a b).2) := by
  intro h m a b fuel hf
  rw [← alnFlat_eq_flatten, traceAlignmentSteps_eq h fuel m a b hf]

/-- For ALL inputs: the translated `Global` is the model's `globalP` — the same steps and score, and
a panic (`none`) on exactly the inputs where the model panics (a needed entry is missing). -/
theorem go_Global : GoSrc.Global_Found = true → GoSrc.Matrix_Get_Found = true →
    GoSrc.decideOnStep_Found = true → GoSrc.traceAlignmentSteps_Found = true →
    ∀ (a b : Bytes) (m : List (List UInt8 × Int)) (fuel : Nat), a.length + b.length + 1 ≤ fuel →
      GoSrc.Global fuel a b m = (Align.globalP (matOf m) a b).map fun r => (r.1.map encStep, r.2) :=
  fun hF hM hD hT a b m fuel hf => Global_eq hF hM hD hT a b m fuel hf

/-- For ALL inputs: the translated `Local` is the model's `localP`. -/
theorem go_Local : GoSrc.Local_Found = true → GoSrc.Matrix_Get_Found = true →
    GoSrc.decideOnStep_Found = true → GoSrc.traceAlignmentStepsLocal_Found = true →
    GoSrc.argmax_Found = true →
    ∀ (a b : Bytes) (m : List (List UInt8 × Int)) (fuel : Nat), a.length + b.length + 1 ≤ fuel →
      GoSrc.Local fuel a b m
        = (Align.localP (matOf m) a b).map fun r => (r.1.map encStep, r.2.1, r.2.2.1, r.2.2.2) :=
  fun hF hM hD hT hA a b m fuel hf => Local_eq hF hM hD hT hA a b m fuel hf

/-- With all needed entries present and enough fuel, neither function panics. -/
theorem go_no_panic : GoSrc.Global_Found = true → GoSrc.Local_Found = true → GoSrc.Matrix_Get_Found = true →
    GoSrc.decideOnStep_Found = true → GoSrc.traceAlignmentSteps_Found = true →
    GoSrc.traceAlignmentStepsLocal_Found = true → GoSrc.argmax_Found = true →
    ∀ (a b : Bytes) (m : List (List UInt8 × Int)) (fuel : Nat), a.length + b.length + 1 ≤ fuel →
      neededPresent m a b →
      (GoSrc.Global fuel a b m).isSome = true ∧ (GoSrc.Local fuel a b m).isSome = true := by
  intro hG hL hM hD hT hTL hA a b m fuel hf hn
  rw [Global_of_needed hG hM hD hT a b m fuel hf hn, Local_of_needed hL hM hD hTL hA a b m fuel hf hn]
  exact ⟨rfl, rfl⟩

/-- A missing needed entry makes both functions panic (whatever the fuel). -/
theorem go_panic_of_missing : GoSrc.Global_Found = true → GoSrc.Local_Found = true →
    GoSrc.Matrix_Get_Found = true → GoSrc.decideOnStep_Found = true →
    ∀ (a b : Bytes) (m : List (List UInt8 × Int)) (fuel : Nat) (p : UInt8 × UInt8),
      p ∈ Align.needed a b → matOf m p.1 p.2 = none →
      GoSrc.Global fuel a b m = none ∧ GoSrc.Local fuel a b m = none := by
  intro hG hL hM hD a b m fuel p hp hm
  have : ((Align.needed a b).all fun p => (matOf m p.1 p.2).isSome) = false := by
    rw [List.all_eq_false]
    exact ⟨p, hp, by simp [hm]⟩
  rw [Global_dp hG hM hD, Local_dp hL hM hD, this]
  exact ⟨rfl, rfl⟩

/-- With enough fuel, the panic happens exactly when a needed entry is missing. -/
theorem go_panic_iff : GoSrc.Global_Found = true → GoSrc.Local_Found = true → GoSrc.Matrix_Get_Found = true →
    GoSrc.decideOnStep_Found = true → GoSrc.traceAlignmentSteps_Found = true →
    GoSrc.traceAlignmentStepsLocal_Found = true → GoSrc.argmax_Found = true →
    ∀ (a b : Bytes) (m : List (List UInt8 × Int)) (fuel : Nat), a.length + b.length + 1 ≤ fuel →
      (GoSrc.Global fuel a b m = none ↔ ¬ neededPresent m a b) ∧
      (GoSrc.Local fuel a b m = none ↔ ¬ neededPresent m a b) := by
  intro hG hL hM hD hT hTL hA a b m fuel hf
  rw [Global_eq hG hM hD hT a b m fuel hf, Local_eq hL hM hD hTL hA a b m fuel hf]
  simp only [Option.map_eq_none_iff, Align.globalP, Align.localP, ite_eq_right_iff, reduceCtorEq,
    imp_false, List.all_eq_true, neededPresent, and_self]

/-- A value returned by `Global` (enough fuel) is steps and a score such that the decoded steps,
re-scored with the documented scoring from the starts of `a` and `b`, consume exactly all of `a` and
all of `b` and score exactly the returned score. -/
theorem go_global_valid_of_some : GoSrc.Global_Found = true → GoSrc.Matrix_Get_Found = true →
    GoSrc.decideOnStep_Found = true → GoSrc.traceAlignmentSteps_Found = true →
    ∀ (a b : Bytes) (m : List (List UInt8 × Int)) (fuel : Nat) (steps : List UInt8) (score : Int),
      a.length + b.length + 1 ≤ fuel → GoSrc.Global fuel a b m = some (steps, score) →
      Align.rescore (Align.total (matOf m)) .none a b (steps.map decStep) = some (score, [], []) := by
  intro hF hM hD hT a b m fuel steps score hf h
  cases Global_some hF hM hD hT a b m fuel hf h
  rw [map_decStep_encStep]
  exact Align.global_valid _ a b

/-- With all needed entries present `Global` does return, hence such steps and score. -/
theorem go_global_valid : GoSrc.Global_Found = true → GoSrc.Matrix_Get_Found = true →
    GoSrc.decideOnStep_Found = true → GoSrc.traceAlignmentSteps_Found = true →
    ∀ (a b : Bytes) (m : List (List UInt8 × Int)) (fuel : Nat), a.length + b.length + 1 ≤ fuel →
      neededPresent m a b →
      ∃ steps score, GoSrc.Global fuel a b m = some (steps, score) ∧
        Align.rescore (Align.total (matOf m)) .none a b (steps.map decStep) = some (score, [], []) :=
  fun hF hM hD hT a b m fuel hf hn =>
    ⟨_, _, Global_of_needed hF hM hD hT a b m fuel hf hn,
      go_global_valid_of_some hF hM hD hT a b m fuel _ _ hf (Global_of_needed hF hM hD hT a b m fuel hf hn)⟩

/-- A value returned by `Local` (enough fuel) under non-positive gap scores
(`Align.gapScoresNonPos`: gap-open ≤ 0, every `(x, Gap)` with `x ∈ a` ≤ 0, every `(Gap, y)` with
`y ∈ b` ≤ 0): either no steps and score 0, or non-negative start offsets, a positive score, and the
decoded steps — applied from the returned offsets — stay inside `a` and `b` and score exactly the
returned score. -/
theorem go_local_valid_of_some : GoSrc.Local_Found = true → GoSrc.Matrix_Get_Found = true →
    GoSrc.decideOnStep_Found = true → GoSrc.traceAlignmentStepsLocal_Found = true →
    GoSrc.argmax_Found = true →
    ∀ (a b : Bytes) (m : List (List UInt8 × Int)) (fuel : Nat) (steps : List UInt8) (ai bi score : Int),
      a.length + b.length + 1 ≤ fuel → Align.gapScoresNonPos (Align.total (matOf m)) a b →
      GoSrc.Local fuel a b m = some (steps, ai, bi, score) →
      (steps = [] ∧ score = 0) ∨
      (0 ≤ ai ∧ 0 ≤ bi ∧ 0 < score ∧
        ∃ ra rb, Align.rescore (Align.total (matOf m)) .none (a.drop ai.toNat) (b.drop bi.toNat)
          (steps.map decStep) = some (score, ra, rb)) := by
  intro hF hM hD hT hA a b m fuel steps ai bi score hf hg h
  cases Local_some hF hM hD hT hA a b m fuel hf h
  rcases Align.local_valid _ a b hg with ⟨h1, h2⟩ | h
  · left; exact ⟨by rw [h1]; rfl, h2⟩
  · right; rw [map_decStep_encStep]; exact h

/-- With all needed entries present `Local` does return, hence such a value. -/
theorem go_local_valid : GoSrc.Local_Found = true → GoSrc.Matrix_Get_Found = true →
    GoSrc.decideOnStep_Found = true → GoSrc.traceAlignmentStepsLocal_Found = true →
    GoSrc.argmax_Found = true →
    ∀ (a b : Bytes) (m : List (List UInt8 × Int)) (fuel : Nat), a.length + b.length + 1 ≤ fuel →
      neededPresent m a b → Align.gapScoresNonPos (Align.total (matOf m)) a b →
      ∃ steps ai bi score, GoSrc.Local fuel a b m = some (steps, ai, bi, score) ∧
        ((steps = [] ∧ score = 0) ∨
         (0 ≤ ai ∧ 0 ≤ bi ∧ 0 < score ∧
           ∃ ra rb, Align.rescore (Align.total (matOf m)) .none (a.drop ai.toNat) (b.drop bi.toNat)
             (steps.map decStep) = some (score, ra, rb))) :=
  fun hF hM hD hT hA a b m fuel hf hn hg =>
    ⟨_, _, _, _, Local_of_needed hF hM hD hT hA a b m fuel hf hn,
      go_local_valid_of_some hF hM hD hT hA a b m fuel _ _ _ _ hf hg
        (Local_of_needed hF hM hD hT hA a b m fuel hf hn)⟩

/-- With a zero gap-open score, the score returned by `Global` is the maximum over all alignments
of `a` and `b` (step lists that consume both exactly), attained by the returned steps. -/
theorem go_global_optimal_zero_open : GoSrc.Global_Found = true → GoSrc.Matrix_Get_Found = true →
    GoSrc.decideOnStep_Found = true → GoSrc.traceAlignmentSteps_Found = true →
    ∀ (a b : Bytes) (m : List (List UInt8 × Int)) (fuel : Nat), a.length + b.length + 1 ≤ fuel →
      neededPresent m a b → Align.total (matOf m) Align.GAP Align.GAP = 0 →
      ∃ steps score, GoSrc.Global fuel a b m = some (steps, score) ∧
        Align.rescore (Align.total (matOf m)) .none a b (steps.map decStep) = some (score, [], []) ∧
        ∀ s v, Align.rescore (Align.total (matOf m)) .none a b s = some (v, [], []) → v ≤ score := by
  intro hF hM hD hT a b m fuel hf hn h0
  refine ⟨_, _, Global_of_needed hF hM hD hT a b m fuel hf hn, ?_, ?_⟩
  · rw [map_decStep_encStep]
    exact Align.global_valid _ a b
  · exact Align.global_optimal_zero_open _ a b h0

/-- With a zero gap-open score, the score returned by `Local` is non-negative and no alignment of
any substring `a[i..i')` with any substring `b[j..j')` scores more. -/
theorem go_local_optimal_zero_open : GoSrc.Local_Found = true → GoSrc.Matrix_Get_Found = true →
    GoSrc.decideOnStep_Found = true → GoSrc.traceAlignmentStepsLocal_Found = true →
    GoSrc.argmax_Found = true →
    ∀ (a b : Bytes) (m : List (List UInt8 × Int)) (fuel : Nat), a.length + b.length + 1 ≤ fuel →
      neededPresent m a b → Align.total (matOf m) Align.GAP Align.GAP = 0 →
      ∃ steps ai bi score, GoSrc.Local fuel a b m = some (steps, ai, bi, score) ∧ 0 ≤ score ∧
        ∀ i i' j j', i ≤ i' → i' ≤ a.length → j ≤ j' → j' ≤ b.length →
          ∀ s v, Align.rescore (Align.total (matOf m)) .none ((a.drop i).take (i' - i))
              ((b.drop j).take (j' - j)) s = some (v, [], []) → v ≤ score := by
  intro hF hM hD hT hA a b m fuel hf hn h0
  refine ⟨_, _, _, _, Local_of_needed hF hM hD hT hA a b m fuel hf hn, ?_, ?_⟩
  · exact (Align.local_optimal_zero_open' _ a b h0).2
  · exact (Align.local_optimal_zero_open' _ a b h0).1

section Examples

/-- The matrix of the examples, as the translated map: match 3, mismatch −3, per-character gap −1,
gap-open −1, over the bytes `a b c d q x y z` and the gap 255. -/
def exChars : List UInt8 := [97, 98, 99, 100, 113, 120, 121, 122, 255]
def exL : List (List UInt8 × Int) :=
  exChars.flatMap fun x => exChars.map fun y =>
    ([x, y], if x == 255 && y == 255 then -1 else if x == 255 || y == 255 then -1 else if x == y then 3 else -3)

/-- the same with gap-open 0 -/
def exL0 : List (List UInt8 × Int) :=
  exChars.flatMap fun x => exChars.map fun y =>
    ([x, y], if x == 255 && y == 255 then 0 else if x == 255 || y == 255 then -1 else if x == y then 3 else -3)

/-- a genuinely partial matrix: only what "ab" against "aab" needs -/
def exPart : List (List UInt8 × Int) :=
  [([97, 97], 2), ([97, 98], -1), ([98, 97], -1), ([98, 98], 2),
   ([97, 255], -1), ([98, 255], -1), ([255, 97], -1), ([255, 98], -1), ([255, 255], -3)]

example : allFound = false ∨ allFound = true := by decide

/-- "abc" against "bcd": a deletion, two matches, an insertion; −1−1 + 3 + 3 −1−1 = 2.
Evaluated on the translated code itself (fuel 7 = 3 + 3 + 1). -/
example : allFound = false ∨
    GoSrc.Global 7 [97, 98, 99] [98, 99, 100] exL = some ([2, 1, 1, 3], 2) := by decide +kernel

/-- fuel below the number of loop iterations: no claim (`none`); 5 = 4 steps + 1 is enough here -/
example : allFound = false ∨
    (GoSrc.Global 4 [97, 98, 99] [98, 99, 100] exL = none ∧
     GoSrc.Global 5 [97, 98, 99] [98, 99, 100] exL = some ([2, 1, 1, 3], 2)) := by decide +kernel

/-- the bound `len(a) + len(b) + 1` is attained: "a" against "" needs 2 -/
example : allFound = false ∨
    (GoSrc.Global 1 [97] [] exL = none ∧ GoSrc.Global 2 [97] [] exL = some ([2], -2)) := by decide +kernel

/-- a local alignment with a deletion and an insertion inside, found at offsets 1 and 2:
"q ab x cd" against "zz ab c y d"; 3+3 −1−1 +3 −1−1 +3 = 8 -/
example : allFound = false ∨
    GoSrc.Local 14 [113, 97, 98, 120, 99, 100] [122, 122, 97, 98, 99, 121, 100] exL
      = some ([1, 1, 2, 1, 3, 1], 1, 2, 8) := by decide +kernel

/-- an empty local answer (all mismatches), and empty inputs -/
example : allFound = false ∨
    (GoSrc.Local 3 [97] [98] exL = some ([], -1, -1, 0) ∧ GoSrc.Local 1 [] [] exL = some ([], -1, -1, 0)
      ∧ GoSrc.Global 1 [] [] [] = some ([], 0)) := by decide +kernel

/-- the helpers, evaluated -/
example : allFound = false ∨
    (GoSrc.Matrix_Get exPart 97 98 = some (-1) ∧ GoSrc.Matrix_Get exPart 99 98 = none
      ∧ GoSrc.decideOnStep 1 1 1 = some (1, 1) ∧ GoSrc.decideOnStep 0 1 1 = some (1, 2)
      ∧ GoSrc.decideOnStep 0 0 1 = some (1, 3)
      ∧ GoSrc.argmax [(0, 0), (2, 1), (5, 1), (5, 2), (1, 3)] = some 2) := by decide +kernel

/-- hypotheses of the theorems above are satisfiable, non-trivially -/
example : neededPresent exL [97, 98, 99] [98, 99, 100] := by decide +kernel
example : neededPresent exL [113, 97, 98, 120, 99, 100] [122, 122, 97, 98, 99, 121, 100] := by
  decide +kernel
example : neededPresent exPart [97, 98] [97, 97, 98] := by decide +kernel
example : ([97, 98, 99] : Bytes).length + ([98, 99, 100] : Bytes).length + 1 ≤ 7 := by decide

example : Align.gapScoresNonPos (Align.total (matOf exL))
    [113, 97, 98, 120, 99, 100] [122, 122, 97, 98, 99, 121, 100] := by
  refine ⟨by decide +kernel, ?_, ?_⟩ <;> decide +kernel

example : Align.total (matOf exL0) Align.GAP Align.GAP = 0 := by decide +kernel
example : neededPresent exL0 [97, 98, 99, 100] [97, 100] := by decide +kernel

/-- the decoded steps of the first example re-score to the returned score -/
example : Align.rescore (Align.total (matOf exL)) .none [97, 98, 99] [98, 99, 100]
    (([2, 1, 1, 3] : List UInt8).map decStep) = some (2, [], []) := by decide +kernel

/-- and those of the local example, from the returned offsets -/
example : Align.rescore (Align.total (matOf exL)) .none
    (([113, 97, 98, 120, 99, 100] : Bytes).drop 1) (([122, 122, 97, 98, 99, 121, 100] : Bytes).drop 2)
    (([1, 1, 2, 1, 3, 1] : List UInt8).map decStep) = some (8, [], []) := by decide +kernel

/-- zero gap-open: a competing alignment scores less than what `Global` returns -/
example : allFound = false ∨
    GoSrc.Global 7 [97, 98, 99, 100] [97, 100] exL0 = some ([1, 2, 2, 1], 4) := by decide +kernel
example : Align.rescore (Align.total (matOf exL0)) .none [97, 98, 99, 100] [97, 100]
    [.mch, .mch, .del, .del] = some (-2, [], []) := by decide +kernel

/-- a missing needed entry: the hypothesis of `go_panic_of_missing`, and the panic itself, on the
translated code -/
example : ((99 : UInt8), Align.GAP) ∈ Align.needed [97, 99] [97] ∧ matOf exPart 99 Align.GAP = none := by
  decide +kernel
example : allFound = false ∨
    (GoSrc.Global 100 [97, 99] [97] exPart = none ∧ GoSrc.Local 100 [97, 99] [97] exPart = none
      ∧ GoSrc.Global 6 [97, 98] [97, 97, 98] exPart = some ([3, 1, 1], 0)
      ∧ GoSrc.Local 6 [97, 98] [97, 97, 98] exPart = some ([1, 1], 0, 1, 4)) := by decide +kernel

private theorem flags (h : allFound = true) :
    GoSrc.Matrix_Get_Found = true ∧ GoSrc.decideOnStep_Found = true ∧ GoSrc.traceAlignmentSteps_Found = true
      ∧ GoSrc.Global_Found = true ∧ GoSrc.argmax_Found = true ∧ GoSrc.traceAlignmentStepsLocal_Found = true
      ∧ GoSrc.Local_Found = true := by
  simp only [allFound, Bool.and_eq_true] at h
  obtain ⟨⟨⟨⟨⟨⟨a, b⟩, c⟩, d⟩, e⟩, f⟩, g⟩ := h
  exact ⟨a, b, c, d, e, f, g⟩

/-- `go_Global` applied: the translated code agrees with the (separately evaluated) model -/
example : allFound = false ∨
    GoSrc.Global 1000 [97, 98, 99] [98, 99, 100] exL
      = (Align.globalP (matOf exL) [97, 98, 99] [98, 99, 100]).map fun r => (r.1.map encStep, r.2) := by
  by_cases h : allFound = true
  · obtain ⟨hM, hD, hT, hG, hA, hTL, hL⟩ := flags h
    exact Or.inr (go_Global hG hM hD hT _ _ _ _ (by decide))
  · left; simpa using h

example : Align.globalP (matOf exL) [97, 98, 99] [98, 99, 100] = some ([.del, .mch, .mch, .ins], 2) := by
  decide +kernel

end Examples

end Bio.Props.C08Go

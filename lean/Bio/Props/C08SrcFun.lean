/-
  Source-level tie for C08–C10: `decideOnStep` (align/global.go) translated
  statement by statement from the Go source on every run
  (Bio/Generated/Src.lean) IS the model's `decideOnStep` — same comparisons,
  same tie order (match ≥, then deletion ≥ insertion), same step codes.
  Best-effort: if the source is not in a translatable shape,
  `decideOnStepFound = false` and nothing is claimed.
-/
import Bio.Model.Align
import Bio.Generated.Src
namespace Bio.SrcFacts
open Bio.Generated

def stepCode : Bio.Align.Step → Nat
  | .none => 0 | .mch => 1 | .del => 2 | .ins => 3

theorem decideOnStep_is_model :
    Src.decideOnStepFound = true →
    ∀ m d i : Int, Src.decideOnStep m d i =
      ((Bio.Align.decideOnStep m d i).score, stepCode (Bio.Align.decideOnStep m d i).step) := by
  intro h
  first
    | exact absurd h (by decide)
    | (intro m d i
       unfold Src.decideOnStep Bio.Align.decideOnStep
       by_cases h1 : m ≥ d <;> by_cases h2 : m ≥ i <;> by_cases h3 : d ≥ i <;> simp [h1, h2, h3, stepCode])

end Bio.SrcFacts

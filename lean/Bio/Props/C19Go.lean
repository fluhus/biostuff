/-
  C19 (and the C18 early stop) for the Go SOURCE TEXT of formats/newick/traverse.go:
  `(*Node).traverse`, `PreOrder`, `PostOrder`, as translated statement by statement on every run into
  `Bio.Generated.GoSrc.traverse` / `PreOrder` / `PostOrder`.  A Go `*Node` is the hand model's
  `Newick.Tree`, `n.Children` is `kidsOf n`; the `for len(stack) > 0 { … }` loop runs at most `fuel`
  iterations (out of fuel = `none`); the consumer `yield` is ANY deterministic consumer, stateful ones
  included: it is asked about the whole history of nodes handed to it so far (the current one last);
  the result is the log of the nodes handed over; `none` = a Go panic (index / slice out of range) or
  out of fuel.

  For every tree `t` (arbitrarily deep: no recursion anywhere), both orders, every consumer `h` and
  every `fuel ≥ 2 * size t`: the machine makes `2 * size t - 1` steps (one per node entered, one per
  node left, the root is not pushed) and one more iteration sees the empty stack
  (`go_traverse_sharp`; `go_traverse_fuel_tight`: nothing smaller works for a consumer that never
  stops); the other theorems carry the hand model's fuel `2 * size t + 1`, one more than needed:

    GoSrc.traverse fuel t pre h  =  some (IterH.traverseH pre h t)
                                 =  some (takeThroughH h [] (if pre then preRec t else postRec t))

  i.e. the consumer sees the nodes in classic recursive pre- or post-order (children in order), every
  node exactly once, up to and including the first one after which it said stop, and nothing after
  it; no panic.  Proved through `GoSrcLemmas.trav_step`: one iteration of the translated loop from ANY
  well-formed stack (Go's top frame is last, the model's first) and log is one step of the stack machine.
  Guarded by the translator's `<f>_Found` flags (see `Bio.Lemmas.GoSrc`).
-/
import Bio.Lemmas.GoSrcTraverse
import Bio.Props.C19
namespace Bio.Props.C19Go
open Bio Bio.GoRt Bio.Generated Bio.GoSrcLemmas

/-- every translator flag this file depends on; the non-vacuity examples below are stated as
`allFound = false ∨ …` so that a source the translator no longer recognises is not an alarm -/
def allFound : Bool := GoSrc.traverse_Found && GoSrc.PreOrder_Found && GoSrc.PostOrder_Found

/-! ## 1. The translated `traverse` is the hand model, for every consumer -/

/-- THE statement: the translated closure, run with any consumer (it may keep state), logs what the
hand-written history machine `IterH.traverseH` logs — and does not panic or run out of fuel. -/
theorem go_traverse : GoSrc.traverse_Found = true →
    ∀ (t : Newick.Tree) (pre : Bool) (h : List Newick.Tree → Bool) (fuel : Nat), 2 * t.size + 1 ≤ fuel →
      GoSrc.traverse fuel t pre h = some (IterH.traverseH pre h t) :=
  fun hF t pre h fuel hf => traverse_eq hF t pre h fuel (by omega)

/-- The same with the smallest fuel: `2 * size - 1` iterations do the work (one per node entered,
one per child pushed … ), one more sees the empty stack. -/
theorem go_traverse_sharp : GoSrc.traverse_Found = true →
    ∀ (t : Newick.Tree) (pre : Bool) (h : List Newick.Tree → Bool) (fuel : Nat), 2 * t.size ≤ fuel →
      GoSrc.traverse fuel t pre h = some (IterH.traverseH pre h t) :=
  fun hF t pre h fuel hf => traverse_eq hF t pre h fuel hf

/-- … and no smaller fuel is enough for a consumer that never stops: out of fuel, `none`. -/
theorem go_traverse_fuel_tight : GoSrc.traverse_Found = true →
    ∀ (t : Newick.Tree) (pre : Bool) (fuel : Nat), fuel < 2 * t.size →
      GoSrc.traverse fuel t pre (fun _ => true) = none :=
  fun hF t pre fuel hf => traverse_short hF t pre fuel hf

/-! ## 2. The log: the recursive order, cut by the consumer -/

theorem go_traverse_log : GoSrc.traverse_Found = true →
    ∀ (t : Newick.Tree) (pre : Bool) (h : List Newick.Tree → Bool) (fuel : Nat), 2 * t.size + 1 ≤ fuel →
      GoSrc.traverse fuel t pre h
        = some (takeThroughH h [] (if pre then Newick.preRec t else Newick.postRec t)) :=
  fun hF t pre h fuel hf => traverse_log hF t pre h fuel (by omega)

/-- For a consumer without state (`lastH f` judges the current node by `f`) this is the pure-consumer
hand model `Newick.traverse` of C19 / C18. -/
theorem go_traverse_model : GoSrc.traverse_Found = true →
    ∀ (t : Newick.Tree) (pre : Bool) (f : Newick.Tree → Bool) (fuel : Nat), 2 * t.size + 1 ≤ fuel →
      GoSrc.traverse fuel t pre (lastH f) = some (Newick.traverse pre f t)
      ∧ GoSrc.traverse fuel t pre (lastH f)
          = some (takeThrough (fun x => !f x) (if pre then Newick.preRec t else Newick.postRec t)) := by
  intro hF t pre f fuel hf
  rw [traverse_log hF t pre _ fuel (by omega), takeThroughH_lastH, Newick.traverse_log]
  exact ⟨rfl, rfl⟩

/-! ## 3. The exported wrappers -/

theorem go_PreOrder : GoSrc.traverse_Found = true → GoSrc.PreOrder_Found = true →
    ∀ (t : Newick.Tree) (h : List Newick.Tree → Bool) (fuel : Nat), 2 * t.size + 1 ≤ fuel →
      GoSrc.PreOrder fuel t h = some (takeThroughH h [] (Newick.preRec t)) := by
  intro hF hP t h fuel hf
  rw [PreOrder_eq_traverse hP, traverse_log hF t true h fuel (by omega)]
  rfl

theorem go_PostOrder : GoSrc.traverse_Found = true → GoSrc.PostOrder_Found = true →
    ∀ (t : Newick.Tree) (h : List Newick.Tree → Bool) (fuel : Nat), 2 * t.size + 1 ≤ fuel →
      GoSrc.PostOrder fuel t h = some (takeThroughH h [] (Newick.postRec t)) := by
  intro hF hP t h fuel hf
  rw [PostOrder_eq_traverse hP, traverse_log hF t false h fuel (by omega)]
  rfl

/-- `PreOrder` / `PostOrder` are `traverse(true)` / `traverse(false)`, for every fuel and consumer. -/
theorem go_wrappers : GoSrc.PreOrder_Found = true → GoSrc.PostOrder_Found = true →
    ∀ (t : Newick.Tree) (h : List Newick.Tree → Bool) (fuel : Nat),
      GoSrc.PreOrder fuel t h = GoSrc.traverse fuel t true h
      ∧ GoSrc.PostOrder fuel t h = GoSrc.traverse fuel t false h :=
  fun hP hQ t h fuel => ⟨PreOrder_eq_traverse hP fuel t h, PostOrder_eq_traverse hQ fuel t h⟩

/-! ## 4. The uninterrupted run: every node once, in the documented order (C19) -/

/-- A consumer that never stops sees exactly the recursive pre- resp. post-order — which is what the
hand models `Newick.preOrder` / `Newick.postOrder` of C19 produce. -/
theorem go_traverse_all : GoSrc.traverse_Found = true →
    ∀ (t : Newick.Tree) (pre : Bool) (fuel : Nat), 2 * t.size + 1 ≤ fuel →
      GoSrc.traverse fuel t pre (fun _ => true)
        = some (if pre then Newick.preRec t else Newick.postRec t)
      ∧ GoSrc.traverse fuel t pre (fun _ => true)
        = some (if pre then Newick.preOrder t else Newick.postOrder t) := by
  intro hF t pre fuel hf
  rw [traverse_log hF t pre _ fuel (by omega), IterH.takeThroughH_true, List.nil_append]
  refine ⟨rfl, ?_⟩
  cases pre <;> simp [Newick.preOrder_eq, Newick.postOrder_eq]

/-- Mirror of `Newick.each_once` and `preOrder_unfold` / `postOrder_unfold` for the translated
`PreOrder` / `PostOrder`: the two logs `P`, `Q` are the recursive orders; each has exactly `size`
entries; they hold the same nodes the same number of times; the root comes first (pre) resp. last
(post); and `P` is the node followed by the pre-orders of its children in order, `Q` the post-orders
of its children in order followed by the node. -/
theorem go_each_once : GoSrc.traverse_Found = true → GoSrc.PreOrder_Found = true →
    GoSrc.PostOrder_Found = true →
    ∀ (t : Newick.Tree) (fuel : Nat), 2 * t.size + 1 ≤ fuel →
      ∃ P Q, GoSrc.PreOrder fuel t (fun _ => true) = some P
        ∧ GoSrc.PostOrder fuel t (fun _ => true) = some Q
        ∧ P = Newick.preRec t ∧ Q = Newick.postRec t
        ∧ P = Newick.preOrder t ∧ Q = Newick.postOrder t
        ∧ P.length = t.size ∧ Q.length = t.size
        ∧ P.Perm Q
        ∧ P.head? = some t ∧ Q.getLast? = some t
        ∧ P = t :: (kidsOf t).flatMap Newick.preRec
        ∧ Q = (kidsOf t).flatMap Newick.postRec ++ [t] := by
  intro hF hP hQ t fuel hf
  refine ⟨Newick.preRec t, Newick.postRec t, ?_, ?_, rfl, rfl, (Newick.preOrder_eq t).symm,
    (Newick.postOrder_eq t).symm, Newick.preRec_length t, Newick.postRec_length t, Newick.preRec_perm_postRec t, ?_, ?_,
    Newick.preRec_kidsOf t, Newick.postRec_kidsOf t⟩
  · rw [go_PreOrder hF hP t _ fuel hf, IterH.takeThroughH_true, List.nil_append]
  · rw [go_PostOrder hF hQ t _ fuel hf, IterH.takeThroughH_true, List.nil_append]
  · simp [Newick.preRec]
  · simp [Newick.postRec]

/-- The recursive characterisation entirely at the Go level: with the same fuel, the uninterrupted
`PreOrder` log of `n` is `n` followed by the `PreOrder` logs of `n.Children[0]`, `n.Children[1]`, …
and the `PostOrder` log is the `PostOrder` logs of the children followed by `n`. -/
theorem go_order_unfold : GoSrc.traverse_Found = true → GoSrc.PreOrder_Found = true →
    GoSrc.PostOrder_Found = true →
    ∀ (t : Newick.Tree) (fuel : Nat), 2 * t.size + 1 ≤ fuel →
      (∀ c ∈ kidsOf t, GoSrc.PreOrder fuel c (fun _ => true) = some (Newick.preRec c)
          ∧ GoSrc.PostOrder fuel c (fun _ => true) = some (Newick.postRec c))
      ∧ GoSrc.PreOrder fuel t (fun _ => true) = some (t :: (kidsOf t).flatMap Newick.preRec)
      ∧ GoSrc.PostOrder fuel t (fun _ => true) = some ((kidsOf t).flatMap Newick.postRec ++ [t]) := by
  intro hF hP hQ t fuel hf
  refine ⟨?_, ?_, ?_⟩
  · intro c hc
    have := Newick.size_of_mem_kidsOf t c hc
    rw [go_PreOrder hF hP c _ fuel (by omega), go_PostOrder hF hQ c _ fuel (by omega),
      IterH.takeThroughH_true, IterH.takeThroughH_true, List.nil_append, List.nil_append]
    exact ⟨rfl, rfl⟩
  · rw [go_PreOrder hF hP t _ fuel hf, IterH.takeThroughH_true, List.nil_append, Newick.preRec_kidsOf]
  · rw [go_PostOrder hF hQ t _ fuel hf, IterH.takeThroughH_true, List.nil_append, Newick.postRec_kidsOf]

/-! ## 5. Early stop (C18), for every consumer with or without state -/

/-- (a) the log `L` is a prefix of the full order; (b) the consumer answered `true` on every proper
prefix history of the log; (c) if it answered `false` at some history, that is the last item: no call
after it. -/
theorem go_traverse_early_stop : GoSrc.traverse_Found = true →
    ∀ (t : Newick.Tree) (pre : Bool) (h : List Newick.Tree → Bool) (fuel : Nat), 2 * t.size + 1 ≤ fuel →
      ∃ L, GoSrc.traverse fuel t pre h = some L
        ∧ L <+: (if pre then Newick.preRec t else Newick.postRec t)
        ∧ L <+: (if pre then Newick.preOrder t else Newick.postOrder t)
        ∧ (∀ i, i + 1 < L.length → h (L.take (i + 1)) = true)
        ∧ (∀ i, i < L.length → h (L.take (i + 1)) = false → i + 1 = L.length) := by
  intro hF t pre h fuel hf
  refine ⟨_, traverse_log hF t pre h fuel (by omega), takeThroughH_prefix _ _, ?_,
    takeThroughH_go_on _ _, takeThroughH_stop _ _⟩
  have := takeThroughH_prefix h (if pre then Newick.preRec t else Newick.postRec t)
  cases pre <;> simpa [Newick.preOrder_eq, Newick.postOrder_eq] using this

/-- The same for the exported `PreOrder` / `PostOrder`. -/
theorem go_PreOrder_PostOrder_early_stop : GoSrc.traverse_Found = true → GoSrc.PreOrder_Found = true →
    GoSrc.PostOrder_Found = true →
    ∀ (t : Newick.Tree) (h : List Newick.Tree → Bool) (fuel : Nat), 2 * t.size + 1 ≤ fuel →
      (∃ L, GoSrc.PreOrder fuel t h = some L ∧ L <+: Newick.preRec t
        ∧ (∀ i, i + 1 < L.length → h (L.take (i + 1)) = true)
        ∧ (∀ i, i < L.length → h (L.take (i + 1)) = false → i + 1 = L.length))
      ∧ (∃ L, GoSrc.PostOrder fuel t h = some L ∧ L <+: Newick.postRec t
        ∧ (∀ i, i + 1 < L.length → h (L.take (i + 1)) = true)
        ∧ (∀ i, i < L.length → h (L.take (i + 1)) = false → i + 1 = L.length)) :=
  fun hF hP hQ t h fuel hf =>
    ⟨⟨_, go_PreOrder hF hP t h fuel hf, takeThroughH_prefix _ _, takeThroughH_go_on _ _,
        takeThroughH_stop _ _⟩,
     ⟨_, go_PostOrder hF hQ t h fuel hf, takeThroughH_prefix _ _, takeThroughH_go_on _ _,
        takeThroughH_stop _ _⟩⟩

/-- Consumer without state: every node handed over but the last was accepted, and a declined node is
the last one logged. -/
theorem go_traverse_early_stop_pure : GoSrc.traverse_Found = true →
    ∀ (t : Newick.Tree) (pre : Bool) (f : Newick.Tree → Bool) (fuel : Nat), 2 * t.size + 1 ≤ fuel →
      ∃ L, GoSrc.traverse fuel t pre (lastH f) = some L
        ∧ L <+: (if pre then Newick.preRec t else Newick.postRec t)
        ∧ (∀ x ∈ L.dropLast, f x = true)
        ∧ (∀ i x, L[i]? = some x → f x = false → i + 1 = L.length) := by
  intro hF t pre f fuel hf
  have hd : ∀ x ∈ (takeThrough (fun x => !f x)
      (if pre then Newick.preRec t else Newick.postRec t)).dropLast, f x = true := by
    intro x hx
    simpa using takeThrough_dropLast (fun x => !f x) _ x hx
  exact ⟨_, (go_traverse_model hF t pre f fuel hf).2, takeThrough_isPrefix _ _, hd,
    declined_is_last f _ hd⟩

/-! ## 6. No panic, whatever the depth -/

/-- With enough fuel the translated closure never panics (no index or slice out of range) and ends by
itself, for every tree — arbitrarily deep: neither the Go code nor the translation recurses — and
every consumer. -/
theorem go_traverse_no_panic : GoSrc.traverse_Found = true → GoSrc.PreOrder_Found = true →
    GoSrc.PostOrder_Found = true →
    ∀ (t : Newick.Tree) (pre : Bool) (h : List Newick.Tree → Bool) (fuel : Nat), 2 * t.size + 1 ≤ fuel →
      GoSrc.traverse fuel t pre h ≠ none ∧ (GoSrc.traverse fuel t pre h).isSome = true
      ∧ GoSrc.PreOrder fuel t h ≠ none ∧ GoSrc.PostOrder fuel t h ≠ none := by
  intro hF hP hQ t pre h fuel hf
  rw [go_traverse hF t pre h fuel hf, go_PreOrder hF hP t h fuel hf, go_PostOrder hF hQ t h fuel hf]
  simp

/-! ## Concrete instances -/

example : allFound = false ∨ (GoSrc.traverse_Found = true ∧ GoSrc.PreOrder_Found = true
    ∧ GoSrc.PostOrder_Found = true) := by decide +kernel

/-- `((c,d)a,b,(f)e)r` — 7 nodes, depth 3 -/
def exT : Newick.Tree :=
  ⟨[114], none,
    .cons [97] none (.cons [99] none .nil (.cons [100] none .nil .nil))
      (.cons [98] none .nil
        (.cons [101] none (.cons [102] none .nil .nil) .nil))⟩

/-- a path `a0 - a1 - … ` of depth `d + 1` (for the depth examples) -/
def exPath : Nat → Newick.Tree
  | 0 => ⟨[48], none, .nil⟩
  | d + 1 => ⟨[49], none, .cons (exPath d).name (exPath d).dist (exPath d).kids .nil⟩

def names (r : Option (List Newick.Tree)) : Option (List Bytes) := r.map (·.map (·.name))

example : exT.size = 7 ∧ 2 * exT.size + 1 ≤ 15 ∧ 2 * exT.size ≤ 14 ∧ 13 < 2 * exT.size := by decide +kernel
example : (kidsOf exT).map (·.name) = [[97], [98], [101]] := by decide +kernel
example : (Newick.preRec exT).map (·.name) = [[114], [97], [99], [100], [98], [101], [102]] := by decide +kernel
example : (Newick.postRec exT).map (·.name) = [[99], [100], [97], [98], [102], [101], [114]] := by decide +kernel

-- the consumer that never stops: every node once, in pre- resp. post-order
example : allFound = false ∨ (
    names (GoSrc.traverse 15 exT true (fun _ => true)) = some [[114], [97], [99], [100], [98], [101], [102]]
    ∧ names (GoSrc.traverse 15 exT false (fun _ => true)) = some [[99], [100], [97], [98], [102], [101], [114]]
    ∧ GoSrc.PreOrder 15 exT (fun _ => true) = some (Newick.preRec exT)
    ∧ GoSrc.PostOrder 15 exT (fun _ => true) = some (Newick.postRec exT)
    ∧ GoSrc.PreOrder 15 exT (fun _ => true) = some (Newick.preOrder exT)
    ∧ GoSrc.PostOrder 15 exT (fun _ => true) = some (Newick.postOrder exT)) := by decide +kernel
-- a genuinely STATEFUL consumer: "stop at the third node whatever it is"
example : allFound = false ∨ (
    names (GoSrc.traverse 15 exT true (fun l => l.length < 3)) = some [[114], [97], [99]]
    ∧ names (GoSrc.traverse 15 exT false (fun l => l.length < 3)) = some [[99], [100], [97]]
    ∧ names (GoSrc.PreOrder 15 exT (fun l => l.length < 3)) = some [[114], [97], [99]]
    ∧ names (GoSrc.PostOrder 15 exT (fun l => l.length < 3)) = some [[99], [100], [97]]
    ∧ GoSrc.traverse 15 exT true (fun l => l.length < 3) = some (IterH.traverseH true (fun l => l.length < 3) exT)
    ∧ GoSrc.traverse 15 exT false (fun l => l.length < 3)
        = some (IterH.traverseH false (fun l => l.length < 3) exT)) := by decide +kernel
-- (b), (c) on that run: `true` after the first two nodes, `false` after the third, which is the last
example : allFound = false ∨ (
    (GoSrc.traverse 15 exT true (fun l => l.length < 3)).map (·.length) = some 3
    ∧ (fun l : List Newick.Tree => decide (l.length < 3)) ((Newick.preRec exT).take (1 + 1)) = true
    ∧ (fun l : List Newick.Tree => decide (l.length < 3)) ((Newick.preRec exT).take (2 + 1)) = false) := by
  decide +kernel
-- a consumer without state that declines node "d"; one that declines everything
example : allFound = false ∨ (
    names (GoSrc.traverse 15 exT true (lastH fun x => x.name != [100])) = some [[114], [97], [99], [100]]
    ∧ names (GoSrc.traverse 15 exT false (lastH fun x => x.name != [100])) = some [[99], [100]]
    ∧ names (GoSrc.traverse 15 exT true (fun _ => false)) = some [[114]]
    ∧ names (GoSrc.traverse 15 exT false (fun _ => false)) = some [[99]]) := by decide +kernel
-- the fuel: `2 * size = 14` is enough, `13` is not for a consumer that never stops (out of fuel =
-- `none`), but is for one that stops early
example : allFound = false ∨ (
    (GoSrc.traverse 14 exT true (fun _ => true)).isSome = true
    ∧ GoSrc.traverse 13 exT true (fun _ => true) = none
    ∧ GoSrc.traverse 13 exT false (fun _ => true) = none
    ∧ names (GoSrc.traverse 5 exT true (fun l => l.length < 3)) = some [[114], [97], [99]]) := by
  decide +kernel
-- depth: a path of 40 nodes (depth 40) — no panic, 40 nodes each way
example : allFound = false ∨ (
    (exPath 39).size = 40
    ∧ (GoSrc.traverse 81 (exPath 39) true (fun _ => true)).map (·.length) = some 40
    ∧ (GoSrc.traverse 81 (exPath 39) false (fun _ => true)).map (·.length) = some 40
    ∧ (GoSrc.traverse 81 (exPath 39) false (fun _ => true)).map (·.head?.map (·.name)) = some (some [48])) := by
  first
  | (left; decide)
  | (right
     have hs : (exPath 39).size = 40 := by decide +kernel
     have h := fun pre => (go_traverse_all (by decide) (exPath 39) pre 81 (by rw [hs]; decide)).1
     rw [h true, h false]
     refine ⟨hs, ?_, ?_, by decide +kernel⟩
     · simp only [Option.map_some, if_true, Newick.preRec_length, hs]
     · simp only [Option.map_some, Bool.false_eq_true, if_false, Newick.postRec_length, hs])
-- a single leaf
example : allFound = false ∨ (
    GoSrc.traverse 3 ⟨[120], none, .nil⟩ true (fun _ => true) = some [⟨[120], none, .nil⟩]
    ∧ GoSrc.traverse 3 ⟨[120], none, .nil⟩ false (fun _ => false) = some [⟨[120], none, .nil⟩]
    ∧ GoSrc.traverse 1 ⟨[120], none, .nil⟩ true (fun _ => true) = none) := by decide +kernel

end Bio.Props.C19Go

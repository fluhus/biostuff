/-
  C05 (newick), READER half, for the Go SOURCE TEXT: `(*reader).read` of formats/newick/newick.go, as
  translated statement by statement on every run into `Bio.Generated.GoSrc.newick_read`, and iterated
  as `Reader` does (`NwkRd.goNewickDecode`), IS the hand-written parser `Newick.readTree` /
  `Newick.decodeSrc` of `Bio.Model.Newick` — for EVERY input, both endings of the byte source, every
  initial heap and reader history.

  The Go code works on `*Node` pointers with in-place mutation, so the translation is over an explicit
  heap (`NwkRd.Heap`: one cell `(Name, Distance, Children)` per node allocated so far; a pointer is an
  index; `nil` is `-1`).  The abstraction relation `NwkRd.RepT heap p t` says that the cell at `p`
  holds `t`'s name and distance and that its `Children` represent `t.kids` in order (`NwkRd.RepF`),
  every subtree in its own interval of cells after its parent (so: no sharing, no cycle);
  `NwkRd.absT heap fuel p` reads a tree back.  The Go code appends a child's POINTER to its parent when
  the child is created and fills the child in later; the model keeps the unfinished child on its stack
  and closes it into the parent at `)` / `,`: the simulation relation is `NwkRd.Sim`
  (`Bio.Lemmas.GoSrcNewickRead2`), one loop iteration = one unfolding of `readLoop`.

  `strconv.ParseFloat` is a PARAMETER `pf` of the translated code; what is assumed about it is the
  explicit hypothesis `NwkRd.PFModel pf pd` (no error and the model's value where the model's distance
  parser `pd` accepts, some error where it rejects) and, where it matters, `NwkRd.PFNoEof pf` (its
  error is never `io.EOF`; `Reader` would take that for the end of the stream).

  1. `go_read`: one call of `read()` is `readTree`; `go_read_any_fuel`: partial correctness with any fuel.
  2. `go_read_frame` / `go_read_frame_any_fuel` / `go_read_preserves`: cells that existed before the call
     are never written (arbitrary `pf`).
  3. `go_read_no_panic`: `read()` returns, for an arbitrary `pf`.
  4. `go_decode`: the translated `Reader` is `Newick.decodeSrc` on all inputs.
  5. `go_roundtrip` / `go_roundtrip_trees`: what the model writer writes, the translated reader reads back.

  Guarded by the translator's `_Found` flags (see `Bio.Lemmas.GoSrc`).
-/
import Bio.Lemmas.GoSrcNewickRead
import Bio.Props.C05
set_option linter.unusedVariables false
namespace Bio.Props.C05ReadGo
open Bio Bio.GoRt Bio.Generated Bio.GoSrcLemmas Bio.GoSrcLemmas.NwkRd

/-- every translator flag this file depends on; the non-vacuity examples below are stated as
`allFound = false ∨ …` so that a source the translator no longer recognises is not an alarm -/
def allFound : Bool :=
  GoSrc.newick_read_Found && GoSrc.newick_nextToken_Found && GoSrc.nameFromText_Found && GoSrc.quoted_Found

/-! ## 1. One call of `read()` -/

/-- One call of the translated `read()` on the remaining input `x` of a source ending with `e`, with
ANY initial heap `heap₀`, whatever `UnreadByte` would put back (`last`) and whatever the buffer holds
(`rb`), with `x.length + 1` fuel (loop iterations, and iterations of each `nextToken` call), under
`PFModel pf pd`, is the model's `Newick.readTree pd e x`:
* a tree `t`, remaining input `rest` ↦ the pointer `heap₀.length` (the first cell this call
  allocated), `nil`, a heap in which that pointer represents `t` (`RepT`) and which is `heap₀` with
  cells appended, and a reader whose remaining input is EXACTLY `rest`;
* a clean end (no token before EOF) ↦ `(nil, io.EOF)`, one (unused) cell allocated, nothing left;
* an error ↦ `nil` and an error that is not `nil`: `io.ErrUnexpectedEOF` / `fmt.Errorf(…)` / the
  tokenizer's own error (all translated `other`), or `ParseFloat`'s own error on a token the model's
  `pd` rejects — so it is not `io.EOF` either as soon as `ParseFloat` never returns `io.EOF`. -/
theorem go_read : GoSrc.newick_read_Found = true → GoSrc.newick_nextToken_Found = true →
    GoSrc.nameFromText_Found = true → GoSrc.quoted_Found = true →
    ∀ (pf : PF) (pd : Bytes → Option Newick.Dist), PFModel pf pd →
    ∀ (x : Bytes) (e : Ending) (heap₀ : Heap) (last : Option UInt8) (rb : Bytes) (fuel : Nat),
      x.length + 1 ≤ fuel →
      match Newick.readTree pd e x with
      | .tree t rest => ∃ heap' last' rb',
          GoSrc.newick_read pf fuel heap₀ ⟨last, x, e⟩ rb
            = some ((heap₀.length : Int), GoErr.nil, heap', ⟨last', rest, e⟩, rb') ∧
          RepT heap' (heap₀.length : Int) t ∧ ∃ ext, heap' = heap₀ ++ ext
      | .eof => GoSrc.newick_read pf fuel heap₀ ⟨last, x, e⟩ rb
          = some (-1, GoErr.eof, heap₀ ++ [zero], ⟨none, [], e⟩, [])
      | .err => ∃ err heap' r' rb',
          GoSrc.newick_read pf fuel heap₀ ⟨last, x, e⟩ rb = some (-1, err, heap', r', rb') ∧
          err ≠ GoErr.nil ∧ (err = GoErr.other ∨ ∃ s, pd s = none ∧ err = (pf s 64).2) ∧
          (PFNoEof pf → err ≠ GoErr.eof) :=
  fun hR hT hN hQ pf pd hpf x e heap₀ last rb fuel hf =>
    newick_read_model hR hT hN hQ hpf x e heap₀ last rb fuel hf

/-- Reading the result back: after a successful `read()`, `absT` on the returned heap and pointer is
the model's tree. -/
theorem go_read_absT : GoSrc.newick_read_Found = true → GoSrc.newick_nextToken_Found = true →
    GoSrc.nameFromText_Found = true → GoSrc.quoted_Found = true →
    ∀ (pf : PF) (pd : Bytes → Option Newick.Dist), PFModel pf pd →
    ∀ (x : Bytes) (e : Ending) (heap₀ : Heap) (last : Option UInt8) (rb : Bytes) (fuel : Nat),
      x.length + 1 ≤ fuel → ∀ (t : Newick.Tree) (rest : Bytes), Newick.readTree pd e x = .tree t rest →
      ∃ p heap' r' rb', GoSrc.newick_read pf fuel heap₀ ⟨last, x, e⟩ rb = some (p, GoErr.nil, heap', r', rb') ∧
        absT heap' heap'.length p = t := by
  intro hR hT hN hQ pf pd hpf x e heap₀ last rb fuel hf t rest hr
  have h := newick_read_model hR hT hN hQ hpf x e heap₀ last rb fuel hf
  simp only [hr] at h
  obtain ⟨heap', last', rb', h1, h2, _⟩ := h
  exact ⟨_, _, _, _, h1, h2.absT⟩

/-- Partial correctness with ANY fuel: if the translated `read()` returns at all (it reports `none`,
no claim, when a loop runs out of fuel), what it returns is what the model says (`NwkRd.Post`: the
three cases of `go_read`). -/
theorem go_read_any_fuel : GoSrc.newick_read_Found = true → GoSrc.newick_nextToken_Found = true →
    GoSrc.nameFromText_Found = true → GoSrc.quoted_Found = true →
    ∀ (pf : PF) (pd : Bytes → Option Newick.Dist), PFModel pf pd →
    ∀ (x : Bytes) (e : Ending) (heap₀ : Heap) (last : Option UInt8) (rb : Bytes) (fuel : Nat) (res : Res),
      GoSrc.newick_read pf fuel heap₀ ⟨last, x, e⟩ rb = some res →
      Post pf pd heap₀ e (heap₀ ++ [zero]) false (Newick.readTree pd e x) (some res) :=
  fun hR hT hN hQ pf pd hpf x e heap₀ last rb fuel res h =>
    newick_read_partial hR hT hN hQ hpf x e heap₀ last rb fuel res h

/-- Without `PFNoEof` the error of `go_read`'s third case CAN be `io.EOF`: the run of `pfEofEx` (a
`ParseFloat` whose error is `io.EOF`) on `a:x;` at the end of the file contradicts this statement; its
negation is not stated as a theorem.  The real `strconv.ParseFloat` returns `*strconv.NumError`s, never
`io.EOF`. -/
def go_read_err_never_eof_full : Prop :=
  ∀ (pf : PF) (pd : Bytes → Option Newick.Dist), PFModel pf pd →
  ∀ (x : Bytes) (e : Ending) (heap₀ : Heap) (last : Option UInt8) (rb : Bytes) (fuel : Nat),
    x.length + 1 ≤ fuel → Newick.readTree pd e x = .err →
    ∀ p heap' r' rb', GoSrc.newick_read pf fuel heap₀ ⟨last, x, e⟩ rb ≠ some (p, GoErr.eof, heap', r', rb')

/-! ## 2. Frame -/

/-- For an ARBITRARY `ParseFloat`, any heap and reader state: with `(remaining input).length + 1` fuel,
`read()` returns, and the heap it hands back is the initial heap with cells appended — cells that
existed before the call (the trees read earlier from the same stream) are never written. -/
theorem go_read_frame : GoSrc.newick_read_Found = true → GoSrc.newick_nextToken_Found = true →
    GoSrc.nameFromText_Found = true → GoSrc.quoted_Found = true →
    ∀ (pf : PF) (fuel : Nat) (heap₀ : Heap) (r : ByteRd) (rb : Bytes), r.rest.length + 1 ≤ fuel →
      ∃ p err ext r' rb', GoSrc.newick_read pf fuel heap₀ r rb = some (p, err, heap₀ ++ ext, r', rb') := by
  intro hR hT hN hQ pf fuel heap₀ r rb hf
  have h := newick_read_isSome hR hT hN hQ pf fuel heap₀ r rb hf
  cases hr : GoSrc.newick_read pf fuel heap₀ r rb with
  | none => rw [hr] at h; cases h
  | some res =>
    obtain ⟨p, err, heap', r', rb'⟩ := res
    obtain ⟨ext, rfl⟩ := newick_read_frame hR hT hN hQ pf fuel heap₀ r rb p err heap' r' rb' hr
    exact ⟨p, err, ext, r', rb', rfl⟩

/-- … and with ANY fuel: whatever `read()` returns (if it returns), the heap it hands back is the
initial heap with cells appended. -/
theorem go_read_frame_any_fuel : GoSrc.newick_read_Found = true → GoSrc.newick_nextToken_Found = true →
    GoSrc.nameFromText_Found = true → GoSrc.quoted_Found = true →
    ∀ (pf : PF) (fuel : Nat) (heap₀ : Heap) (r : ByteRd) (rb : Bytes)
      (p : Int) (err : GoErr) (heap' : Heap) (r' : ByteRd) (rb' : Bytes),
      GoSrc.newick_read pf fuel heap₀ r rb = some (p, err, heap', r', rb') →
      ∃ ext, heap' = heap₀ ++ ext :=
  fun hR hT hN hQ pf fuel heap₀ r rb p err heap' r' rb' h =>
    newick_read_frame hR hT hN hQ pf fuel heap₀ r rb p err heap' r' rb' h

/-- … so a tree represented in the initial heap is still represented, at the same pointer, in the heap
after any later `read()` on the same stream. -/
theorem go_read_preserves : GoSrc.newick_read_Found = true → GoSrc.newick_nextToken_Found = true →
    GoSrc.nameFromText_Found = true → GoSrc.quoted_Found = true →
    ∀ (pf : PF) (fuel : Nat) (heap₀ : Heap) (r : ByteRd) (rb : Bytes)
      (p : Int) (err : GoErr) (heap' : Heap) (r' : ByteRd) (rb' : Bytes),
      GoSrc.newick_read pf fuel heap₀ r rb = some (p, err, heap', r', rb') →
      ∀ (q : Int) (t : Newick.Tree), RepT heap₀ q t → RepT heap' q t := by
  intro hR hT hN hQ pf fuel heap₀ r rb p err heap' r' rb' h q t hq
  obtain ⟨ext, rfl⟩ := newick_read_frame hR hT hN hQ pf fuel heap₀ r rb p err heap' r' rb' h
  exact RepT.append hq ext

/-! ## 3. No panic -/

/-- For an ARBITRARY `ParseFloat`, any heap and reader state: with `(remaining input).length + 1` fuel
the translated `read()` returns — no index out of range (`stack[len(stack)-1]`, `stack[len(stack)-2]`,
the heap cells, `stack[0]`), `panic("unexpected state")` unreachable, no loop out of fuel. -/
theorem go_read_no_panic : GoSrc.newick_read_Found = true → GoSrc.newick_nextToken_Found = true →
    GoSrc.nameFromText_Found = true → GoSrc.quoted_Found = true →
    ∀ (pf : PF) (fuel : Nat) (heap₀ : Heap) (r : ByteRd) (rb : Bytes), r.rest.length + 1 ≤ fuel →
      GoSrc.newick_read pf fuel heap₀ r rb ≠ none := by
  intro hR hT hN hQ pf fuel heap₀ r rb hf h
  have := newick_read_isSome hR hT hN hQ pf fuel heap₀ r rb hf
  rw [h] at this
  cases this

/-! ## 4. `Reader` -/

/-- The translated `Reader` (`goNewickDecode`: a fresh reader, `read()` called again and again on one
growing heap, stop at `io.EOF`, an error item ends the stream, every tree read back from the heap with
`absT`) yields exactly the model's `Newick.decodeSrc pd e x` — every input, both endings. -/
theorem go_decode : GoSrc.newick_read_Found = true → GoSrc.newick_nextToken_Found = true →
    GoSrc.nameFromText_Found = true → GoSrc.quoted_Found = true →
    ∀ (pf : PF) (pd : Bytes → Option Newick.Dist), PFModel pf pd → PFNoEof pf →
    ∀ (x : Bytes) (e : Ending) (fuel : Nat), x.length + 1 ≤ fuel →
      goNewickDecode pf fuel x e = some (Newick.decodeSrc pd e x) :=
  fun hR hT hN hQ pf pd hpf hne x e fuel hf =>
    goNewickDecode_eq hR hT hN hQ hpf x e fuel hf (Or.inl fun s _ => hne s)

/-- … and without `PFNoEof` whenever the model's stream has no error item. -/
theorem go_decode_ok : GoSrc.newick_read_Found = true → GoSrc.newick_nextToken_Found = true →
    GoSrc.nameFromText_Found = true → GoSrc.quoted_Found = true →
    ∀ (pf : PF) (pd : Bytes → Option Newick.Dist), PFModel pf pd →
    ∀ (x : Bytes) (e : Ending) (fuel : Nat), x.length + 1 ≤ fuel → Item.err ∉ Newick.decodeSrc pd e x →
      goNewickDecode pf fuel x e = some (Newick.decodeSrc pd e x) :=
  fun hR hT hN hQ pf pd hpf x e fuel hf hok =>
    goNewickDecode_eq hR hT hN hQ hpf x e fuel hf (Or.inr hok)

/-! ## 5. Round trip (the READ side of C05 at source level) -/

/-- What the model writer writes for `t` (`Newick.write qs t`; `QS_OK qs`: the quote set contains the
structural bytes, the quote, `_`, TAB, LF, CR; every distance of `t` is a clean non-empty token that
`pd` parses to itself: `DistOK pd`), the translated `Reader` reads back as exactly `[t]`. -/
theorem go_roundtrip : GoSrc.newick_read_Found = true → GoSrc.newick_nextToken_Found = true →
    GoSrc.nameFromText_Found = true → GoSrc.quoted_Found = true →
    ∀ (pf : PF) (pd : Bytes → Option Newick.Dist), PFModel pf pd →
    ∀ (qs : Bytes), Newick.QS_OK qs → ∀ (t : Newick.Tree), t.AllDist (Newick.DistOK pd) →
    ∀ (fuel : Nat), (Newick.write qs t).length + 1 ≤ fuel →
      goNewickDecode pf fuel (Newick.write qs t) .eof = some [Item.ok t] := by
  intro hR hT hN hQ pf pd hpf qs hqs t ht fuel hf
  have hm := Newick.decodeSrc_write qs pd hqs t ht
  have := goNewickDecode_eq hR hT hN hQ hpf (Newick.write qs t) .eof fuel hf (Or.inr (by simp [hm]))
  rw [this, hm]

/-- Several trees written back to back. -/
theorem go_roundtrip_trees : GoSrc.newick_read_Found = true → GoSrc.newick_nextToken_Found = true →
    GoSrc.nameFromText_Found = true → GoSrc.quoted_Found = true →
    ∀ (pf : PF) (pd : Bytes → Option Newick.Dist), PFModel pf pd →
    ∀ (qs : Bytes), Newick.QS_OK qs → ∀ (ts : List Newick.Tree), (∀ t ∈ ts, t.AllDist (Newick.DistOK pd)) →
    ∀ (fuel : Nat), ((ts.map (Newick.write qs)).flatten).length + 1 ≤ fuel →
      goNewickDecode pf fuel ((ts.map (Newick.write qs)).flatten) .eof = some (ts.map Item.ok) := by
  intro hR hT hN hQ pf pd hpf qs hqs ts ht fuel hf
  have hm : Newick.decodeSrc pd .eof ((ts.map (Newick.write qs)).flatten) = ts.map Item.ok :=
    Newick.forest_roundtrip qs pd hqs ts ht
  have := goNewickDecode_eq hR hT hN hQ hpf _ .eof fuel hf (Or.inr (by simp [hm]))
  rw [this, hm]

/-! ## Non-vacuity -/

/-- a sample distance parser: accepts exactly `1.5` and `2` -/
def pdEx2 : Bytes → Option Newick.Dist := fun t =>
  if t = [49, 46, 53] then some (some [49, 46, 53]) else if t = [50] then some (some [50]) else none

/-- a `ParseFloat` whose error is `io.EOF` (not a possible behaviour of the real one) -/
def pfEofEx : PF := fun s _ =>
  match pdEx2 s with
  | some d => (d, GoErr.nil)
  | none => (none, GoErr.eof)

-- the flags spelled out (the disjunction holds whatever they are); `PFModel` / `PFNoEof` for the `ParseFloat` built from a model parser;
-- `PFModel` always holds for the parser a given `ParseFloat` induces
example : allFound = false ∨ (GoSrc.newick_read_Found = true ∧ GoSrc.newick_nextToken_Found = true ∧
    GoSrc.nameFromText_Found = true ∧ GoSrc.quoted_Found = true) := by decide +kernel
example : PFModel (pfOf pdEx2) pdEx2 ∧ PFNoEof (pfOf pdEx2) := ⟨pfModel_pfOf _, pfNoEof_pfOf _⟩
example : PFModel (pfOf Newick.pdEx) Newick.pdEx ∧ PFNoEof (pfOf Newick.pdEx) :=
  ⟨pfModel_pfOf _, pfNoEof_pfOf _⟩
example (pf : PF) : PFModel pf (pdOf pf) := pfModel_pdOf pf
example : PFModel pfEofEx pdEx2 := by
  intro s
  unfold pfEofEx
  cases h : pdEx2 s <;> simp

-- `(a:1.5,('b c',d)e:2)r; (x);` : the first `read()` (from an empty heap, 28 = length + 1 fuel)
-- allocates cells 0..4 — r at 0 with children [1, 2]; a:1.5 at 1; e:2 at 2 with children [3, 4];
-- 'b c' at 3; d at 4 — and leaves ` (x);`; the model agrees; the tree read back
example : allFound = false ∨ (
    GoSrc.newick_read (pfOf pdEx2) 28 []
        ⟨none, [40, 97, 58, 49, 46, 53, 44, 40, 39, 98, 32, 99, 39, 44, 100, 41, 101, 58, 50, 41, 114, 59,
          32, 40, 120, 41, 59], .eof⟩ []
      = some (0, GoErr.nil,
          [([114], none, [1, 2]), ([97], some [49, 46, 53], []), ([101], some [50], [3, 4]),
            ([98, 32, 99], none, []), ([100], none, [])],
          ⟨some 59, [32, 40, 120, 41, 59], .eof⟩, [])
    ∧ Newick.readTree pdEx2 .eof
        [40, 97, 58, 49, 46, 53, 44, 40, 39, 98, 32, 99, 39, 44, 100, 41, 101, 58, 50, 41, 114, 59,
          32, 40, 120, 41, 59]
      = .tree ⟨[114], none, .cons [97] (some [49, 46, 53]) .nil
            (.cons [101] (some [50]) (.cons [98, 32, 99] none .nil (.cons [100] none .nil .nil)) .nil)⟩
          [32, 40, 120, 41, 59]
    ∧ absT [([114], none, [1, 2]), ([97], some [49, 46, 53], []), ([101], some [50], [3, 4]),
            ([98, 32, 99], none, []), ([100], none, [])] 5 0
      = ⟨[114], none, .cons [97] (some [49, 46, 53]) .nil
            (.cons [101] (some [50]) (.cons [98, 32, 99] none .nil (.cons [100] none .nil .nil)) .nil)⟩) := by
  decide +kernel

-- … the second `read()` on the same stream (the heap, reader and buffer the first one handed back):
-- cells 0..4 untouched, the new tree `(x)` at 5 (children [6]) and 6; the third: `io.EOF`, one more cell
example : allFound = false ∨ (
    GoSrc.newick_read (pfOf pdEx2) 6
        [([114], none, [1, 2]), ([97], some [49, 46, 53], []), ([101], some [50], [3, 4]),
          ([98, 32, 99], none, []), ([100], none, [])]
        ⟨some 59, [32, 40, 120, 41, 59], .eof⟩ []
      = some (5, GoErr.nil,
          [([114], none, [1, 2]), ([97], some [49, 46, 53], []), ([101], some [50], [3, 4]),
            ([98, 32, 99], none, []), ([100], none, []), ([], none, [6]), ([120], none, [])],
          ⟨some 59, [], .eof⟩, [])
    ∧ GoSrc.newick_read (pfOf pdEx2) 1
        [([114], none, [1, 2]), ([97], some [49, 46, 53], []), ([101], some [50], [3, 4]),
          ([98, 32, 99], none, []), ([100], none, []), ([], none, [6]), ([120], none, [])]
        ⟨some 59, [], .eof⟩ []
      = some (-1, GoErr.eof,
          [([114], none, [1, 2]), ([97], some [49, 46, 53], []), ([101], some [50], [3, 4]),
            ([98, 32, 99], none, []), ([100], none, []), ([], none, [6]), ([120], none, []), ([], none, [])],
          ⟨none, [], .eof⟩, [])) := by
  decide +kernel

-- … and the whole stream through `Reader`
example : allFound = false ∨ (
    goNewickDecode (pfOf pdEx2) 28
        [40, 97, 58, 49, 46, 53, 44, 40, 39, 98, 32, 99, 39, 44, 100, 41, 101, 58, 50, 41, 114, 59,
          32, 40, 120, 41, 59] .eof
      = some [Item.ok ⟨[114], none, .cons [97] (some [49, 46, 53]) .nil
            (.cons [101] (some [50]) (.cons [98, 32, 99] none .nil (.cons [100] none .nil .nil)) .nil)⟩,
          Item.ok ⟨[], none, .cons [120] none .nil .nil⟩]
    ∧ Newick.decodeSrc pdEx2 .eof
        [40, 97, 58, 49, 46, 53, 44, 40, 39, 98, 32, 99, 39, 44, 100, 41, 101, 58, 50, 41, 114, 59,
          32, 40, 120, 41, 59]
      = [Item.ok ⟨[114], none, .cons [97] (some [49, 46, 53]) .nil
            (.cons [101] (some [50]) (.cons [98, 32, 99] none .nil (.cons [100] none .nil .nil)) .nil)⟩,
          Item.ok ⟨[], none, .cons [120] none .nil .nil⟩]) := by
  decide +kernel

-- errors the model rejects too: `(a,,;` (`;` at depth 2), `);` (too many `)`), `a b;` (two names),
-- `(a,b` (EOF in the middle of a tree: `io.ErrUnexpectedEOF`), `a:x;` (a bad distance), `a:;`
example : allFound = false ∨ (
    Newick.readTree pdEx2 .eof [40, 97, 44, 44, 59] = .err
    ∧ GoSrc.newick_read (pfOf pdEx2) 6 [] ⟨none, [40, 97, 44, 44, 59], .eof⟩ []
      = some (-1, GoErr.other, [([], none, [1, 2, 3]), ([97], none, []), ([], none, []), ([], none, [])],
          ⟨some 59, [], .eof⟩, [])
    ∧ Newick.readTree pdEx2 .eof [41, 59] = .err
    ∧ GoSrc.newick_read (pfOf pdEx2) 3 [] ⟨none, [41, 59], .eof⟩ []
      = some (-1, GoErr.other, [([], none, [])], ⟨some 41, [59], .eof⟩, [])
    ∧ Newick.readTree pdEx2 .eof [97, 32, 98, 59] = .err
    ∧ GoSrc.newick_read (pfOf pdEx2) 5 [] ⟨none, [97, 32, 98, 59], .eof⟩ []
      = some (-1, GoErr.other, [([97], none, [])], ⟨none, [59], .eof⟩, [98])
    ∧ Newick.readTree pdEx2 .eof [40, 97, 44, 98] = .err
    ∧ GoSrc.newick_read (pfOf pdEx2) 5 [] ⟨none, [40, 97, 44, 98], .eof⟩ []
      = some (-1, GoErr.other, [([], none, [1, 2]), ([97], none, []), ([98], none, [])],
          ⟨none, [], .eof⟩, [])
    ∧ Newick.readTree pdEx2 .eof [97, 58, 120, 59] = .err
    ∧ GoSrc.newick_read (pfOf pdEx2) 5 [] ⟨none, [97, 58, 120, 59], .eof⟩ []
      = some (-1, GoErr.other, [([97], none, [])], ⟨none, [59], .eof⟩, [120])
    ∧ Newick.readTree pdEx2 .eof [97, 58, 59] = .err
    ∧ GoSrc.newick_read (pfOf pdEx2) 4 [] ⟨none, [97, 58, 59], .eof⟩ []
      = some (-1, GoErr.other, [([97], none, [])], ⟨some 59, [], .eof⟩, [])
    ∧ goNewickDecode (pfOf pdEx2) 9 [97, 59, 40, 97, 44, 44, 59, 98, 59] .eof
      = some [Item.ok ⟨[97], none, .nil⟩, Item.err]) := by
  decide +kernel

-- only whitespace: a clean end (`io.EOF`) — on a failing source: the read error
example : allFound = false ∨ (
    Newick.readTree pdEx2 .eof [32, 10] = .eof
    ∧ GoSrc.newick_read (pfOf pdEx2) 3 [([7], none, [])] ⟨some 1, [32, 10], .eof⟩ [5]
      = some (-1, GoErr.eof, [([7], none, []), ([], none, [])], ⟨none, [], .eof⟩, [])
    ∧ Newick.readTree pdEx2 .fail [32, 10] = .err
    ∧ GoSrc.newick_read (pfOf pdEx2) 3 [] ⟨none, [32, 10], .fail⟩ []
      = some (-1, GoErr.other, [([], none, [])], ⟨none, [], .fail⟩, [])
    -- a complete tree, then the read error
    ∧ goNewickDecode (pfOf pdEx2) 3 [97, 59] .fail = some [Item.ok ⟨[97], none, .nil⟩, Item.err]
    ∧ Newick.decodeSrc pdEx2 .fail [97, 59] = [Item.ok ⟨[97], none, .nil⟩, Item.err]) := by
  decide +kernel

-- the fuel bound: `x.length + 1` is enough, one less is not (here: a name running to the end)
example : allFound = false ∨ (
    GoSrc.newick_read (pfOf pdEx2) 3 [] ⟨none, [97, 98], .eof⟩ []
      = some (-1, GoErr.other, [([97, 98], none, [])], ⟨none, [], .eof⟩, [])
    ∧ GoSrc.newick_read (pfOf pdEx2) 2 [] ⟨none, [97, 98], .eof⟩ [] = none) := by
  decide +kernel

-- `PFNoEof` is needed (`go_read_err_never_eof_full` is false): with a `ParseFloat` whose error is
-- `io.EOF`, on `a:x;` the model says `.err` but `read()` returns that `io.EOF`, and `Reader` stops
-- silently
example : allFound = false ∨ (
    Newick.readTree pdEx2 .eof [97, 58, 120, 59] = .err
    ∧ GoSrc.newick_read pfEofEx 5 [] ⟨none, [97, 58, 120, 59], .eof⟩ []
      = some (-1, GoErr.eof, [([97], none, [])], ⟨none, [59], .eof⟩, [120])
    ∧ goNewickDecode pfEofEx 5 [97, 58, 120, 59] .eof = some []
    ∧ Newick.decodeSrc pdEx2 .eof [97, 58, 120, 59] = [Item.err]) := by
  decide +kernel

-- the round trip on C05's sample tree `((A:1,'b (c)''\n',):2.5,,(x_y)inner)root:1;`
example : Newick.QS_OK Newick.qsGo ∧ Newick.exTree.AllDist (Newick.DistOK Newick.pdEx)
    ∧ (Newick.write Newick.qsGo Newick.exTree).length + 1 ≤ 43 := by decide +kernel
example : allFound = false ∨
    goNewickDecode (pfOf Newick.pdEx) 43 (Newick.write Newick.qsGo Newick.exTree) .eof
      = some [Item.ok Newick.exTree] := by
  first
  | (left; decide)
  | exact Or.inr (go_roundtrip (by decide) (by decide) (by decide) (by decide) _ _ (pfModel_pfOf _)
      Newick.qsGo (by decide) Newick.exTree (by decide) 43 (by decide +kernel))
example : allFound = false ∨
    goNewickDecode (pfOf Newick.pdEx) 90
        (([Newick.exTree, ⟨[], none, .nil⟩, Newick.exTree].map (Newick.write Newick.qsGo)).flatten) .eof
      = some [Item.ok Newick.exTree, Item.ok ⟨[], none, .nil⟩, Item.ok Newick.exTree] := by
  first
  | (left; decide)
  | exact Or.inr (go_roundtrip_trees (by decide) (by decide) (by decide) (by decide) _ _ (pfModel_pfOf _)
      Newick.qsGo (by decide) [Newick.exTree, ⟨[], none, .nil⟩, Newick.exTree] (by decide) 90
      (by decide +kernel))

end Bio.Props.C05ReadGo

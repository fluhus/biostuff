/-
  C08 — Global and Local return valid alignments that score what they claim.

  All theorems are about the model `Bio/Model/Align.lean` (single-state
  Needleman–Wunsch / Smith–Waterman with the gap-open score charged from the
  neighbour's stored step) and hold for ALL byte strings `a b` and ALL integer
  matrices `m` (asymmetric, any sign, any gap-open), except where a hypothesis
  is stated.  Helper lemmas are in `Bio/Lemmas/Align.lean`.
-/
import Bio.Lemmas.Align
namespace Bio.Align

/-- The steps returned by Global, re-scored with the documented scoring from the
starts of `a` and `b`, consume exactly all of `a` and all of `b` (both
remainders are `[]`) and score exactly the returned score. -/
theorem global_valid (m : Mat) (a b : Bytes) :
    rescore m .none a b (globalT m a b).1 = some ((globalT m a b).2, [], []) := by
  have := (global_inv m a b (a.length + b.length + 1) a.length b.length (Nat.le_refl _)
    (Nat.le_refl _) (by omega)).1
  simpa [globalT] using this

/-- Counting form of "consumes exactly": no `.none` step is returned, matches
plus deletions number `|a|`, matches plus insertions number `|b|`. -/
theorem global_consumes (m : Mat) (a b : Bytes) :
    .none ∉ (globalT m a b).1 ∧
    a.length = (globalT m a b).1.count .mch + (globalT m a b).1.count .del ∧
    b.length = (globalT m a b).1.count .mch + (globalT m a b).1.count .ins := by
  simpa using (rescore_eq_some.1 (global_valid m a b)).consumes

/-- The invariant behind `global_valid`, for every cell: the traceback path from
`(i,j)` re-scores, on the prefixes, to the cell's score, and its last step is the
cell's stored step (so charging gap-open from the stored step is the documented
"once per run" rule). -/
theorem global_cell_invariant (m : Mat) (a b : Bytes) (i j : Nat) (hi : i ≤ a.length)
    (hj : j ≤ b.length) :
    rescore m .none (a.take i) (b.take j)
        (traceG (table m false a b) (a.length + b.length + 1) i j).reverse =
      some ((cellAt (table m false a b) i j).score, [], []) ∧
    lastStep .none (traceG (table m false a b) (a.length + b.length + 1) i j).reverse =
      (cellAt (table m false a b) i j).step :=
  global_inv m a b _ i j hi hj (by omega)

/-- Stored steps of the global table: never `.none` off the origin, and each
points at a predecessor inside the table. -/
theorem global_steps_in_table (m : Mat) (a b : Bytes) (i j : Nat) (hi : i ≤ a.length)
    (hj : j ≤ b.length) (hij : ¬ (i = 0 ∧ j = 0)) :
    ((cellAt (table m false a b) i j).step = .mch ∧ 1 ≤ i ∧ 1 ≤ j) ∨
    ((cellAt (table m false a b) i j).step = .del ∧ 1 ≤ i) ∨
    ((cellAt (table m false a b) i j).step = .ins ∧ 1 ≤ j) := by
  rcases global_step_shape m a b i j hi hj hij with ⟨h, _, _, rfl, rfl⟩ | ⟨h, _, rfl⟩ | ⟨h, _, rfl⟩
  · exact Or.inl ⟨h, by omega, by omega⟩
  · exact Or.inr (Or.inl ⟨h, by omega⟩)
  · exact Or.inr (Or.inr ⟨h, by omega⟩)

/-- The statement of `local_valid` as a proposition (the hypothesis `gapScoresNonPos m a b` is
`m GAP GAP ≤ 0 ∧ (∀ x ∈ a, m x GAP ≤ 0) ∧ (∀ y ∈ b, m GAP y ≤ 0)`). -/
def C08_local_valid_full : Prop :=
  ∀ (m : Mat) (a b : Bytes), gapScoresNonPos m a b →
    ((localT m a b).1 = [] ∧ (localT m a b).2.2.2 = 0) ∨
    (0 ≤ (localT m a b).2.1 ∧ 0 ≤ (localT m a b).2.2.1 ∧ 0 < (localT m a b).2.2.2 ∧
      ∃ ra rb, rescore m .none (a.drop (localT m a b).2.1.toNat)
        (b.drop (localT m a b).2.2.1.toNat) (localT m a b).1 =
          some ((localT m a b).2.2.2, ra, rb))

/-- Local, under non-positive gap scores: either no steps and score 0, or
non-negative start offsets, a positive score, and the returned steps — applied
from the returned offsets — stay inside `a` and `b` and score exactly the
returned score.  A first step that is a gap cannot occur,
because a gap step out of a zero cell scores ≤ 0 and the walk only visits
positive cells (see `local_first_step_match`). -/
theorem local_valid (m : Mat) (a b : Bytes) (hg : gapScoresNonPos m a b) :
    ((localT m a b).1 = [] ∧ (localT m a b).2.2.2 = 0) ∨
    (0 ≤ (localT m a b).2.1 ∧ 0 ≤ (localT m a b).2.2.1 ∧ 0 < (localT m a b).2.2.2 ∧
      ∃ ra rb, rescore m .none (a.drop (localT m a b).2.1.toNat)
        (b.drop (localT m a b).2.2.1.toNat) (localT m a b).1 =
          some ((localT m a b).2.2.2, ra, rb)) := by
  rcases localT_cases m a b hg with h | ⟨p, li, lj, mi, mj, s, h, hs, h1, _, h2, _, _, hr, _⟩
  · left; rw [h]; exact ⟨rfl, rfl⟩
  · right
    rw [h]
    refine ⟨by simp, by simp, hs, a.drop mi, b.drop mj, ?_⟩
    simpa using rescore_seg_drop hr (by omega) (by omega)

theorem C08_local_valid_full_holds : C08_local_valid_full := local_valid

/-- Sharper form: the offsets are naturals `li < mi ≤ |a|`, `lj < mj ≤ |b|`
where `(mi, mj)` is the maximal cell, the score is that cell's score, the
remainders are exactly `a.drop mi`, `b.drop mj`, and the first step is a match. -/
theorem local_valid_explicit (m : Mat) (a b : Bytes) (hg : gapScoresNonPos m a b) :
    localT m a b = ([], -1, -1, 0) ∨
    ∃ (p : List Step) (li lj mi mj : Nat) (s : Int),
      localT m a b = (p, (li : Int), (lj : Int), s) ∧ 0 < s ∧
      li < mi ∧ mi ≤ a.length ∧ lj < mj ∧ mj ≤ b.length ∧
      s = (cellAt (table m true a b) mi mj).score ∧
      rescore m .none (a.drop li) (b.drop lj) p = some (s, a.drop mi, b.drop mj) ∧
      p.head? = some .mch := by
  rcases localT_cases m a b hg with h | ⟨p, li, lj, mi, mj, s, h, hs, h1, h2, h3, h4, h5, hr, h6⟩
  · exact Or.inl h
  · exact Or.inr ⟨p, li, lj, mi, mj, s, h, hs, h1, h2, h3, h4, h5,
      rescore_seg_drop hr (by omega) (by omega), h6⟩

/-- Under non-positive gap scores a non-empty local alignment starts with a match. -/
theorem local_first_step_match (m : Mat) (a b : Bytes) (hg : gapScoresNonPos m a b)
    (hne : (localT m a b).1 ≠ []) : (localT m a b).1.head? = some .mch := by
  rcases localT_cases m a b hg with h | ⟨p, li, lj, mi, mj, s, h, _, _, _, _, _, _, _, hh⟩
  · rw [h] at hne; simp at hne
  · rw [h]; exact hh

/-- The matrix of the examples: match 2, mismatch −1, per-character gap −1,
gap-open −3; byte 255 is the gap. -/
def exM : Mat := fun x y =>
  if x == GAP && y == GAP then -3 else if x == GAP || y == GAP then -1
  else if x == y then 2 else -1

/-- The hypothesis cannot be dropped: with a positive per-character gap score
Local returns a negative offset (`Local("a", "")` = `([del], 0, -1, 1)`). -/
theorem local_needs_nonpos_gaps :
    ∃ (m : Mat) (a b : Bytes),
      ¬ (((localT m a b).1 = [] ∧ (localT m a b).2.2.2 = 0) ∨
        (0 ≤ (localT m a b).2.1 ∧ 0 ≤ (localT m a b).2.2.1 ∧ 0 < (localT m a b).2.2.2 ∧
          ∃ ra rb, rescore m .none (a.drop (localT m a b).2.1.toNat)
            (b.drop (localT m a b).2.2.1.toNat) (localT m a b).1 =
              some ((localT m a b).2.2.2, ra, rb))) := by
  refine ⟨fun x y => if y == GAP && x != GAP then 1 else 0, [97], [], ?_⟩
  have h : localT (fun x y => if y == GAP && x != GAP then 1 else 0) [97] [] =
      ([.del], 0, -1, 1) := by decide
  rw [h]
  rintro (⟨h1, _⟩ | ⟨_, h2, _⟩)
  · exact absurd h1 (by decide)
  · exact absurd h2 (by decide)

theorem local_empty (m : Mat) (a b : Bytes) :
    (argmax (table m true a b)).2.2 = 0 → localT m a b = ([], -1, -1, 0) :=
  localT_of_zero m a b

/-- "No positive cell" ⇔ the maximum is 0 ⇔ Local returns the empty answer. -/
theorem local_no_positive_cell_iff (m : Mat) (a b : Bytes) :
    (∀ i j, i ≤ a.length → j ≤ b.length → (cellAt (table m true a b) i j).score ≤ 0) ↔
      (argmax (table m true a b)).2.2 = 0 :=
  (argmax_local_zero_iff m a b).symm

theorem local_empty_iff (m : Mat) (a b : Bytes) :
    localT m a b = ([], -1, -1, 0) ↔
      ∀ i j, i ≤ a.length → j ≤ b.length → (cellAt (table m true a b) i j).score ≤ 0 := by
  rw [localT_eq_empty_iff, argmax_local_zero_iff]

theorem local_score_nonneg (m : Mat) (a b : Bytes) : 0 ≤ (localT m a b).2.2.2 := by
  rw [localT_score]; exact argmax_local_nonneg m a b

/-- The returned local score is the maximum over the table. -/
theorem local_score_is_max (m : Mat) (a b : Bytes) :
    (∀ i j, i ≤ a.length → j ≤ b.length →
      (cellAt (table m true a b) i j).score ≤ (localT m a b).2.2.2) ∧
    ∃ i j, i ≤ a.length ∧ j ≤ b.length ∧
      (localT m a b).2.2.2 = (cellAt (table m true a b) i j).score := by
  rw [localT_score]
  refine ⟨fun i j hi hj => argmax_table_max m true a b i j hi hj, _, _,
    (argmax_table_in_range m true a b).1, (argmax_table_in_range m true a b).2,
    (argmax_spec _).1⟩

theorem total_no_panic (pm : PMat) (a b : Bytes)
    (h : ∀ p ∈ needed a b, (pm p.1 p.2).isSome) :
    (globalP pm a b).isSome ∧ (localP pm a b).isSome := by
  rw [globalP_isSome pm a b h, localP_isSome pm a b h]
  exact ⟨rfl, rfl⟩

theorem needed_spec (a b : Bytes) (p : UInt8 × UInt8) :
    p ∈ needed a b ↔
      (p = (GAP, GAP) ∧ (a ≠ [] ∨ b ≠ [])) ∨ (∃ x ∈ a, p = (x, GAP)) ∨ (∃ y ∈ b, p = (GAP, y)) ∨
      (∃ x ∈ a, ∃ y ∈ b, p = (x, y)) :=
  mem_needed a b p

/-- Conversely a missing needed entry is a panic in the model. -/
theorem panic_of_missing (pm : PMat) (a b : Bytes) (p : UInt8 × UInt8) (hp : p ∈ needed a b)
    (hm : pm p.1 p.2 = none) : globalP pm a b = none ∧ localP pm a b = none := by
  have : ((needed a b).all fun p => (pm p.1 p.2).isSome) = false := by
    rw [List.all_eq_false]
    exact ⟨p, hp, by simp [hm]⟩
  simp [globalP, localP, this]

/-- The DP reads no entry outside `needed`: with all needed entries present the
result is that of ANY total matrix extending the partial one (so the filler
value used by `total` is irrelevant). -/
theorem result_independent_of_unneeded (pm : PMat) (m : Mat) (a b : Bytes)
    (h : ∀ p ∈ needed a b, pm p.1 p.2 = some (m p.1 p.2)) :
    globalP pm a b = some (globalT m a b) ∧ localP pm a b = some (localT m a b) := by
  have hs : ∀ p ∈ needed a b, (pm p.1 p.2).isSome := fun p hp => by rw [h p hp]; rfl
  have he : ∀ p ∈ needed a b, total pm p.1 p.2 = m p.1 p.2 := fun p hp => by
    simp [total, h p hp]
  rw [globalP_isSome pm a b hs, localP_isSome pm a b hs, globalT_congr _ m a b he,
    localT_congr _ m a b he]
  exact ⟨rfl, rfl⟩

/-- "ab" against "aab" with `exM`. -/
example : globalT exM [97, 98] [97, 97, 98] = ([.ins, .mch, .mch], 0) := by decide +kernel

example : rescore exM .none [97, 98] [97, 97, 98] [.ins, .mch, .mch] = some (0, [], []) := by
  decide +kernel

/-- A run of two deletions: gap-open (−3) is charged once, 2 − 1 − 3 − 1 + 2 = −1. -/
example : globalT exM [97, 98, 99, 100] [97, 100] = ([.mch, .del, .del, .mch], -1) := by
  decide +kernel

example : rescore exM .none [97, 98, 99, 100] [97, 100] [.mch, .del, .del, .mch] =
    some (-1, [], []) := by decide +kernel

example : localT exM [97, 98] [97, 97, 98] = ([.mch, .mch], 0, 1, 4) := by decide +kernel

example : rescore exM .none ([97, 98] : Bytes) (([97, 97, 98] : Bytes).drop 1) [.mch, .mch] =
    some (4, [], []) := by decide +kernel

/-- `gapScoresNonPos` is satisfiable by a matrix with non-zero gap-open. -/
example : gapScoresNonPos exM [97, 98] [97, 97, 98] := by
  refine ⟨by decide, ?_, ?_⟩ <;> decide +kernel

/-- A local alignment containing a gap (so gap-open is exercised in the local
walk): match 3, gap −1, open −1. -/
def exM2 : Mat := fun x y =>
  if x == GAP && y == GAP then -1 else if x == GAP || y == GAP then -1
  else if x == y then 3 else -3

example : localT exM2 [97, 98, 99, 100] [120, 97, 98, 100] =
    ([.mch, .mch, .del, .mch], 0, 1, 7) := by decide +kernel

example : gapScoresNonPos exM2 [97, 98, 99, 100] [120, 97, 98, 100] := by
  refine ⟨by decide, ?_, ?_⟩ <;> decide +kernel

/-- An empty local answer exists (all mismatches). -/
example : (argmax (table exM true [97] [98])).2.2 = 0 ∧ localT exM [97] [98] = ([], -1, -1, 0) := by
  decide +kernel

/-- `total_no_panic`'s hypothesis is satisfiable by a genuinely partial matrix,
and a missing entry does panic. -/
def exPM : PMat := lookup
  [((97, 97), 2), ((97, 98), -1), ((98, 97), -1), ((98, 98), 2),
   ((97, GAP), -1), ((98, GAP), -1), ((GAP, 97), -1), ((GAP, 98), -1), ((GAP, GAP), -3)]

example : ∀ p ∈ needed [97, 98] [97, 97, 98], (exPM p.1 p.2).isSome := by decide +kernel

example : globalP exPM [97, 98] [97, 97, 98] = some ([.ins, .mch, .mch], 0) := by decide +kernel

example : localP exPM [97, 98] [97, 97, 98] = some ([.mch, .mch], 0, 1, 4) := by decide +kernel

/-- Hypothesis of `result_independent_of_unneeded`: `exPM` agrees with the total `exM`. -/
example : ∀ p ∈ needed [97, 98] [97, 97, 98], exPM p.1 p.2 = some (exM p.1 p.2) := by decide +kernel

example : (99, GAP) ∈ needed [97, 99] [97] ∧ exPM 99 GAP = none ∧
    globalP exPM [97, 99] [97] = none := by decide +kernel

end Bio.Align

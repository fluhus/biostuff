/-
  C18 — early stop of the callback / range-over-func iterators: once the
  consumer returns `false` it is never called again, and what it saw is a
  prefix of the uninterrupted run.  Covered: newick `traverse`, trie `ForEach`,
  sequtil `CanonicalSubsequences`, and the generic adapter (`runIter`,
  `takeThrough`) used for the decoder iterators.
-/
import Bio.Props.C19
import Bio.Lemmas.Iter
import Bio.Model.Sequtil

/-! ## Generic adapter facts -/

namespace Bio

/-- A consumer that breaks after `j` items sees a prefix of the full run. -/
theorem runIter_prefix {α : Type} (items : List α) (j : Nat) : runIter items j <+: items :=
  List.take_prefix j items

theorem runIter_length {α : Type} (items : List α) (j : Nat) :
    (runIter items j).length = min j items.length := by
  simp [runIter]

theorem takeThrough_prefix {α : Type} (p : α → Bool) (l : List α) : takeThrough p l <+: l :=
  takeThrough_isPrefix p l

/-- Every element handed over except the last did not trigger the stop. -/
theorem takeThrough_no_call_after {α : Type} (p : α → Bool) (l : List α) :
    ∀ x ∈ (takeThrough p l).dropLast, p x = false :=
  takeThrough_dropLast p l

/-- In consumer form: every call but the last returned `true`. -/
theorem consumer_true_before_last {α : Type} (f : α → Bool) (l : List α) :
    ∀ x ∈ (takeThrough (fun x => !f x) l).dropLast, f x = true := by
  intro x hx
  simpa using takeThrough_dropLast (fun x => !f x) l x hx

/-- A consumer that never stops sees everything. -/
theorem takeThrough_all {α : Type} (l : List α) : takeThrough (fun _ => false) l = l :=
  takeThrough_false l

/-- If nothing triggers the stop, nothing is cut. -/
theorem takeThrough_of_all_false {α : Type} (p : α → Bool) (l : List α)
    (h : ∀ x ∈ l, p x = false) : takeThrough p l = l := by
  induction l with
  | nil => rfl
  | cons x xs ih =>
    rw [takeThrough_cons, h x (by simp), ih fun y hy => h y (by simp [hy])]
    simp

example : ∀ x ∈ [1, 2, 3], (fun n : Nat => n == 7) x = false := by decide

/-- If something triggers the stop, the last element handed over did. -/
theorem takeThrough_last_stops {α : Type} (p : α → Bool) (l : List α)
    (h : ∃ x ∈ l, p x = true) : ∃ y, (takeThrough p l).getLast? = some y ∧ p y = true := by
  induction l with
  | nil => simp at h
  | cons x xs ih =>
    rw [takeThrough_cons]
    cases hp : p x with
    | true => exact ⟨x, by simp, hp⟩
    | false =>
      obtain ⟨z, hz, hpz⟩ := h
      have hz' : z ∈ xs := by
        rcases List.mem_cons.1 hz with rfl | hz
        · simp [hp] at hpz
        · exact hz
      obtain ⟨y, hy, hpy⟩ := ih ⟨z, hz', hpz⟩
      refine ⟨y, ?_, hpy⟩
      simp only [Bool.false_eq_true, ↓reduceIte]
      cases hq : takeThrough p xs with
      | nil => simp [hq] at hy
      | cons a as => rw [List.getLast?_cons_cons, ← hq]; exact hy

example : ∃ x ∈ [1, 2, 3, 2, 5], (fun n : Nat => n == 2) x = true := by decide
example : takeThrough (fun n : Nat => n == 2) [1, 2, 3, 2, 5] = [1, 2] := by decide
example : runIter [1, 2, 3, 2, 5] 3 = [1, 2, 3] := by decide

end Bio

/-! ## Newick `traverse` -/

namespace Bio.Newick

/-- `traverse_log` (C19). -/
theorem traverse_early_stop (pre : Bool) (f : Tree → Bool) (t : Tree) :
    traverse pre f t
      = takeThrough (fun x => !f x) (if pre then preRec t else postRec t) :=
  traverse_log pre f t

/-- What an early-stopping consumer saw is a prefix of the full iteration. -/
theorem traverse_prefix (pre : Bool) (f : Tree → Bool) (t : Tree) :
    traverse pre f t <+: (if pre then preOrder t else postOrder t) := by
  rw [traverse_log]
  cases pre
  · simpa [postOrder_eq] using takeThrough_prefix _ _
  · simpa [preOrder_eq] using takeThrough_prefix _ _

theorem traverse_true_before_last (pre : Bool) (f : Tree → Bool) (t : Tree) :
    ∀ x ∈ (traverse pre f t).dropLast, f x = true := by
  rw [traverse_log]; exact consumer_true_before_last f _

end Bio.Newick

/-! ## Trie `ForEach` -/

namespace Bio.Trie

/-- `ForEach` with consumer `f` hands over the leaf paths in edge order, cut
right after the first one on which `f` returns `false`. -/
theorem forEachLog_eq (f : Bytes → Bool) (t : T) :
    forEachLog f t = takeThrough (fun x => !f x) (leaves t) :=
  eachLoop_start f t _ (by omega)

theorem members_eq_leaves (t : T) : members t = leaves t := by
  simp [members, forEachLog_eq, takeThrough_false]

/-- The root (empty path) is never reported. -/
theorem nil_not_mem_leaves (t : T) : [] ∉ leaves t := by
  intro h
  have := leavesFrom_ne_nil [] t [] h
  simp at this

theorem nil_not_mem_forEachLog (f : Bytes → Bool) (t : T) : [] ∉ forEachLog f t := by
  intro h
  rw [forEachLog_eq] at h
  exact nil_not_mem_leaves t ((takeThrough_prefix _ _).subset h)

theorem forEachLog_prefix (f : Bytes → Bool) (t : T) : forEachLog f t <+: members t := by
  rw [forEachLog_eq, members_eq_leaves]; exact takeThrough_prefix _ _

theorem forEachLog_true_before_last (f : Bytes → Bool) (t : T) :
    ∀ x ∈ (forEachLog f t).dropLast, f x = true := by
  rw [forEachLog_eq]; exact consumer_true_before_last f _

/-- The fuel `2 * size + 2` is enough: any larger fuel gives the same log. -/
theorem eachLoop_fuel (f : Bytes → Bool) (t : T) (fuel : Nat) (h : 2 * t.size + 2 ≤ fuel) :
    eachLoop f fuel [(t.isNil, t)] [] = forEachLog f t := by
  rw [forEachLog_eq, eachLoop_start f t fuel (by omega)]

/-- The trie holding "ab", "ac", "d". -/
def exTrie : T := add [100] (add [97, 99] (add [97, 98] .nil))

example : 2 * exTrie.size + 2 ≤ 100 := by decide
example : members exTrie = [[97, 98], [97, 99], [100]] := by decide
example : leaves exTrie = [[97, 98], [97, 99], [100]] := by decide
/-- A consumer that stops at the 2nd member is not called for the 3rd. -/
example : forEachLog (fun s => s != [97, 99]) exTrie = [[97, 98], [97, 99]] := by decide
example : forEachLog (fun _ => false) exTrie = [[97, 98]] := by decide
example : members .nil = [] := by decide

end Bio.Trie

/-! ## Sequtil `CanonicalSubsequences` -/

namespace Bio.Sequtil

theorem canonLoop_eq (f : Bytes → Bool) (seq rc : Bytes) (k i n : Nat) :
    canonLoop f seq rc k i n
      = takeThrough (fun x => !f x) ((List.range n).map fun j => canonItem seq rc k (i + j)) := by
  induction n generalizing i with
  | zero => simp [canonLoop, takeThrough]
  | succ n ih =>
    rw [List.range_succ_eq_map]
    simp only [canonLoop, List.map_cons, List.map_map, takeThrough_cons, Nat.add_zero, ih (i + 1)]
    have : ((fun j => canonItem seq rc k (i + j)) ∘ Nat.succ)
        = fun j => canonItem seq rc k (i + 1 + j) := by
      funext j; simp only [Function.comp, Nat.succ_eq_add_one]; congr 1; omega
    rw [this]
    cases f (canonItem seq rc k i) <;> simp

/-- With a consumer, the log is the uninterrupted item list cut right after the
first `false`; it panics (`none`) exactly when the uninterrupted run does. -/
theorem canonicalLog_eq (tbl : List UInt8) (f : Bytes → Bool) (seq : Bytes) (k : Nat) :
    canonicalLog tbl f seq k = (canonical tbl seq k).map (takeThrough (fun x => !f x)) := by
  unfold canonical canonicalLog
  cases revComp tbl [] seq with
  | none => rfl
  | some rc => simp [canonLoop_eq, takeThrough_false]

/-- The uninterrupted run, explicitly. -/
theorem canonical_eq (tbl : List UInt8) (seq : Bytes) (k : Nat) :
    canonical tbl seq k = (revComp tbl [] seq).map fun rc =>
      (List.range (seq.length + 1 - k)).map fun j => canonItem seq rc k j := by
  unfold canonical canonicalLog
  cases revComp tbl [] seq with
  | none => rfl
  | some rc => simp [canonLoop_eq, takeThrough_false]

theorem canonical_length (tbl : List UInt8) (seq : Bytes) (k : Nat) (items : List Bytes)
    (h : canonical tbl seq k = some items) : items.length = seq.length + 1 - k := by
  rw [canonical_eq] at h
  cases hrc : revComp tbl [] seq with
  | none => simp [hrc] at h
  | some rc =>
    simp only [hrc, Option.map_some, Option.some.injEq] at h
    subst h; simp

/-- Hypothesis-free form of `canonical_length`. -/
theorem canonical_length' (tbl : List UInt8) (seq : Bytes) (k : Nat) :
    (canonical tbl seq k).map List.length
      = (revComp tbl [] seq).map fun _ => seq.length + 1 - k := by
  rw [canonical_eq]
  cases revComp tbl [] seq <;> simp

/-- A complement table for `ACGT` only. -/
def exTbl : List UInt8 :=
  (List.range 256).map fun i =>
    if i = 65 then 84 else if i = 67 then 71 else if i = 71 then 67 else if i = 84 then 65 else 0

-- "AACG", k = 2: 3 items; revcomp = "CGTT"
example : canonical exTbl [65, 65, 67, 71] 2 = some [[65, 65], [65, 67], [67, 71]] := by
  decide +kernel
example : canonicalLog exTbl (fun s => s != [65, 67]) [65, 65, 67, 71] 2
    = some [[65, 65], [65, 67]] := by
  decide +kernel
example : canonical exTbl [65, 66] 1 = none := by decide +kernel

end Bio.Sequtil

/-
  C05 for the Go SOURCE TEXT: the newick name codec (`quoted`, `nameFromText`, `nameToText` of
  formats/newick/newick.go), as translated on every run into `Bio.Generated.GoSrc`, computes the
  hand-written model of `Bio.Model.Newick` on the quote set observed from the running code, and
  therefore round-trips EVERY byte string.  Guarded by the translator's `<f>_Found` flags.
-/
import Bio.Lemmas.GoSrcNewick
import Bio.Props.C05Inst
namespace Bio.Props.C05Go
open Bio Bio.Generated Bio.GoSrcLemmas

/-- every translator flag this file depends on; the non-vacuity examples below are stated as
`allFound = false ∨ …` so that a source the translator no longer recognises is not an alarm -/
def allFound : Bool := GoSrc.quoted_Found && GoSrc.nameFromText_Found && GoSrc.nameToText_Found

/-- The string literal in the source of `nameToText` holds exactly the bytes the running code quotes
(observed through `Write` on all 256 one-byte names). -/
theorem source_quote_set : GoSrc.nameToText_Found = true →
    ∀ x : UInt8, GoSrc.nameToText_lit0.contains x = Generated.newickQuoteBytes.contains x :=
  fun h x => nameToText_lit0_contains h x

theorem go_quoted : GoSrc.quoted_Found = true → ∀ s : Bytes, GoSrc.quoted s = some (Newick.quoted s) :=
  fun h s => quoted_eq h s

theorem go_nameFromText : GoSrc.nameFromText_Found = true → GoSrc.quoted_Found = true →
    ∀ s : Bytes, GoSrc.nameFromText s = some (Newick.nameFromText s) :=
  fun h hq s => nameFromText_eq h hq s

theorem go_nameToText : GoSrc.nameToText_Found = true →
    ∀ s : Bytes, GoSrc.nameToText s = some (Newick.nameToText Generated.newickQuoteBytes s) :=
  fun h s => nameToText_eq_observed h s

/-- The source-level statement of C05's name clause: for EVERY byte string, writing a name with the
translated `nameToText` and reading it with the translated `nameFromText` gives the name back, and
neither function panics. -/
theorem go_name_roundtrip : GoSrc.nameToText_Found = true → GoSrc.nameFromText_Found = true →
    GoSrc.quoted_Found = true →
    ∀ s : Bytes, (GoSrc.nameToText s).bind GoSrc.nameFromText = some s := by
  intro h1 h2 h3 s
  rw [go_nameToText h1 s, Option.bind_some, go_nameFromText h2 h3, Newick.generated_name_roundtrip]

example : allFound = false ∨ (allFound = true) := by decide +kernel
-- "it's a" is quoted with the quote doubled; "a b" gets an underscore; a lone quote is not a quoted name
example : allFound = false ∨ (GoSrc.nameToText [105, 116, 39, 115, 32, 97] = some [39, 105, 116, 39, 39, 115, 32, 97, 39]
    ∧ GoSrc.nameToText [97, 32, 98] = some [97, 95, 98]
    ∧ GoSrc.nameFromText [39] = some [39]
    ∧ GoSrc.quoted [] = some false) := by decide +kernel

end Bio.Props.C05Go

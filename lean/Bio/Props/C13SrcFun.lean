/-
  Source-level tie for C13: `Iton` (sequtil/sequtil.go), translated from the Go
  source on every run by the go/ast extractor (`Generated.Src`; nothing is claimed when it does not
  recognise the function's shape), IS the model's `iton` for every int.
-/
import Bio.Model.Sequtil
import Bio.Generated.Src
namespace Bio.SrcFacts
open Bio.Generated

theorem iton_is_model :
    Src.itonFound = true → ∀ n : Int, Src.iton n = ((Bio.Sequtil.iton n).toNat : Int) := by
  intro h
  first
    | exact absurd h (by decide)
    | (intro n
       unfold Src.iton Bio.Sequtil.iton
       by_cases h0 : n = 0 <;> by_cases h1 : n = 1 <;> by_cases h2 : n = 2 <;> by_cases h3 : n = 3 <;>
         simp [h0, h1, h2, h3] <;> omega)

end Bio.SrcFacts

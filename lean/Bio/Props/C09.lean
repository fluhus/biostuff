/-
  C09 — with a zero gap-open score (`m GAP GAP = 0`) Global and Local are
  optimal; Levenshtein = edit distance; for a symmetric matrix Global scores
  `(a, b)` and `(b, a)` alike.

  Specification used here (independent of the DP): an alignment of `a` and `b`
  is a step list `s` with `rescore m .none a b s = some (v, [], [])` (it consumes
  both strings exactly); `v` is its score under the documented scoring.

  Helper lemmas: `Bio/Lemmas/AlignOpt.lean` (namespace `Bio.Align.Opt`); `editDistance` and `levMat`
  are defined in `Bio/Lemmas/AlignLev.lean`.  Attainment ("the returned score is the score of an
  alignment") is `global_valid` of `Bio/Props/C08.lean`.
-/
import Bio.Lemmas.AlignLev
import Bio.Props.C08
namespace Bio.Align

/-- No alignment of `a` and `b` scores more than the score returned by Global. -/
theorem global_optimal_zero_open (m : Mat) (a b : Bytes) (h0 : m GAP GAP = 0) :
    ∀ s v, rescore m .none a b s = some (v, [], []) → v ≤ (globalT m a b).2 :=
  fun s v h => Opt.global_opt_zero m a b h0 s v h

/-- Combined with `global_valid`: the returned score is the maximum over all
alignments, attained by the returned steps. -/
theorem global_is_max_zero_open (m : Mat) (a b : Bytes) (h0 : m GAP GAP = 0) :
    rescore m .none a b (globalT m a b).1 = some ((globalT m a b).2, [], []) ∧
    ∀ s v, rescore m .none a b s = some (v, [], []) → v ≤ (globalT m a b).2 :=
  ⟨global_valid m a b, global_optimal_zero_open m a b h0⟩

/-- A matrix with zero gap-open, non-trivial substitution and gap scores. -/
def zeroOpenMat : Mat := fun x y =>
  if x = GAP ∧ y = GAP then 0 else if x = GAP ∨ y = GAP then -2 else if x = y then 3 else -1

example : zeroOpenMat GAP GAP = 0 := by decide

example : globalT zeroOpenMat [97, 98, 99, 100] [97, 100] = ([.mch, .del, .del, .mch], 2) := by
  decide +kernel

/-- A competing alignment (hypothesis of the theorem is satisfiable non-trivially). -/
example : rescore zeroOpenMat .none [97, 98, 99, 100] [97, 100] [.mch, .mch, .del, .del]
    = some (-2, [], []) := by decide +kernel

/-- No alignment of any substring `a[i..i')` with any substring `b[j..j')` scores
more than the score returned by Local; and that score is non-negative.  No sign condition on the gap
scores is needed. -/
theorem local_optimal_zero_open' (m : Mat) (a b : Bytes) (h0 : m GAP GAP = 0) :
    (∀ i i' j j', i ≤ i' → i' ≤ a.length → j ≤ j' → j' ≤ b.length →
      ∀ s v, rescore m .none ((a.drop i).take (i' - i)) ((b.drop j).take (j' - j)) s
          = some (v, [], []) →
        v ≤ (localT m a b).2.2.2) ∧
    0 ≤ (localT m a b).2.2.2 :=
  ⟨fun i i' j j' hi hi' hj hj' s v h => Opt.local_opt_zero m a b h0 i i' j j' hi hi' hj hj' s v h,
   local_score_nonneg m a b⟩

/-- The same with sign hypotheses on the gap scores; the proof does not use them. -/
theorem local_optimal_zero_open (m : Mat) (a b : Bytes) (h0 : m GAP GAP = 0)
    (_hg : ∀ x ∈ a, m x GAP ≤ 0) (_hg' : ∀ y ∈ b, m GAP y ≤ 0) :
    (∀ i i' j j', i ≤ i' → i' ≤ a.length → j ≤ j' → j' ≤ b.length →
      ∀ s v, rescore m .none ((a.drop i).take (i' - i)) ((b.drop j).take (j' - j)) s
          = some (v, [], []) →
        v ≤ (localT m a b).2.2.2) ∧
    0 ≤ (localT m a b).2.2.2 :=
  local_optimal_zero_open' m a b h0

/-- Combined with `localT_attained`: under the stated hypotheses the
returned score is the maximum over all alignments of all substring pairs — it is
itself the score of such an alignment (the empty alignment of empty substrings
when it is 0). -/
theorem local_is_max_zero_open (m : Mat) (a b : Bytes) (h0 : m GAP GAP = 0)
    (hg : ∀ x ∈ a, m x GAP ≤ 0) (hg' : ∀ y ∈ b, m GAP y ≤ 0) :
    (∃ i i' j j' s, i ≤ i' ∧ i' ≤ a.length ∧ j ≤ j' ∧ j' ≤ b.length ∧
      rescore m .none ((a.drop i).take (i' - i)) ((b.drop j).take (j' - j)) s
        = some ((localT m a b).2.2.2, [], [])) ∧
    (∀ i i' j j', i ≤ i' → i' ≤ a.length → j ≤ j' → j' ≤ b.length →
      ∀ s v, rescore m .none ((a.drop i).take (i' - i)) ((b.drop j).take (j' - j)) s
          = some (v, [], []) →
        v ≤ (localT m a b).2.2.2) :=
  ⟨localT_attained m a b ⟨by omega, hg, hg'⟩, (local_optimal_zero_open' m a b h0).1⟩

example : (∀ x ∈ ([120, 97, 98, 99, 100] : Bytes), zeroOpenMat x GAP ≤ 0) ∧
    (∀ y ∈ ([97, 98, 100, 121] : Bytes), zeroOpenMat GAP y ≤ 0) := by decide

example : localT zeroOpenMat [120, 97, 98, 99, 100] [97, 98, 100, 121]
    = ([.mch, .mch, .del, .mch], 1, 0, 7) := by decide +kernel

/-- A substring pair alignment as quantified in the theorem: `a[1..3)`, `b[0..2)`. -/
example : rescore zeroOpenMat .none
    ((([120, 97, 98, 99, 100] : Bytes).drop 1).take (3 - 1))
    ((([97, 98, 100, 121] : Bytes).drop 0).take (2 - 0)) [.mch, .mch] = some (6, [], []) := by
  decide +kernel

theorem levenshtein_is_edit_distance (a b : Bytes) (ha : GAP ∉ a) (hb : GAP ∉ b) :
    (globalT levMat a b).2 = -(editDistance a b : Int) := by
  apply Int.le_antisymm
  · exact lev_le_ed (rescore_eq_some.1 (global_valid levMat a b)) rfl rfl ha hb
  · obtain ⟨s, hs⟩ := lev_attains_ed a b ha hb
    exact Opt.global_opt_zero levMat a b levMat_gap_gap s _ (rescore_eq_some.2 hs)

/-- "kitten" → "sitting": distance 3. -/
example : editDistance [107, 105, 116, 116, 101, 110] [115, 105, 116, 116, 105, 110, 103] = 3 := by
  simp [editDistance]

example : GAP ∉ ([107, 105, 116, 116, 101, 110] : Bytes) ∧
    GAP ∉ ([115, 105, 116, 116, 105, 110, 103] : Bytes) := by decide

example : (globalT levMat [107, 105, 116, 116, 101, 110] [115, 105, 116, 116, 105, 110, 103]).2
    = -3 := by decide +kernel

/-- The hypothesis is needed: a byte 255 inside a string is deleted for free. -/
example : (globalT levMat [255] []).2 = 0 ∧ editDistance [255] [] = 1 := by
  constructor
  · decide +kernel
  · simp [editDistance]

/-- Only the score of Global, only for a symmetric matrix with zero gap-open (the proof goes through
optimality); the returned steps need not be mirror images. -/
theorem swap_symmetric (m : Mat) (a b : Bytes) (hs : ∀ x y, m x y = m y x)
    (h0 : m GAP GAP = 0) : (globalT m a b).2 = (globalT m b a).2 := by
  apply Int.le_antisymm
  · exact Opt.swap_le m a b hs h0 _ _ (global_valid m a b)
  · exact Opt.swap_le m b a hs h0 _ _ (global_valid m b a)

/-- `zeroOpenMat` and `levMat` are symmetric with zero gap-open. -/
example : (∀ x y, zeroOpenMat x y = zeroOpenMat y x) ∧ zeroOpenMat GAP GAP = 0 := by
  refine ⟨?_, by decide⟩
  intro x y
  simp only [zeroOpenMat, and_comm, or_comm, eq_comm]

example : (∀ x y, levMat x y = levMat y x) ∧ levMat GAP GAP = 0 := by
  refine ⟨?_, by decide⟩
  intro x y
  simp only [levMat, eq_comm]

example : (globalT zeroOpenMat [97, 98, 99, 100] [97, 100]).2 = 2 ∧
    (globalT zeroOpenMat [97, 100] [97, 98, 99, 100]).2 = 2 := by decide +kernel

end Bio.Align

/-
  C13 for the tables regenerated from /repo (Ntoi, DNAFrom2Bit expansion, Iton samples).
-/
import Bio.Props.C13
import Bio.Generated.Tables
namespace Bio.Sequtil

theorem generated_ntoiTable_ok : ntoiTableOK Generated.ntoiTable = true := by
  -- `exNtoiTable` is the tabulation (`exNtoiTable_ok`): compare the two literals
  rw [ntoiTableOK, ← eq_of_beq exNtoiTable_ok]; decide +kernel
theorem generated_from2bitTable_ok : from2bitTableOK Generated.from2bitTable = true := by decide +kernel

/-- `Iton` as observed on -3..6 agrees with the model's `iton`. -/
theorem generated_iton_ok : Generated.itonSamples.all (fun p => iton p.1 == p.2) = true := by decide +kernel

theorem generated_to2bit_from2bit (p : Bytes) :
    to2bit Generated.ntoiTable [] (from2bit Generated.from2bitTable [] p) = some p :=
  to2bit_from2bit generated_ntoiTable_ok generated_from2bitTable_ok p

theorem generated_to2bit_spec (dst s : Bytes) (hs : ∀ b ∈ s, isDNA b = true) :
    to2bit Generated.ntoiTable dst s = some (dst ++ pack s) :=
  to2bit_spec generated_ntoiTable_ok dst s hs

example : (∀ b ∈ ([97, 67, 103, 84] : Bytes), isDNA b = true) := by decide

end Bio.Sequtil

/-
  C13 for the Go SOURCE TEXT: the functions `Ntoi`, `Iton`, `DNATo2Bit`, `DNAFrom2Bit` and the two
  `init` functions of sequtil/sequtil.go, as translated on every run into `Bio.Generated.GoSrc`,
  compute the hand-written models of `Bio.Model.Sequtil` on the tables observed from the running Go
  code (`Bio.Generated.Tables`), and the `init` functions build exactly those tables.
  Every theorem is guarded by the translator's `<f>_Found` flags (see `Bio.Lemmas.GoSrc`).
-/
import Bio.Lemmas.GoSrc
import Bio.Props.C13Inst
namespace Bio.Props.C13Go
open Bio Bio.Generated Bio.GoSrcLemmas

/-- every translator flag this file depends on; the non-vacuity examples below are stated as
`allFound = false ∨ …` so that a source the translator no longer recognises is not an alarm -/
def allFound : Bool := GoSrc.init_0_Found && GoSrc.init_1_Found && GoSrc.Ntoi_Found && GoSrc.Iton_Found && GoSrc.DNATo2Bit_Found && GoSrc.DNAFrom2Bit_Found

/-- `init` #0 builds the observed `ntoi` and `complementBytes` tables. -/
theorem init_tables : GoSrc.init_0_Found = true →
    GoSrc.init_0 = some (Generated.ntoiTable, Generated.compTable) := by
  intro h
  first
  | exact absurd h (by decide)
  | (unfold GoSrc.init_0
     -- the fill loop symbolically, the 18 assignments on the literal
     simp only [forIn_fill]
     decide +kernel)

/-- `init` #1 builds the observed `dnaFrom2bit` table. -/
theorem init_from2bit : GoSrc.init_1_Found = true → GoSrc.Iton_Found = true →
    GoSrc.init_1 = some Generated.from2bitTable := by
  intro h h'
  rw [init_1_eq h h', eq_of_beq Sequtil.generated_from2bitTable_ok]

example : allFound = false ∨ (GoSrc.init_0_Found = true ∧ GoSrc.init_1_Found = true) := by decide

theorem go_Ntoi : GoSrc.Ntoi_Found = true →
    ∀ b : UInt8, GoSrc.Ntoi Generated.ntoiTable b = some (Sequtil.ntoi Generated.ntoiTable b) :=
  fun hF b => Ntoi_eq hF Generated.ntoiTable (Sequtil.ntoiTable_length Sequtil.generated_ntoiTable_ok) b

example : allFound = false ∨ (GoSrc.Ntoi_Found = true) := by decide
example : allFound = false ∨ (GoSrc.Ntoi Generated.ntoiTable 71 = some 2 ∧ GoSrc.Ntoi Generated.ntoiTable 78 = some (-1)) := by decide

theorem go_Iton : GoSrc.Iton_Found = true → ∀ n : Int, GoSrc.Iton n = some (Sequtil.iton n) :=
  fun hF n => Iton_eq hF n

example : allFound = false ∨ (GoSrc.Iton_Found = true) := by decide
example : allFound = false ∨ (GoSrc.Iton 2 = some 71 ∧ GoSrc.Iton (-5) = some 78) := by decide

theorem go_DNATo2Bit : GoSrc.DNATo2Bit_Found = true → GoSrc.Ntoi_Found = true →
    ∀ dst src : Bytes,
      GoSrc.DNATo2Bit Generated.ntoiTable dst src = Sequtil.to2bit Generated.ntoiTable dst src :=
  fun hF hN dst src =>
    DNATo2Bit_eq hF hN Generated.ntoiTable (Sequtil.ntoiTable_length Sequtil.generated_ntoiTable_ok)
      (Sequtil.ntoiTable_range Sequtil.generated_ntoiTable_ok) dst src

example : allFound = false ∨ (GoSrc.DNATo2Bit_Found = true ∧ GoSrc.Ntoi_Found = true) := by decide
example : allFound = false ∨ (GoSrc.DNATo2Bit Generated.ntoiTable [7] [65, 67, 71, 84, 116] = some [7, 27, 192]
    ∧ GoSrc.DNATo2Bit Generated.ntoiTable [] [65, 78] = none) := by decide

theorem go_DNAFrom2Bit : GoSrc.DNAFrom2Bit_Found = true →
    ∀ dst src : Bytes,
      GoSrc.DNAFrom2Bit Generated.from2bitTable dst src
        = some (Sequtil.from2bit Generated.from2bitTable dst src) :=
  fun hF dst src =>
    DNAFrom2Bit_eq hF Generated.from2bitTable (Sequtil.from2bitTable_length Sequtil.generated_from2bitTable_ok) dst src

example : allFound = false ∨ (GoSrc.DNAFrom2Bit_Found = true) := by decide
example : allFound = false ∨ (GoSrc.DNAFrom2Bit Generated.from2bitTable [7] [27, 192] = some [7, 65, 67, 71, 84, 84, 65, 65, 65]) := by decide

end Bio.Props.C13Go

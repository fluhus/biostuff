/-
  C20 (with the C11 and C07 clauses for this decoder) for the Go SOURCE TEXT of
  formats/smtext/smtext.go: `ReadNCBI` and `extractSingleChar`, as translated on every run into
  `Bio.Generated.GoSrc.smtext_ReadNCBI` / `extractSingleChar`.

  `strconv.ParseFloat` is a PARAMETER `pf` of the translated function (nothing is assumed about
  it); the scanner is a `ScanRd` (the line tokens still to come and how the source ends); the
  result map `map[[2]byte]float64` is an association list keyed by two-element lists, compared
  with the hand model's `Matrix.M` extensionally (`mapHas` / `mapGet` at every key, as in
  `Bio.Props.C20Go`), because the hand model keeps its list sorted and the Go side keeps
  insertion order.  `none` = the Go code panics.

  The hand model enters as `readRowsP`, `Matrix.readRows` with the score parser as a parameter
  (`readRowsP_parseQuarter`: at `Matrix.parseQuarter` it IS `readRows`).  C11 "arbitrary bytes never
  panic" is `go_readNCBI_total`, C07 "a failing stream is reported" is `go_readNCBI_fail`.

  Every error return is exactly `([], GoErr.other)` (the Go code returns a nil map with each
  error, and the translation has a single non-EOF error value), so the "error" conclusions are
  stated as that equation (`err ≠ nil` follows, `go_readNCBI_refines` spells it out); the map
  conclusion also gives `WF gm` (keys of length 2 AND pairwise distinct).  The nil-vs-empty point:
  Go's `chars == nil` is translated as `len chars == 0`; the model's `Option (List UInt8)` is `none`
  exactly when the list is empty (`if cs.isEmpty then none else some cs`), so the loop invariant
  relates `chars` to `co chars = if chars.isEmpty then none else some chars`
  (`Bio.GoSrcLemmas.NcbiGo.loop_refines`); a header row consisting of blanks only leaves both
  sides waiting for a header.

  Every theorem is guarded by the translator's `<f>_Found` flags (see `Bio.Lemmas.GoSrc`).
-/
import Bio.Lemmas.GoSrcNcbi
namespace Bio.Props.C20NcbiGo
open Bio Bio.GoRt Bio.Generated Bio.GoSrcLemmas.MxGo Bio.GoSrcLemmas.NcbiGo

/-- every translator flag this file depends on; the non-vacuity examples below are stated as
`allFound = false ∨ …` so that a source the translator no longer recognises is not an alarm -/
def allFound : Bool := GoSrc.extractSingleChar_Found && GoSrc.smtext_ReadNCBI_Found

example : allFound = false ∨
    (GoSrc.extractSingleChar_Found = true ∧ GoSrc.smtext_ReadNCBI_Found = true) := by decide

/-- `extractSingleChar` never panics and is the model's `singleChar`. -/
theorem go_extractSingleChar_eq : GoSrc.extractSingleChar_Found = true →
    ∀ s : List UInt8, GoSrc.extractSingleChar s
      = some (match Matrix.singleChar s with
              | some c => (c, GoErr.nil)
              | none => (0, GoErr.other)) := by
  intro hF s
  exact extractSingleChar_eq hF s

example : allFound = false ∨
    (GoSrc.extractSingleChar [42] = some (255, GoErr.nil) ∧
     GoSrc.extractSingleChar [65] = some (65, GoErr.nil) ∧
     GoSrc.extractSingleChar [] = some (0, GoErr.other) ∧
     GoSrc.extractSingleChar [65, 66] = some (0, GoErr.other)) := by decide

/-- GoRt's `regexp.MustCompile(`\S+`).FindAllString(s, -1)` is the model's `fields`. -/
theorem go_nonSpaceFields_eq : ∀ s : List UInt8, nonSpaceFields s = Matrix.fields s :=
  nonSpaceFields_eq

example : nonSpaceFields [32, 32, 65, 9, 32, 42, 66, 13] = [[65], [42, 66]] := by decide

/-- For every score parser, every token list and either ending the translated `ReadNCBI` returns
(`none` would be a run-time panic: index or slice out of range). -/
theorem go_readNCBI_total : GoSrc.smtext_ReadNCBI_Found = true → GoSrc.extractSingleChar_Found = true →
    ∀ (pf : List UInt8 → Int → Int × GoErr) (r : ScanRd), GoSrc.smtext_ReadNCBI pf r ≠ none := by
  intro hF hE pf r
  rw [ReadNCBI_eq hF hE]
  exact Option.some_ne_none _

/-- The model's scan loop with the score parser as a parameter is `Matrix.readRows` at the
model's own parser. -/
theorem readRowsP_parseQuarter (chars : Option (List UInt8)) (ls : List Bytes) (m : Matrix.M) :
    readRowsP Matrix.parseQuarter chars ls m = Matrix.readRows chars ls m :=
  Bio.GoSrcLemmas.NcbiGo.readRowsP_parseQuarter chars ls m

/-- `readRowsP` at the end of input; on a line it is the text of `Matrix.readRows` with `pf` for
`parseQuarter` (`Bio.Lemmas.GoSrcNcbi`). -/
example (pf : Bytes → Option Int) (chars : Option (List UInt8)) (m : Matrix.M) :
    readRowsP pf chars [] m = some m := readRowsP_nil pf chars m

/-- For every score parser `pf` (a value and an error, as `strconv.ParseFloat(val, 64)`) and every
list of line tokens `ls`, with `pf' s = some value` exactly when `pf s 64` reports `nil`:

* if the hand model fails on `ls`, `ReadNCBI` returns `([], err)` with `err ≠ nil`, however the
  stream ends;
* if the hand model yields `m`, then under a failing stream `ReadNCBI` returns `([], err)` with
  `err ≠ nil`, and at a clean end of input it returns `(gm, nil)` where `gm` is a well-formed Go
  map (every key has length 2, keys pairwise distinct) that is `m` at every key. -/
theorem go_readNCBI_refines : GoSrc.smtext_ReadNCBI_Found = true → GoSrc.extractSingleChar_Found = true →
    ∀ (pf : List UInt8 → Int → Int × GoErr) (ls : List Bytes),
      let pf' : List UInt8 → Option Int :=
        fun s => if (pf s 64).2 = GoErr.nil then some (pf s 64).1 else none
      (readRowsP pf' none ls [] = none →
        ∀ e : Ending, ∃ err, GoSrc.smtext_ReadNCBI pf ⟨ls, e⟩ = some ([], err) ∧ err ≠ GoErr.nil ∧
          err = GoErr.other) ∧
      (∀ m, readRowsP pf' none ls [] = some m →
        (∃ err, GoSrc.smtext_ReadNCBI pf ⟨ls, .fail⟩ = some ([], err) ∧ err ≠ GoErr.nil ∧
          err = GoErr.other) ∧
        ∃ gm, GoSrc.smtext_ReadNCBI pf ⟨ls, .eof⟩ = some (gm, GoErr.nil) ∧
          WF gm ∧ (∀ e ∈ gm, e.1.length = 2) ∧
          ∀ a b : UInt8, Matrix.get m (a, b)
            = (if mapHas gm [a, b] = true then some (mapGet gm [a, b] 0) else none)) := by
  intro hF hE pf ls pf'
  constructor
  · intro h e
    exact ⟨GoErr.other, ReadNCBI_of_none hF hE pf ls e h, by decide, rfl⟩
  · intro m h
    obtain ⟨h1, gm, h2, hr⟩ := ReadNCBI_of_some hF hE pf ls m h
    exact ⟨⟨GoErr.other, h1, by decide, rfl⟩, gm, h2, hr.1, hr.1.1, fun a b => hr.2.get_eq (a, b)⟩

/-- C07 for this decoder: under a failing stream `ReadNCBI` never returns a matrix, whatever was
read before the failure. -/
theorem go_readNCBI_fail : GoSrc.smtext_ReadNCBI_Found = true → GoSrc.extractSingleChar_Found = true →
    ∀ (pf : List UInt8 → Int → Int × GoErr) (ls : List Bytes),
      GoSrc.smtext_ReadNCBI pf ⟨ls, .fail⟩ = some ([], GoErr.other) := by
  intro hF hE pf ls
  cases h : readRowsP (pfO pf) none ls [] with
  | none => exact ReadNCBI_of_none hF hE pf ls .fail h
  | some m => exact (ReadNCBI_of_some hF hE pf ls m h).1

/-- At a clean end of input the Go code returns `nil` exactly when the hand model succeeds. -/
theorem go_readNCBI_ok_iff : GoSrc.smtext_ReadNCBI_Found = true → GoSrc.extractSingleChar_Found = true →
    ∀ (pf : List UInt8 → Int → Int × GoErr) (ls : List Bytes),
      (∃ gm, GoSrc.smtext_ReadNCBI pf ⟨ls, .eof⟩ = some (gm, GoErr.nil)) ↔
      (readRowsP (fun s => if (pf s 64).2 = GoErr.nil then some (pf s 64).1 else none) none ls []).isSome
        = true := by
  intro hF hE pf ls
  show _ ↔ (readRowsP (pfO pf) none ls []).isSome = true
  cases h : readRowsP (pfO pf) none ls [] with
  | none =>
    rw [ReadNCBI_of_none hF hE pf ls .eof h]
    simp
  | some m =>
    obtain ⟨_, gm, h2, _⟩ := ReadNCBI_of_some hF hE pf ls m h
    exact ⟨fun _ => rfl, fun _ => ⟨gm, h2⟩⟩

/-- what `pfQ` is -/
example (s : Bytes) (b : Int) : pfQ s b =
    match Matrix.parseQuarter s with
    | some q => (q, GoErr.nil)
    | none => (0, GoErr.other) := by
  unfold pfQ; cases Matrix.parseQuarter s <;> rfl

/-- With the model's quarter-decimal parser standing for `strconv.ParseFloat`, on the line tokens
of a complete input `x`: `ReadNCBI` returns an error iff `Matrix.readNCBI x` fails, and otherwise
the two matrices are the same map. -/
theorem go_readNCBI_model : GoSrc.smtext_ReadNCBI_Found = true → GoSrc.extractSingleChar_Found = true →
    ∀ x : Bytes,
      (Matrix.readNCBI x = none →
        GoSrc.smtext_ReadNCBI pfQ ⟨scanLines x, .eof⟩ = some ([], GoErr.other)) ∧
      (∀ m, Matrix.readNCBI x = some m →
        ∃ gm, GoSrc.smtext_ReadNCBI pfQ ⟨scanLines x, .eof⟩ = some (gm, GoErr.nil) ∧
          WF gm ∧
          ∀ a b : UInt8, Matrix.get m (a, b)
            = (if mapHas gm [a, b] = true then some (mapGet gm [a, b] 0) else none)) := by
  intro hF hE x
  constructor
  · intro h
    exact ReadNCBI_of_none hF hE pfQ _ .eof (by rw [readRowsP_pfQ]; exact h)
  · intro m h
    obtain ⟨_, gm, h2, hr⟩ := ReadNCBI_of_some hF hE pfQ (scanLines x) m (by rw [readRowsP_pfQ]; exact h)
    exact ⟨gm, h2, hr.1, fun a b => hr.2.get_eq (a, b)⟩

/-- `# c` / `  A  *` / `A 1 -2` / `* 0.5 0` -/
def okLines : List Bytes :=
  [[35, 32, 99], [32, 32, 65, 32, 32, 42], [65, 32, 49, 32, 45, 50], [42, 32, 48, 46, 53, 32, 48]]
/-- the same as one input, CRLF on the second line and no final newline -/
def okText : Bytes :=
  [35, 32, 99, 10, 32, 32, 65, 32, 32, 42, 13, 10, 65, 32, 49, 32, 45, 50, 10, 42, 32, 48, 46, 53, 32, 48]
/-- one value too few in the last row -/
def shortLines : List Bytes := [[32, 65, 32, 42], [65, 32, 49, 32, 45, 50], [42, 32, 48]]
/-- a label of two bytes -/
def labelLines : List Bytes := [[65, 32, 42], [65, 66, 32, 49, 32, 50]]
/-- a score that is not a quarter decimal -/
def scoreLines : List Bytes := [[65], [65, 32, 120]]

example : scanLines okText = okLines := by decide

example : allFound = false ∨
    GoSrc.smtext_ReadNCBI pfQ ⟨okLines, .eof⟩
      = some ([([65, 65], 4), ([65, 255], -8), ([255, 65], 2), ([255, 255], 0)], GoErr.nil) := by
  decide +kernel
example : allFound = false ∨
    GoSrc.smtext_ReadNCBI pfQ ⟨okLines, .fail⟩ = some ([], GoErr.other) := by decide +kernel
example : Matrix.readNCBI okText
    = some [((65, 65), 4), ((65, 255), -8), ((255, 65), 2), ((255, 255), 0)] := by decide +kernel
example : readRowsP (fun s => if (pfQ s 64).2 = GoErr.nil then some (pfQ s 64).1 else none) none okLines []
    = some [((65, 65), 4), ((65, 255), -8), ((255, 65), 2), ((255, 255), 0)] := by decide +kernel
/-- a later row overwrites an earlier one: the Go map keeps the first position, the model's sorted
list is the same map -/
example : allFound = false ∨
    GoSrc.smtext_ReadNCBI pfQ ⟨[[66, 32, 65], [65, 32, 49, 32, 50], [65, 32, 51, 32, 52]], .eof⟩
      = some ([([65, 66], 12), ([65, 65], 16)], GoErr.nil) := by decide +kernel
example : Matrix.readRows none [[66, 32, 65], [65, 32, 49, 32, 50], [65, 32, 51, 32, 52]] []
    = some [((65, 65), 16), ((65, 66), 12)] := by decide +kernel
/-- malformed inputs: an error, and the model fails -/
example : allFound = false ∨
    GoSrc.smtext_ReadNCBI pfQ ⟨shortLines, .eof⟩ = some ([], GoErr.other) := by decide +kernel
example : allFound = false ∨
    GoSrc.smtext_ReadNCBI pfQ ⟨labelLines, .eof⟩ = some ([], GoErr.other) := by decide +kernel
example : allFound = false ∨
    GoSrc.smtext_ReadNCBI pfQ ⟨scoreLines, .eof⟩ = some ([], GoErr.other) := by decide +kernel
example : Matrix.readRows none shortLines [] = none ∧ Matrix.readRows none labelLines [] = none ∧
    Matrix.readRows none scoreLines [] = none := by decide +kernel
example : readRowsP (fun s => if (pfQ s 64).2 = GoErr.nil then some (pfQ s 64).1 else none) none shortLines []
    = none := by decide +kernel
/-- ` A *` / `A 1 -2` / `* 0` as one input: `readNCBI` fails -/
example : scanLines [32, 65, 32, 42, 10, 65, 32, 49, 32, 45, 50, 10, 42, 32, 48, 10] = shortLines ∧
    Matrix.readNCBI [32, 65, 32, 42, 10, 65, 32, 49, 32, 45, 50, 10, 42, 32, 48, 10] = none := by
  decide +kernel
/-- blank-only and comment lines before the header, an empty input: the empty matrix -/
example : allFound = false ∨
    (GoSrc.smtext_ReadNCBI pfQ ⟨[[32, 9], [35], []], .eof⟩ = some ([], GoErr.nil) ∧
     GoSrc.smtext_ReadNCBI pfQ ⟨[], .eof⟩ = some ([], GoErr.nil)) := by decide +kernel
/-- any other score parser: here every score parses, as its length -/
example : allFound = false ∨
    GoSrc.smtext_ReadNCBI (fun s _ => ((s.length : Int), GoErr.nil)) ⟨[[65], [65, 32, 120, 121]], .eof⟩
      = some ([([65, 65], 2)], GoErr.nil) := by decide +kernel

end Bio.Props.C20NcbiGo

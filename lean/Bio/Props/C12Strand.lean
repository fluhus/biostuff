/-
  C12, last clause ("a sequence and its reverse complement yield the same items in
  opposite order"), for the complement table regenerated from /repo: `canonical_revComp_bind`
  (Lemmas/Mash) at a table that is an involution (`generated_CompOK`, C17Inst).
-/
import Bio.Props.C17
import Bio.Props.C17Inst
namespace Bio.Sequtil

/-- For every byte string `s` and every `k`: the canonical k-mers of the reverse
complement of `s` are the canonical k-mers of `s` in reverse order (and both sides
panic together when `s` has a foreign byte). -/
theorem generated_canonical_strand (s : Bytes) (k : Nat) :
    (revComp Generated.compTable [] s).bind (fun r => canonical Generated.compTable r k) =
      (canonical Generated.compTable s k).map List.reverse :=
  Bio.Mash.C17_canonical_strand Bio.Mash.generated_CompOK s k

example : canonical Generated.compTable [65, 65, 67, 71, 84] 2 =
    some [[65, 65], [65, 67], [67, 71], [65, 67]] := by decide +kernel

end Bio.Sequtil

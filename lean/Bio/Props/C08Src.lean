/-
  Source-level tie for C08 / C09 / C10: facts extracted by go/ast from the SOURCE TEXT of /repo
  (Bio/Generated/Src.lean, regenerated on every run).  Best-effort: a fact whose
  source shape is not recognised is `none` and nothing is claimed about it (the
  behaviour-level tie through Bio/Generated/Tables.lean and the correspondence
  run remains); a fact that IS extracted must agree with the model and with the
  observed behaviour (`holdsIfFound`, `Bio/Lemmas/SrcFacts.lean`).
-/
import Bio.Lemmas.SrcFacts
import Bio.Model.Align
import Bio.Generated.Src
namespace Bio.SrcFacts
open Bio.Generated

/-- The gap symbol and the step encoding the driver protocol uses. -/
theorem align_consts :
    holdsIfFound Src.alignGap (· == Bio.Align.GAP.toNat) = true ∧ holdsIfFound Src.stepMatch (· == 1) = true ∧
    holdsIfFound Src.stepDeletion (· == 2) = true ∧ holdsIfFound Src.stepInsertion (· == 3) = true := by
  decide

end Bio.SrcFacts

/-
  Property C11, second part — what the decoders do on ARBITRARY byte strings `x` (no
  well-formedness hypothesis at all): a decoder never fabricates a record and never loses data.

  * FASTQ: item `i` of the output, when it is a record, is exactly the `i`-th group of four
    `bufio.ScanLines` lines of the input; everything before it is a record too; without an error
    item every line was consumed by a record.
  * SAM: `ReaderHeader` delivers one item per non-empty line, in order; `Reader` one item per
    non-empty line not starting with `'@'`; header items are input lines verbatim.
  * BED: the output is the parse of a prefix of the non-skipped lines, each record being the
    parse of its own line, followed by at most one error, and the error has a reason.
  * FASTA: the names and sequences of the delivered records, concatenated, are the input minus
    its line breaks and minus the record-introducing `'>'` bytes; the number of records is
    1 + the number of `'>'` bytes directly after a line break.

  Specification vocabulary (defined in `Bio/Lemmas/Arbitrary.lean`, independent of the readers):
  `Sam.isRecLine`, `Sam.recItem`; `Bed.kept`, `Bed.nFields`, `Bed.lineRec`, `Bed.goodLine`;
  `Fasta.payload`, `Fasta.stripAux`/`Fasta.strip`, `Fasta.gtAfterNL`.
-/
import Bio.Lemmas.Arbitrary

/-! ## FASTQ -/
namespace Bio.Fastq

/-- Every delivered record is exactly the `i`-th group of four lines of the input. -/
theorem decode_ok_lines (x : Bytes) (i : Nat) (r : Fq)
    (h : (decode x)[i]? = some (Item.ok r)) :
    ∃ pl, ((scanLines x).drop (4 * i)).take 4 = [64 :: r.name, r.seq, 43 :: pl, r.quals] ∧
      r.seq.length = r.quals.length := by
  obtain ⟨⟨pl, h1⟩, h2, _⟩ := fromLines_ok_lines .eof (scanLines x) i r h
  exact ⟨pl, h1, h2⟩

/-- Everything delivered before a record is a record (so the groups of four are aligned). -/
theorem decode_ok_before (x : Bytes) (i : Nat) (r : Fq)
    (h : (decode x)[i]? = some (Item.ok r)) :
    ∀ j < i, ∃ r', (decode x)[j]? = some (Item.ok r') :=
  (fromLines_ok_lines .eof (scanLines x) i r h).2.2

/-- Non-vacuity on a malformed input, `"@a\r\nAC\n+x\nI@\n@b\nG\n+\nI\nb\nG\n"`: the second
record (`i = 1`) is delivered, then the line `b` is an error. -/
example :
    (decode [64, 97, 13, 10, 65, 67, 10, 43, 120, 10, 73, 64, 10,
             64, 98, 10, 71, 10, 43, 10, 73, 10, 98, 10, 71, 10])[1]? =
      some (Item.ok ⟨[98], [71], [73]⟩) ∧
    decode [64, 97, 13, 10, 65, 67, 10, 43, 120, 10, 73, 64, 10,
             64, 98, 10, 71, 10, 43, 10, 73, 10, 98, 10, 71, 10] =
      [Item.ok ⟨[97], [65, 67], [73, 64]⟩, Item.ok ⟨[98], [71], [73]⟩, Item.err] := by
  decide

theorem decode_length_le (x : Bytes) : (decode x).length ≤ (scanLines x).length / 4 + 1 :=
  fromLines_length_le .eof (scanLines x)

/-- No error item ⇒ every line of the input was consumed in a record. -/
theorem decode_complete (x : Bytes) (h : Item.err ∉ decode x) :
    (decode x).length * 4 = (scanLines x).length :=
  fromLines_complete (scanLines x) h

/-- Non-vacuity: `"@a\nAC\n+\nII\n@\n\n+\n\n"` — eight lines; the second record has an empty
name, an empty sequence and empty qualities. -/
example :
    Item.err ∉ decode [64, 97, 10, 65, 67, 10, 43, 10, 73, 73, 10, 64, 10, 10, 43, 10, 10] ∧
    (decode [64, 97, 10, 65, 67, 10, 43, 10, 73, 73, 10, 64, 10, 10, 43, 10, 10]).length = 2 := by
  decide

/-- The bound of `decode_length_le` is attained by an input with an error
(`"@a\nAC\n+\nII\nx"`: 5 lines, 2 items). -/
example :
    (decode [64, 97, 10, 65, 67, 10, 43, 10, 73, 73, 10, 120]).length =
      (scanLines [64, 97, 10, 65, 67, 10, 43, 10, 73, 73, 10, 120]).length / 4 + 1 := by
  decide

end Bio.Fastq

/-! ## SAM -/
namespace Bio.Sam

/-- `ReaderHeader`: one item per non-empty line. -/
theorem decodeHeader_length (pf : Bytes → Option Bytes) (x : Bytes) :
    (decodeHeader pf x).length = ((scanLines x).filter (· ≠ [])).length := by
  simp [decodeHeader_eq]

/-- … in order, each item being the item of its own line. -/
theorem decodeHeader_getElem? (pf : Bytes → Option Bytes) (x : Bytes) (i : Nat) :
    (decodeHeader pf x)[i]? = (((scanLines x).filter (· ≠ []))[i]?).map (lineItem pf) := by
  simp [decodeHeader_eq]

/-- `Reader`: exactly the record items of the non-empty lines that do not start with `'@'`,
in order (`recItem pf l` is `.ok s` when `parseLine pf (splitOn TAB l) = some s`, else `.err`). -/
theorem decode_items (pf : Bytes → Option Bytes) (x : Bytes) :
    decode pf x = ((scanLines x).filter isRecLine).map (recItem pf) :=
  decode_eq_recLines pf x

theorem decode_length (pf : Bytes → Option Bytes) (x : Bytes) :
    (decode pf x).length =
      ((scanLines x).filter (fun l => l ≠ [] && l.head? ≠ some 64)).length := by
  rw [decode_items, List.length_map]
  rfl

/-- Header items are input lines verbatim. -/
theorem decodeHeader_hdr_verbatim (pf : Bytes → Option Bytes) (x : Bytes) (h : Bytes)
    (hm : Item.ok (Entry.hdr h) ∈ decodeHeader pf x) : h ∈ scanLines x ∧ h.head? = some 64 :=
  hdr_mem pf x h hm

/-- Non-vacuity on a malformed input, `"x\n@HD\r\n\n@\ny"` (garbage lines around two header
lines, one of them the bare `@`). -/
example :
    Item.ok (Entry.hdr [64, 72, 68]) ∈
      decodeHeader (fun t => some t) [120, 10, 64, 72, 68, 13, 10, 10, 64, 10, 121] ∧
    decodeHeader (fun t => some t) [120, 10, 64, 72, 68, 13, 10, 10, 64, 10, 121] =
      [Item.err, Item.ok (Entry.hdr [64, 72, 68]), Item.ok (Entry.hdr [64]), Item.err] ∧
    decode (fun t => some t) [120, 10, 64, 72, 68, 13, 10, 10, 64, 10, 121] =
      [Item.err, Item.err] := by
  decide

end Bio.Sam

/-! ## BED -/
namespace Bio.Bed

/-- Closed form of the reader on any input.  With `c` the field count of the first kept
(non-blank, non-comment) line, the output is the parse of the longest prefix of the kept lines
that have `c` fields and parse, followed by one error iff that prefix is not all kept lines. -/
theorem decode_exact (x : Bytes) :
    decode x =
      ((kept x).takeWhile (goodLine (nFields ((kept x).head?.getD [])))).filterMap lineRec ++
        if ((kept x).takeWhile (goodLine (nFields ((kept x).head?.getD [])))).length <
            (kept x).length then [Item.err] else [] :=
  decode_eq_itemsFor x

/-- Every delivered record is the parse of its own line, in order; nothing follows the first
error; the error has a reason.  `n` is the number of records. -/
theorem decode_prefix (x : Bytes) :
    ∃ n, n ≤ (kept x).length ∧
      decode x = ((kept x).take n).filterMap (fun l => (parseLine (splitOn TAB l)).map Item.ok) ++
        (if n < (kept x).length then [Item.err] else []) ∧
      (∀ l ∈ (kept x).take n, (parseLine (splitOn TAB l)).isSome ∧
        (splitOn TAB l).length = (splitOn TAB ((kept x).head?.getD [])).length) ∧
      (∀ l, (kept x)[n]? = some l → parseLine (splitOn TAB l) = none ∨
        (splitOn TAB l).length ≠ (splitOn TAB ((kept x).head?.getD [])).length) := by
  obtain ⟨n, h1, h2, h3, h4⟩ := itemsFor_spec (nFields ((kept x).head?.getD [])) (kept x)
  refine ⟨n, h1, ?_, ?_, ?_⟩
  · rw [decode_eq_itemsFor, h2]; rfl
  · intro l hl
    have := h3 l hl
    simp only [goodLine, nFields, Bool.and_eq_true, beq_iff_eq] at this
    exact ⟨this.2, this.1⟩
  · intro l hl
    have := h4 l hl
    simp only [goodLine, nFields, Bool.and_eq_false_iff, beq_eq_false_iff_ne, ne_eq,
      Option.isSome_eq_false_iff, Option.isNone_iff_eq_none] at this
    rcases this with h | h
    · exact Or.inr h
    · exact Or.inl h

/-- The `take` form: the first `n` items are the records of the first `n` kept lines,
and at most one item follows. -/
theorem decode_prefix_take (x : Bytes) :
    ∃ n, (decode x).take n =
        ((kept x).take n).filterMap (fun l => (parseLine (splitOn TAB l)).map Item.ok) ∧
      (decode x).length ≤ n + 1 := by
  obtain ⟨n, h1, h2, h3, _⟩ := decode_prefix x
  have hlen : (((kept x).take n).filterMap
      (fun l => (parseLine (splitOn TAB l)).map Item.ok)).length = n := by
    rw [List.filterMap_length_eq_length.mpr]
    · simp [h1]
    · intro l hl
      simpa using (h3 l hl).1
  refine ⟨n, ?_, ?_⟩
  · rw [h2, List.take_left' hlen]
  · rw [h2, List.length_append, hlen]
    split <;> simp

/-- A concrete malformed input, `"a\t1\t2\n#c\n\nb\t3\t4\r\nc\t5\nd\t6\t7\n"`: two records, then
the two-field line is an error and the good last line is not delivered. -/
example :
    decode [97, 9, 49, 9, 50, 10, 35, 99, 10, 10, 98, 9, 51, 9, 52, 13, 10,
            99, 9, 53, 10, 100, 9, 54, 9, 55, 10] =
      [Item.ok { n := 3, chrom := [97], chromStart := 1, chromEnd := 2, name := [], score := 0,
                 strand := [], thickStart := 0, thickEnd := 0, rgb := (0, 0, 0), blockCount := 0,
                 blockSizes := [], blockStarts := [] },
       Item.ok { n := 3, chrom := [98], chromStart := 3, chromEnd := 4, name := [], score := 0,
                 strand := [], thickStart := 0, thickEnd := 0, rgb := (0, 0, 0), blockCount := 0,
                 blockSizes := [], blockStarts := [] },
       Item.err] ∧
    kept [97, 9, 49, 9, 50, 10, 35, 99, 10, 10, 98, 9, 51, 9, 52, 13, 10,
          99, 9, 53, 10, 100, 9, 54, 9, 55, 10] =
      [[97, 9, 49, 9, 50], [98, 9, 51, 9, 52], [99, 9, 53], [100, 9, 54, 9, 55]] := by
  decide +kernel

end Bio.Bed

/-! ## FASTA -/
namespace Bio.Fasta

/-- No byte is lost or invented: names and sequences of all records, concatenated in order,
are the input without line-break bytes and without the record-introducing `'>'` bytes. -/
theorem payload_decode (x : Bytes) : payload (decode x) = strip x :=
  payload_decodeSrc x

/-- In particular the payload is a subsequence of the input… -/
theorem payload_sublist (x : Bytes) : (payload (decode x)).Sublist x := by
  rw [payload_decode]; exact stripAux_sublist true x

theorem payload_mem (x : Bytes) : ∀ b ∈ payload (decode x), b ∈ x :=
  fun _ hb => (payload_sublist x).subset hb

/-- … and the bytes are accounted for exactly: payload + line breaks + a leading `'>'` +
`'>'` bytes directly after a line break. -/
theorem payload_length (x : Bytes) :
    (payload (decode x)).length + (x.filter isNL).length +
      (if x.head? = some 62 then 1 else 0) + gtAfterNL x = x.length := by
  have := stripAux_length true x
  rw [cntAux_true] at this
  rw [payload_decode, strip]
  omega

theorem decode_ne_nil_iff (x : Bytes) : decode x ≠ [] ↔ x ≠ [] := by
  constructor
  · rintro h rfl
    exact h (by simp [decode, decodeSrc_nil])
  · exact decodeSrc_ne_nil .eof x

/-- Number of records: one, plus one per `'>'` that directly follows a line-break byte. -/
theorem decode_length (x : Bytes) :
    (decode x).length = if x = [] then 0 else 1 + gtAfterNL x :=
  decodeSrc_length x

theorem decode_length_le (x : Bytes) : (decode x).length ≤ x.length := by
  rw [decode_length]
  split
  · simp
  · have := gtAfterNL_lt x ‹_›; omega

/-- The vocabulary on a malformed input, `"\n>a>b\r\nAC>\n\n>\nG"`: three records (empty;
`a>b`/`AC>`; empty name/`G`), payload `a>bAC>G`. -/
example :
    strip [10, 62, 97, 62, 98, 13, 10, 65, 67, 62, 10, 10, 62, 10, 71] =
      [97, 62, 98, 65, 67, 62, 71] ∧
    gtAfterNL [10, 62, 97, 62, 98, 13, 10, 65, 67, 62, 10, 10, 62, 10, 71] = 2 := by
  decide

example :
    decode [10, 62, 97, 62, 98, 13, 10, 65, 67, 62, 10, 10, 62, 10, 71] =
      [Item.ok ⟨[], []⟩, Item.ok ⟨[97, 62, 98], [65, 67, 62]⟩, Item.ok ⟨[], [71]⟩] := by
  simp [decode, decodeSrc, readOne, loop, startState, startSeq, isNL]

end Bio.Fasta

/-
  C01 for the Go SOURCE TEXT: `(*reader).read` of formats/fasta/fasta.go, as translated on every run
  into `Bio.Generated.GoSrc.fasta_read` (the `ReadByte`/`UnreadByte` loop over the remaining input),
  iterated the way formats/fasta/iter.go does, computes the hand-written model `Fasta.decodeSrc` for
  EVERY input and both endings of the byte source — hence the write → read round trip of
  `Bio.Props.C01` holds for the translated reader.  Guarded by the translator's `<f>_Found` flag
  (see `Bio.Lemmas.GoSrc`).
-/
import Bio.Lemmas.GoSrcReaders
import Bio.Props.C01Inst
namespace Bio.Props.C01Go
open Bio Bio.GoRt Bio.Generated Bio.GoSrcLemmas

/-- every translator flag this file depends on; the non-vacuity examples below are stated as
`allFound = false ∨ …` so that a source the translator no longer recognises is not an alarm -/
def allFound : Bool := GoSrc.fasta_read_Found

/-- `(*reader).iter` of formats/fasta/iter.go over the translated `read`:
`for { fa, err := r.read(); if err != nil { if err != io.EOF { yield(nil, err) }; break }; yield(fa, nil) }`,
at most `fuel` calls.  It has no consumer and no panic result, which is all `go_decode` needs; the
translated closure `GoSrc.fasta_iter` with its consumer is the subject of `C18Go`. -/
def goDecode : Nat → Ending → Bytes → List (Item Fasta.Fa)
  | 0, _, _ => []
  | fuel + 1, e, x =>
    match GoSrc.fasta_read x e with
    | none => [.err]                                               -- a panic (never: `go_read_total`)
    | some ((_, GoErr.eof), _) => []                               -- `break`
    | some ((_, GoErr.other), _) => [.err]                         -- `yield(nil, err); break`
    | some ((none, GoErr.nil), _) => [.err]                        -- `(nil, nil)` (never: `go_read_cons`)
    | some ((some (n, s), GoErr.nil), rest) => .ok ⟨n, s⟩ :: goDecode fuel e rest   -- `yield(fa, nil)`

/-- A call on exhausted input reads nothing and returns `io.EOF`, or the source's read error. -/
theorem go_read_nil : GoSrc.fasta_read_Found = true →
    ∀ e : Ending, GoSrc.fasta_read [] e = some ((none, endErr e), []) :=
  fun hF e => fasta_read_nil hF e

/-- A call on non-empty input is the model's `readOne`: the record and the unread rest — unless the
input was read to its end and the source then fails, in which case the partial record is dropped
and the error returned. -/
theorem go_read_cons : GoSrc.fasta_read_Found = true →
    ∀ (b : UInt8) (rest : Bytes) (e : Ending),
      GoSrc.fasta_read (b :: rest) e = some (
        if (Fasta.readOne b rest).2 = [] ∧ e = Ending.fail then ((none, GoErr.other), [])
        else ((some ((Fasta.readOne b rest).1.name, (Fasta.readOne b rest).1.seq), GoErr.nil),
              (Fasta.readOne b rest).2)) :=
  fun hF b rest e => fasta_read_cons hF b rest e

/-- The translated `read` never panics. -/
theorem go_read_total : GoSrc.fasta_read_Found = true →
    ∀ (x : Bytes) (e : Ending), (GoSrc.fasta_read x e).isSome = true :=
  fun hF x e => fasta_read_isSome hF x e

example : allFound = false ∨ (GoSrc.fasta_read_Found = true) := by decide
-- ">ab\nAC\nGT\n>c\nA": the first call stops in front of the second '>', also on a failing source;
-- ">x" on a failing source: the record is dropped; "\n\n>a\nA": an empty first record
set_option synthInstance.maxSize 1024 in
example : allFound = false ∨ (
    GoSrc.fasta_read [62, 97, 98, 10, 65, 67, 10, 71, 84, 10, 62, 99, 10, 65] .fail
      = some ((some ([97, 98], [65, 67, 71, 84]), GoErr.nil), [62, 99, 10, 65])
    ∧ GoSrc.fasta_read [] .eof = some ((none, GoErr.eof), [])) := by decide +kernel
set_option synthInstance.maxSize 1024 in
example : allFound = false ∨ (
    GoSrc.fasta_read [62, 120] .eof = some ((some ([120], []), GoErr.nil), [])
    ∧ GoSrc.fasta_read [62, 120] .fail = some ((none, GoErr.other), [])
    ∧ GoSrc.fasta_read [10, 10, 62, 97, 10, 65] .eof = some ((some ([], []), GoErr.nil), [62, 97, 10, 65])) := by decide +kernel

/-- The iterator over the translated reader IS the model decoder: every input, both endings. -/
theorem go_decode : GoSrc.fasta_read_Found = true →
    ∀ (e : Ending) (x : Bytes), goDecode (x.length + 1) e x = Fasta.decodeSrc e x := by
  intro hF e x
  suffices h : ∀ (fuel : Nat) (x : Bytes), x.length < fuel → goDecode fuel e x = Fasta.decodeSrc e x from
    h _ x (Nat.lt_succ_self _)
  intro fuel
  induction fuel with
  | zero => intro x hx; omega
  | succ fuel ih =>
    intro x hx
    obtain ⟨r, err, x', hr, hm⟩ := fasta_read_step hF e x
    rw [goDecode, hr]
    cases err with
    | nil => obtain ⟨fa, hfa, hi, hlt⟩ := hm; cases hfa; rw [hi, ← ih x' (by omega)]
    | eof => exact hm.symm
    | other => exact hm.symm

example : allFound = false ∨ (GoSrc.fasta_read_Found = true) := by decide
-- two records, blank lines, CRLF; a failing source replaces the last record by an error
example : allFound = false ∨ (
    goDecode 20 .eof [62, 97, 98, 13, 10, 65, 67, 10, 10, 71, 84, 10, 62, 99, 10, 65]
      = [.ok ⟨[97, 98], [65, 67, 71, 84]⟩, .ok ⟨[99], [65]⟩]
    ∧ goDecode 20 .fail [62, 97, 98, 13, 10, 65, 67, 10, 10, 71, 84, 10, 62, 99, 10, 65]
      = [.ok ⟨[97, 98], [65, 67, 71, 84]⟩, .err]
    ∧ goDecode 1 .eof [] = [] ∧ goDecode 1 .fail [] = [.err]) := by decide +kernel

/-- Write then read with the translated reader returns the records: every record count, every
length, every content in the domain of C01, every positive line width. -/
theorem go_roundtrip : GoSrc.fasta_read_Found = true →
    ∀ (w : Nat), 0 < w → ∀ (rs : List Fasta.Fa), (∀ r ∈ rs, Fasta.WF r) →
      goDecode ((Fasta.encodeAll w rs).length + 1) .eof (Fasta.encodeAll w rs) = rs.map Item.ok := by
  intro hF w hw rs h
  rw [go_decode hF]
  exact Fasta.roundtrip w hw rs h

/-- … in particular at the line width observed on the running code. -/
theorem go_generated_roundtrip : GoSrc.fasta_read_Found = true →
    ∀ (rs : List Fasta.Fa), (∀ r ∈ rs, Fasta.WF r) →
      goDecode ((Fasta.encodeAll Generated.fastaLineLen rs).length + 1) .eof
        (Fasta.encodeAll Generated.fastaLineLen rs) = rs.map Item.ok :=
  fun hF rs h => go_roundtrip hF _ (by decide) rs h

/-- Non-vacuity: the flag, a positive width, and records in the domain (7-byte sequence over 3
lines at width 3, an empty record, odd bytes). -/
example : allFound = false ∨ (GoSrc.fasta_read_Found = true ∧ (0 : Nat) < 3 ∧
    ∀ r ∈ ([⟨[115, 32, 49], [65, 67, 71, 84, 65, 67, 71]⟩, ⟨[], []⟩, ⟨[62, 64], [255, 0, 43]⟩] : List Fasta.Fa),
      Fasta.WF r) := by decide

end Bio.Props.C01Go

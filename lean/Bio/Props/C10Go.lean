/-
  C10 for the Go SOURCE TEXT: the known finding (DESIGN §12, known_findings.jsonl) restated on the
  translated `align.Global` / `align.Local` themselves (`Bio.Generated.GoSrc`, regenerated from
  /repo on every run), not only on the hand model:

  * on the witness inputs of `Bio/Props/C10.lean` the translated functions return the suboptimal
    scores -6 and 22 although alignments scoring -3 and 25 exist (`decide +kernel` on the
    translated code);
  * for EVERY matrix and input (enough fuel, all needed entries present) the score the translated
    `Global` returns is the score of an actual alignment — it never exceeds the optimum
    (`C08Go.go_global_valid_of_some`).

  Guarded by the translator's `<f>_Found` flags: with a source the translator does not
  recognise these statements are vacuous, and the check then relies on the correspondence leg.
-/
import Bio.Props.C08Go
import Bio.Props.C10
namespace Bio.Props.C10Go
open Bio Bio.GoRt Bio.Generated Bio.GoSrcLemmas Bio.Align

/-- The affine witness matrix of `C10.lean` (match `mt`, mismatch -1, gap -1, gap-open -3) over the
letters a, b, c, d and the gap, as a Go map. -/
def affineL (mt : Int) : List (List UInt8 × Int) :=
  let cs : List UInt8 := [97, 98, 99, 100, 255]
  cs.flatMap fun x => cs.map fun y =>
    ([x, y], if x = 255 ∧ y = 255 then -3 else if x = 255 ∨ y = 255 then -1 else if x = y then mt else -1)

/-- The Go map is the model's `affineMat` on the letters used. -/
example : ∀ x ∈ ([97, 98, 99, 100, 255] : List UInt8), ∀ y ∈ ([97, 98, 99, 100, 255] : List UInt8),
    matOf (affineL 2) x y = some (affineMat 2 (-1) (-1) (-3) x y) := by decide +kernel

/-- `Global("a", "aab")` with match 2 / mismatch -1 / gap -1 / gap-open -3 returns the steps
insertion, insertion, match with score -6 … -/
theorem go_global_affine_witness : C08Go.allFound = false ∨
    GoSrc.Global 5 [97] [97, 97, 98] (affineL 2) = some ([3, 3, 1], -6) := by
  decide +kernel

/-- … although match, insertion, insertion scores -3 under the documented scoring. -/
theorem global_affine_better :
    rescore (total (matOf (affineL 2))) .none [97] [97, 97, 98] [.mch, .ins, .ins] = some (-3, [], []) := by
  decide +kernel

/-- `Local("cad", "caabd")` with match 10 returns score 22 … -/
theorem go_local_affine_witness : C08Go.allFound = false ∨
    GoSrc.Local 9 [99, 97, 100] [99, 97, 97, 98, 100] (affineL 10) = some ([1, 3, 1, 3, 1], 0, 0, 22) := by
  decide +kernel

/-- … although match, match, insertion, insertion, match on the whole strings scores 25. -/
theorem local_affine_better :
    rescore (total (matOf (affineL 10))) .none [99, 97, 100] [99, 97, 97, 98, 100]
      [.mch, .mch, .ins, .ins, .mch] = some (25, [], []) := by
  decide +kernel

/-- What holds for every gap-open, on the source text: the score `Global` returns is the score of
an actual alignment of `a` and `b` (so it is at most the optimum). -/
theorem go_global_affine_le_opt_partial : GoSrc.Global_Found = true → GoSrc.Matrix_Get_Found = true →
    GoSrc.decideOnStep_Found = true → GoSrc.traceAlignmentSteps_Found = true →
    ∀ (a b : Bytes) (m : List (List UInt8 × Int)) (fuel : Nat) steps score,
      GoSrc.Global fuel a b m = some (steps, score) → a.length + b.length + 1 ≤ fuel →
      ∃ s, rescore (total (matOf m)) .none a b s = some (score, [], []) := by
  intro h1 h2 h3 h4 a b m fuel steps score hs hf
  exact ⟨_, C08Go.go_global_valid_of_some h1 h2 h3 h4 a b m fuel steps score hf hs⟩

end Bio.Props.C10Go

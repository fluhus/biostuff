/-
  C20 — align.SubstitutionMatrix `Symmetrical` / `GoString` and
  formats/smtext `ReadNCBI` (model: `Bio.Model.Matrix`): when `Symmetrical` panics and what it
  returns otherwise (`symmetrical_spec`); what `GoString` prints (`goString_sorted_once`,
  `quarterText_spec`); `ReadNCBI` recovers a table from every layout of it (`read_render`) and
  rejects a malformed row wherever it occurs (`read_rejects`).
-/
import Bio.Lemmas.Matrix
namespace Bio.Matrix

/-- `Symmetrical` panics exactly when some pair and its mirror image carry
different scores.  (Holds for every `m`; `KeyUnique m` is the map invariant.) -/
theorem symmetrical_spec_none (m : M) (_h : KeyUnique m) :
    symmetrical m = none ↔
      ∃ e ∈ m, e.1.1 ≠ e.1.2 ∧ ∃ v2, get m (flip e.1) = some v2 ∧ v2 ≠ e.2 :=
  symmetrical_eq_none_iff m

/-- Otherwise the result is again a map (strictly ascending keys, hence
key-unique), and it holds exactly every original pair and its mirror image
with the original score. -/
theorem symmetrical_spec_some (m r : M) (h : KeyUnique m) (hr : symmetrical m = some r) :
    Sorted r ∧ KeyUnique r ∧
    ∀ k v, get r k = some v ↔ (get m k = some v ∨ get m (flip k) = some v) := by
  obtain ⟨rfl, hnc⟩ := symmetrical_eq_some hr
  exact ⟨symFold_sorted m, (symFold_sorted m).keyUnique, get_symFold h hnc⟩

theorem symmetrical_spec_mem (m r : M) (h : KeyUnique m) (hr : symmetrical m = some r)
    (k : Key) (v : Int) : (k, v) ∈ r ↔ ((k, v) ∈ m ∨ (flip k, v) ∈ m) := by
  obtain ⟨_, hu, hg⟩ := symmetrical_spec_some m r h hr
  rw [← get_iff_mem hu, ← get_iff_mem h, ← get_iff_mem h, hg]

theorem symmetrical_spec (m : M) (h : KeyUnique m) :
    (symmetrical m = none ↔
      ∃ e ∈ m, e.1.1 ≠ e.1.2 ∧ ∃ v2, get m (flip e.1) = some v2 ∧ v2 ≠ e.2) ∧
    ∀ r, symmetrical m = some r →
      Sorted r ∧ KeyUnique r ∧
      (∀ k v, get r k = some v ↔ (get m k = some v ∨ get m (flip k) = some v)) ∧
      ∀ k v, (k, v) ∈ r ↔ ((k, v) ∈ m ∨ (flip k, v) ∈ m) :=
  ⟨symmetrical_spec_none m h, fun r hr =>
    let ⟨h1, h2, h3⟩ := symmetrical_spec_some m r h hr
    ⟨h1, h2, h3, symmetrical_spec_mem m r h hr⟩⟩

/-- A symmetric-compatible matrix: `(A,C)=-3`, `(C,A)=-3`, `(A,A)=5`, `(G,*)=2`. -/
def mOK : M := [((65, 67), -3), ((67, 65), -3), ((65, 65), 5), ((71, 255), 2)]
/-- A conflicting matrix: `(A,C)=-3` but `(C,A)=1`. -/
def mBad : M := [((65, 67), -3), ((67, 65), 1)]

example : KeyUnique mOK := by decide
example : KeyUnique mBad := by decide
example : symmetrical mBad = none := by decide
example : ∃ e ∈ mBad, e.1.1 ≠ e.1.2 ∧ ∃ v2, get mBad (flip e.1) = some v2 ∧ v2 ≠ e.2 :=
  ⟨((65, 67), -3), by decide, by decide, 1, by decide, by decide⟩
example : symmetrical mOK
    = some [((65, 65), 5), ((65, 67), -3), ((67, 65), -3), ((71, 255), 2), ((255, 71), 2)] := by
  decide

/-- `GoString` prints the entries `goEntries m`, which are strictly ascending by
key (so every key occurs exactly once) and carry exactly the scores of `m`;
for a key-unique `m` they are a rearrangement of `m`. -/
theorem goString_sorted_once (qt : List Bytes) (m : M) (h : KeyUnique m) :
    goString qt m = "SubstitutionMatrix{\n".toUTF8.toList ++ (goEntries m).flatMap (fun e =>
        123 :: (qt[e.1.1.toNat]?).getD [] ++ 44 :: (qt[e.1.2.toNat]?).getD [] ++ [125, 58]
          ++ quarterText e.2 ++ [44, 10]) ++ [125, 10] ∧
    Sorted (goEntries m) ∧ KeyUnique (goEntries m) ∧
    (∀ k v, get (goEntries m) k = some v ↔ get m k = some v) ∧
    (goEntries m).Perm m ∧
    (∀ k, ((goEntries m).map (·.1)).count k = if k ∈ m.map (·.1) then 1 else 0) :=
  ⟨goString_eq qt m, goEntries_sorted m, (goEntries_sorted m).keyUnique,
    fun k v => by rw [get_goEntries h], goEntries_perm h, goEntries_count h⟩

/-- The printed score denotes exactly the score, and contains no whitespace, `,`, `}` or `#`. -/
theorem quarterText_spec (q : Int) :
    parseQuarter (quarterText q) = some q ∧ quarterText q ≠ [] ∧
    ∀ b ∈ quarterText q, isSpace b = false ∧ b ≠ 44 ∧ b ≠ 125 ∧ b ≠ 35 :=
  ⟨quarter_roundtrip q, quarterText_ne_nil q, quarterText_clean q⟩

/-- `natDigits` round-trips and has no leading zero except for `0` itself. -/
theorem natDigits_spec (n : Nat) :
    parseNat (natDigits n) = some n ∧ (n = 0 → natDigits n = [48]) ∧
    (n ≠ 0 → (natDigits n).head? ≠ some 48) :=
  ⟨parseNat_natDigits n, fun h => h ▸ natDigits_zero, natDigits_head n⟩

example : goEntries mOK = [((65, 65), 5), ((65, 67), -3), ((67, 65), -3), ((71, 255), 2)] := by
  decide
/-- `-0.75` and `1.25`. -/
example : quarterText (-3) = [45, 48, 46, 55, 53] ∧ quarterText 5 = [49, 46, 50, 53] := by
  simp [quarterText, natDigits, digitChar]

/-- A score table as it is written in the file: column label bytes, and rows of a label byte
with one score (in quarters) per column.  The label byte `*` (42) stands for the gap
symbol 255. -/
structure Table where
  cols : List UInt8
  rows : List (UInt8 × List Int)

/-- At least one column, labels are single non-space bytes other than `#` and 255, every row
has one value per column. -/
def Table.Valid (T : Table) : Prop :=
  T.cols ≠ [] ∧ (∀ c ∈ T.cols, ValidLabel c) ∧
  ∀ r ∈ T.rows, ValidLabel r.1 ∧ r.2.length = T.cols.length

instance (T : Table) : Decidable T.Valid := by unfold Table.Valid; infer_instance

/-- The token lines of the table: the header, then one line per row. -/
def Table.toks (T : Table) : List (List Bytes) := hdrToks T.cols :: T.rows.map rowToks

/-- The file: the table's token lines laid out by `L` (see `Layout`, `LineLayout`,
`renderDoc`, `renderPhys`, `renderToks` in `Bio.Lemmas.Matrix`):
* before every token line any number of comment lines (`#…`, LF-free) and empty lines,
  and more of them at the end of the file;
* on every token line optional leading and trailing runs of TAB/FF/CR/SP, and between two
  tokens a non-empty run of such bytes (a single space where `L` gives no gap);
* every line ends in LF or CR LF; with `finalEol = false` the last line has no terminator.
Whitespace-only lines are not part of the family. -/
def render (L : Layout) (T : Table) : Bytes := renderDoc L T.toks

/-- The matrix of the table: `insert (labelByte r, labelByte c) v` folded over all entries
in file order (rows, then columns; a later duplicate overwrites). -/
def matrixOf (T : Table) : M :=
  (tableEntries T.cols T.rows).foldl (fun acc e => insert e.1 e.2 acc) []

theorem Table.Valid.proper {T : Table} (hT : T.Valid) : ∀ toks ∈ T.toks, ProperToks toks := by
  intro toks ht
  rcases List.mem_cons.1 ht with rfl | ht
  · exact properToks_hdr hT.1 hT.2.1
  · obtain ⟨r, hr, rfl⟩ := List.mem_map.1 ht
    exact properToks_row (hT.2.2 r hr).1

/-- `ReadNCBI` recovers exactly the table, whatever the layout. -/
theorem read_render (L : Layout) (T : Table) (hL : L.OK) (hT : T.Valid) :
    readNCBI (render L T) = some (matrixOf T) := by
  rw [render, readNCBI_renderDoc L hL _ hT.proper, Table.toks, readToks_header hT.1]
  have := readToks_rows (T.cols.map labelByte) T.rows
    (fun r hr => by rw [List.length_map]; exact (hT.2.2 r hr).2) [] []
  rw [List.append_nil] at this
  rw [this, readToks, rows_foldl_eq, matrixOf]

/-- The canonical layout (single spaces, LF after every line, no comments) is the empty
layout description. -/
theorem read_render_canonical (T : Table) (hT : T.Valid) :
    readNCBI (render {} T) = some (matrixOf T) :=
  read_render {} T (by decide) hT

/-- What the recovered matrix is: strictly ascending keys; and when the row labels and the
column labels are distinct, it holds exactly the table's entries `(row, col) ↦ score`. -/
theorem matrixOf_spec (T : Table) (hT : T.Valid) :
    Sorted (matrixOf T) ∧
    (T.cols.Nodup → (T.rows.map (·.1)).Nodup →
      ∀ k v, get (matrixOf T) k = some v ↔
        ∃ r ∈ T.rows, ∃ cv ∈ T.cols.zip r.2, k = (labelByte r.1, labelByte cv.1) ∧ v = cv.2) := by
  refine ⟨goEntries_sorted _, ?_⟩
  intro hc hr k v
  have hc' : (T.cols.map labelByte).Nodup :=
    nodup_map_labelByte (fun b hb => (hT.2.1 b hb).2.2) hc
  have hr' : (T.rows.map (fun r => labelByte r.1)).Nodup := by
    have := nodup_map_labelByte (l := T.rows.map (·.1))
      (fun b hb => by
        obtain ⟨r, hr0, rfl⟩ := List.mem_map.1 hb
        exact (hT.2.2 r hr0).1.2.2) hr
    rw [List.map_map] at this
    exact this
  have hu := tableEntries_keyUnique T.cols T.rows hc' hr'
  have : matrixOf T = goEntries (tableEntries T.cols T.rows) := rfl
  rw [this, get_goEntries hu, get_iff_mem hu]
  simp only [tableEntries, rowEntries, List.mem_flatMap, List.mem_map, Prod.mk.injEq]
  constructor
  · rintro ⟨r, hr0, cv, hcv, h1, h2⟩
    exact ⟨r, hr0, cv, hcv, h1.symm, h2.symm⟩
  · rintro ⟨r, hr0, cv, hcv, h1, h2⟩
    exact ⟨r, hr0, cv, hcv, h1.symm, h2.symm⟩

/-- Columns `A *`; rows `A 1.25 -0.75` and `* -0.75 0.5`. -/
def T0 : Table := { cols := [65, 42], rows := [(65, [5, -3]), (42, [-3, 2])] }

/-- A comment and an empty line first; header indented by TAB SP, CR LF; a comment before
the first row, tabs between its tokens, trailing blanks; second row with leading blanks and
a CR in a gap; a comment at the end without line terminator. -/
def L0 : Layout :=
  { lines := [
      { before := [([35, 32, 109, 97, 116, 114, 105, 120], .lf), ([], .crlf)], lead := [9, 32],
        gaps := [[32, 32, 32]], eol := .crlf },
      { before := [([35], .lf)], gaps := [[9], [9, 9]], trail := [32, 13] },
      { lead := [32, 32], gaps := [[32, 13, 12], [32]], eol := .crlf }],
    after := [([], .lf), ([35, 32, 101, 110, 100], .lf)],
    finalEol := false }

example : T0.Valid := by decide
example : L0.OK := by decide
example : T0.cols.Nodup ∧ (T0.rows.map (·.1)).Nodup := by decide

/-- The file `render L0 T0` is
`"# matrix\n\r\n\t A   *\r\n#\nA\t1.25\t\t-0.75 \r\n  * \r\x0c-0.75 0.5\r\n\n# end"`. -/
example : render L0 T0 =
    [35, 32, 109, 97, 116, 114, 105, 120, 10, 13, 10, 9, 32, 65, 32, 32, 32, 42, 13, 10, 35, 10,
     65, 9, 49, 46, 50, 53, 9, 9, 45, 48, 46, 55, 53, 32, 13, 10, 32, 32, 42, 32, 13, 12, 45, 48,
     46, 55, 53, 32, 48, 46, 53, 13, 10, 10, 35, 32, 101, 110, 100] := by decide +kernel
/-- The canonical file is `"A *\nA 1.25 -0.75\n* -0.75 0.5\n"`. -/
example : render {} T0 =
    [65, 32, 42, 10, 65, 32, 49, 46, 50, 53, 32, 45, 48, 46, 55, 53, 10,
     42, 32, 45, 48, 46, 55, 53, 32, 48, 46, 53, 10] := by decide +kernel
example : matrixOf T0 = [((65, 65), 5), ((65, 255), -3), ((255, 65), -3), ((255, 255), 2)] := by
  decide
example : readNCBI (render L0 T0)
    = some [((65, 65), 5), ((65, 255), -3), ((255, 65), -3), ((255, 255), 2)] := by
  decide +kernel

/-- After the header and any number of good rows, a bad row (wrong number of tokens, label of
length ≠ 1, or a score token that `parseQuarter` rejects — see `BadRow`) makes `ReadNCBI`
fail, whatever follows and whatever the layout. -/
theorem read_rejects_row (L : Layout) (T : Table) (hL : L.OK) (hT : T.Valid)
    (bad : List Bytes) (hp : ProperToks bad) (hb : BadRow T.cols.length bad)
    (post : List (List Bytes)) (hpost : ∀ toks ∈ post, ProperToks toks) :
    readNCBI (renderDoc L (T.toks ++ bad :: post)) = none := by
  have hd : ∀ toks ∈ T.toks ++ bad :: post, ProperToks toks := by
    intro toks ht
    rcases List.mem_append.1 ht with ht | ht
    · exact hT.proper toks ht
    · rcases List.mem_cons.1 ht with rfl | ht
      · exact hp
      · exact hpost toks ht
  rw [readNCBI_renderDoc L hL _ hd, Table.toks, List.cons_append, readToks_header hT.1,
    readToks_rows (T.cols.map labelByte) T.rows
      (fun r hr => by rw [List.length_map]; exact (hT.2.2 r hr).2)]
  exact readToks_bad_row _ (by rw [List.length_map]; exact hb) _ _

/-- Replacing one data row of a valid table by a bad row makes `ReadNCBI` fail. -/
theorem read_rejects (L : Layout) (T : Table) (hL : L.OK) (hT : T.Valid)
    (pre post : List (UInt8 × List Int)) (r : UInt8 × List Int) (hrows : T.rows = pre ++ r :: post)
    (bad : List Bytes) (hp : ProperToks bad) (hb : BadRow T.cols.length bad) :
    readNCBI (renderDoc L (hdrToks T.cols :: (pre.map rowToks ++ bad :: post.map rowToks)))
      = none := by
  have hT' : Table.Valid ⟨T.cols, pre⟩ :=
    ⟨hT.1, hT.2.1, fun r' hr' => hT.2.2 r' (by rw [hrows]; simp [hr'])⟩
  have := read_rejects_row L ⟨T.cols, pre⟩ hL hT' bad hp hb (post.map rowToks)
    (fun toks ht => by
      obtain ⟨r', hr', rfl⟩ := List.mem_map.1 ht
      exact properToks_row (hT.2.2 r' (by rw [hrows]; simp [hr'])).1)
  exact this

/-- … by a row with the wrong number of values. -/
theorem read_rejects_count (L : Layout) (T : Table) (hL : L.OK) (hT : T.Valid)
    (pre post : List (UInt8 × List Int)) (r : UInt8 × List Int) (hrows : T.rows = pre ++ r :: post)
    (lab : UInt8) (vs : List Int) (hlab : ValidLabel lab) (hvs : vs.length ≠ T.cols.length) :
    readNCBI (renderDoc L
      (hdrToks T.cols :: (pre.map rowToks ++ rowToks (lab, vs) :: post.map rowToks))) = none :=
  read_rejects L T hL hT pre post r hrows _ (properToks_row hlab)
    (badRow_wrong_count _ _ _ (by simpa using hvs))

/-- … by a row in which one score token is replaced by a token `tok` that is not a number. -/
theorem read_rejects_score (L : Layout) (T : Table) (hL : L.OK) (hT : T.Valid)
    (pre post : List (UInt8 × List Int)) (r : UInt8 × List Int) (hrows : T.rows = pre ++ r :: post)
    (j : Nat) (hj : j < r.2.length) (tok : Bytes) (htok : IsTok tok)
    (hbad : parseQuarter tok = none) :
    readNCBI (renderDoc L (hdrToks T.cols ::
      (pre.map rowToks ++ ([r.1] :: (r.2.map quarterText).set j tok) :: post.map rowToks)))
      = none := by
  have hr := hT.2.2 r (by rw [hrows]; simp)
  refine read_rejects L T hL hT pre post r hrows _ ⟨by simp, ?_, ?_⟩
    (badRow_bad_score _ _ _ (List.mem_set (by simpa using hj) tok) hbad)
  · intro t ht
    rcases List.mem_cons.1 ht with rfl | ht
    · exact isTok_label hr.1
    · rcases List.mem_or_eq_of_mem_set ht with ht | rfl
      · obtain ⟨q, _, rfl⟩ := List.mem_map.1 ht
        exact isTok_quarterText q
      · exact htok
  · simpa using hr.1.2.1

/-- … by a row whose label is a token of two or more bytes. -/
theorem read_rejects_label (L : Layout) (T : Table) (hL : L.OK) (hT : T.Valid)
    (pre post : List (UInt8 × List Int)) (r : UInt8 × List Int) (hrows : T.rows = pre ++ r :: post)
    (lab : Bytes) (hlab : IsTok lab) (hh : lab.head? ≠ some 35) (hlen : 2 ≤ lab.length) :
    readNCBI (renderDoc L (hdrToks T.cols ::
      (pre.map rowToks ++ (lab :: r.2.map quarterText) :: post.map rowToks))) = none := by
  refine read_rejects L T hL hT pre post r hrows _ ⟨by simp, ?_, by simpa using hh⟩
    (badRow_long_label _ _ _ (by omega))
  intro t ht
  rcases List.mem_cons.1 ht with rfl | ht
  · exact hlab
  · obtain ⟨q, _, rfl⟩ := List.mem_map.1 ht
    exact isTok_quarterText q

/-- A header line with a label of two or more bytes makes `ReadNCBI` fail, whatever follows. -/
theorem read_rejects_header (L : Layout) (hL : L.OK) (hdr : List Bytes) (hp : ProperToks hdr)
    (h : ∃ t ∈ hdr, 2 ≤ t.length) (post : List (List Bytes))
    (hpost : ∀ toks ∈ post, ProperToks toks) :
    readNCBI (renderDoc L (hdr :: post)) = none := by
  have hd : ∀ toks ∈ hdr :: post, ProperToks toks := by
    intro toks ht
    rcases List.mem_cons.1 ht with rfl | ht
    · exact hp
    · exact hpost toks ht
  obtain ⟨t, ht, hl⟩ := h
  rw [readNCBI_renderDoc L hL _ hd]
  exact readToks_bad_header ⟨t, ht, by omega⟩ _ _

/-- The same on the level of scanned lines: once the header has been read (`some cs`), good
row lines `pre` followed by a non-empty, non-comment line whose fields form a bad row give
`none`, whatever follows. -/
theorem readRows_rejects (cs : List UInt8) (pre : List Bytes) (rows : List (UInt8 × List Int))
    (hrows : ∀ r ∈ rows, r.2.length = cs.length)
    (hpre : pre.filterMap lineToks = rows.map rowToks)
    (bad : Bytes) (hne : bad ≠ []) (hc : bad.head? ≠ some 35) (hb : BadRow cs.length (fields bad))
    (post : List Bytes) (m : M) :
    readRows (some cs) (pre ++ bad :: post) m = none := by
  rw [readRows_eq_readToks, List.filterMap_append, hpre, List.filterMap_cons,
    lineToks_of hne hc, readToks_rows cs rows hrows]
  exact readToks_bad_row cs hb _ _

/-- `1.3`, `x`, `01`, `+1`, `1e5`, `.5` are not scores of the model. -/
example : parseQuarter [49, 46, 51] = none ∧ parseQuarter [120] = none ∧
    parseQuarter [48, 49] = none ∧ parseQuarter [43, 49] = none ∧
    parseQuarter [49, 101, 53] = none ∧ parseQuarter [46, 53] = none := by decide

example : ProperToks [[65], [49]] ∧ BadRow T0.cols.length [[65], [49]] :=
  ⟨by decide, Or.inl (by decide)⟩
example : ProperToks [[65, 66], [49], [50]] ∧ BadRow T0.cols.length [[65, 66], [49], [50]] :=
  ⟨by decide, badRow_long_label _ _ _ (by decide)⟩
example : ProperToks [[65], [49], [120]] ∧ BadRow T0.cols.length [[65], [49], [120]] :=
  ⟨by decide, badRow_bad_score _ _ _ (t := [120]) (by decide) (by decide)⟩
/-- One value too many in the second row. -/
example : readNCBI (renderDoc L0 (hdrToks T0.cols ::
    ([(65, [5, -3])].map rowToks ++ rowToks (42, [-3, 2, 7]) :: [].map rowToks))) = none := by
  decide +kernel
/-- One value missing in the first row. -/
example : readNCBI (renderDoc L0 (hdrToks T0.cols ::
    ([].map rowToks ++ rowToks (65, [5]) :: [(42, [-3, 2])].map rowToks))) = none := by
  decide +kernel
/-- `AB` as a row label. -/
example : readNCBI (renderDoc L0 (hdrToks T0.cols ::
    ([].map rowToks ++ ([65, 66] :: [5, -3].map quarterText) :: [(42, [-3, 2])].map rowToks)))
    = none := by
  decide +kernel
/-- `x` as a score. -/
example : readNCBI (renderDoc L0 (hdrToks T0.cols ::
    ([(65, [5, -3])].map rowToks ++ ([42] :: ([-3, 2].map quarterText).set 1 [120]) ::
      [].map rowToks))) = none := by
  decide +kernel
/-- `AB` as a column label. -/
example : ProperToks [[65, 66], [42]] ∧
    readNCBI (renderDoc L0 ([[65, 66], [42]] :: T0.rows.map rowToks)) = none := by
  constructor
  · decide
  · decide +kernel
example : T0.rows = [] ++ (65, [5, -3]) :: [(42, [-3, 2])] := rfl
example : IsTok [120] ∧ IsTok [65, 66] ∧ [65, 66].head? ≠ some (35 : UInt8) := by decide
/-- Hypotheses of `readRows_rejects`: lines `A 1.25 -0.75`, a comment, then `*\tx 0.5`. -/
example : [[65, 32, 49, 46, 50, 53, 32, 45, 48, 46, 55, 53], [35, 33]].filterMap lineToks
      = [((65 : UInt8), [(5 : Int), -3])].map rowToks ∧
    BadRow [(65 : UInt8), 255].length (fields [42, 9, 120, 32, 48, 46, 53]) :=
  ⟨by decide +kernel, badRow_bad_score _ _ _ (t := [120]) (by decide) (by decide)⟩
example : readRows (some [65, 255])
    ([[65, 32, 49, 46, 50, 53, 32, 45, 48, 46, 55, 53], [35, 33]] ++
      [42, 9, 120, 32, 48, 46, 53] :: [[120, 120, 120]]) [] = none := by decide

end Bio.Matrix

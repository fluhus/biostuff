/-
  Property C07 — failing streams and failing writers.

  Part 1 (readers).  `decodeSrc … .fail y` is the model of a reader whose source delivers the
  bytes `y` and then returns a non-EOF error.  For every format:
  * `C07_X_fault_prefix`: for the writer's output `x` on well-formed records and EVERY offset
    `k`, the items delivered from `x.take k` are leading records of the fault-free decode,
    followed by exactly one error — never a record made from a cut line / cut tree.
    (FASTA: for every byte string `x`, not only writer output.)
  * `C07_X_ends_in_err`: for ARBITRARY bytes the item list ends with an error: a failing
    source is never reported as though the data were complete.  The item list is a finite
    `List` by construction: after the error item nothing follows (`err_only_last` in C01–C05),
    so a source that keeps failing forever yields the same items.

  Part 2 (writers).  `runWriter k calls` (defined in `Bio/Lemmas/Writer.lean`) is a writer that
  accepts `k` bytes in total and then fails; `calls` is the sequence of `Write` calls
  (`Fprintf`s) the format's `Write` method makes.  `Write` returns an error iff `k` is smaller
  than the encoded length, and the bytes that reached the writer are the first `k` bytes of the
  encoding.
-/
import Bio.Lemmas.CrossNewick
namespace Bio

/-! ## 1a. Fault prefix -/

/-- FASTA, every byte string `x`, every offset `k`. -/
theorem C07_fasta_fault_prefix (x : Bytes) (k : Nat) :
    ∃ n, Fasta.decodeSrc .fail (x.take k) = (Fasta.decode x).take n ++ [Item.err] :=
  Fasta.fault_prefix x k

/-- FASTA, writer output: the items before the error are the leading records written. -/
theorem C07_fasta_fault_prefix_wf (w : Nat) (hw : 0 < w) (rs : List Fasta.Fa)
    (h : ∀ r ∈ rs, Fasta.WF r) (k : Nat) :
    ∃ n, Fasta.decodeSrc .fail ((Fasta.encodeAll w rs).take k) =
      (rs.take n).map Item.ok ++ [Item.err] :=
  Fasta.fault_prefix_wf w hw rs h k

example :
    (0 : Nat) < 3 ∧
    ∀ r ∈ ([⟨[115, 49], [65, 67, 71, 84, 65, 67, 71]⟩, ⟨[], [84]⟩] : List Fasta.Fa), Fasta.WF r := by
  decide

theorem C07_fastq_fault_prefix (rs : List Fastq.Fq) (h : ∀ r ∈ rs, Fastq.WF r) (k : Nat) :
    ∃ n, Fastq.decodeSrc .fail ((Fastq.encodeAll rs).take k) =
      (rs.take n).map Item.ok ++ [Item.err] :=
  Fastq.fault_prefix_wf rs h k

example :
    ∀ r ∈ ([⟨[114, 49], [65, 67, 71, 84], [73, 73, 73, 73]⟩, ⟨[114, 50], [71], [43]⟩] : List Fastq.Fq),
      Fastq.WF r := by
  decide

/-- SAM: both readers (`ReaderHeader` and `Reader`). -/
theorem C07_sam_fault_prefix (pf : Bytes → Option Bytes) (hs : List Bytes) (rs : List Sam.Sam)
    (hh : ∀ h ∈ hs, Sam.hdrOK h) (hr : ∀ s ∈ rs, Sam.WF pf s) (k : Nat) :
    (∃ n, Sam.decodeHeaderSrc pf .fail
        (((hs ++ rs.map Sam.encodeLine).map (· ++ [10])).flatten.take k) =
      (Sam.decodeHeader pf ((hs ++ rs.map Sam.encodeLine).map (· ++ [10])).flatten).take n
        ++ [Item.err]) ∧
    (∃ n, Sam.decodeSrc pf .fail
        (((hs ++ rs.map Sam.encodeLine).map (· ++ [10])).flatten.take k) =
      (Sam.decode pf ((hs ++ rs.map Sam.encodeLine).map (· ++ [10])).flatten).take n
        ++ [Item.err]) :=
  Sam.fault_prefix pf hs rs hh hr k

/-- SAM: the items before the error are the leading records written. -/
theorem C07_sam_fault_prefix_records (pf : Bytes → Option Bytes) (hs : List Bytes)
    (rs : List Sam.Sam) (hh : ∀ h ∈ hs, Sam.hdrOK h) (hr : ∀ s ∈ rs, Sam.WF pf s) (k : Nat) :
    ∃ n, Sam.decodeSrc pf .fail
        (((hs ++ rs.map Sam.encodeLine).map (· ++ [10])).flatten.take k) =
      (rs.take n).map Item.ok ++ [Item.err] := by
  obtain ⟨n, hn⟩ := (Sam.fault_prefix pf hs rs hh hr k).2
  exact ⟨n, by rw [hn, (Sam.file_roundtrip pf hs rs hh hr).2, List.map_take]⟩

example : (∀ h ∈ Sam.exHs, Sam.hdrOK h) ∧ (∀ s ∈ Sam.exRs, Sam.WF Sam.exPf s) :=
  ⟨Sam.exHs_ok, Sam.exRs_ok⟩

theorem C07_bed_fault_prefix (N : Nat) (bs : List Bed.Bed) (h : ∀ b ∈ bs, Bed.WF N b) (k : Nat) :
    ∃ n, Bed.decodeSrc .fail ((bs.map fun b => (Bed.encodeLine b).getD [] ++ [10]).flatten.take k)
      = (bs.take n).map (fun b => Item.ok (Bed.truncate N b)) ++ [Item.err] :=
  Bed.fault_prefix_wf N bs h k

/-- BED, with the file spelled as the concatenation of what `Write` emits. -/
theorem C07_bed_fault_prefix_encode (N : Nat) (bs : List Bed.Bed) (h : ∀ b ∈ bs, Bed.WF N b)
    (k : Nat) :
    ∃ n, Bed.decodeSrc .fail ((bs.map fun b => (Bed.encode b).getD []).flatten.take k)
      = (bs.take n).map (fun b => Item.ok (Bed.truncate N b)) ++ [Item.err] := by
  rw [Bed.encode_file_eq N bs h]
  have := Bed.fault_prefix_wf N bs h k
  simpa [lfFile, List.map_map, Function.comp_def] using this

example : ∀ b ∈ [Bed.ex12, Bed.ex12], Bed.WF 12 b := by decide

/-- Newick: trees written back to back, source failing after `k` bytes. -/
theorem C07_newick_fault_prefix (qs : Bytes) (pd : Bytes → Option Newick.Dist)
    (h : Newick.QS_OK qs) (ts : List Newick.Tree)
    (hd : ∀ t ∈ ts, t.AllDist (Newick.DistOK pd)) (k : Nat) :
    ∃ n, Newick.decodeSrc pd .fail (((ts.map (Newick.write qs)).flatten).take k) =
      (ts.take n).map Item.ok ++ [Item.err] :=
  Newick.fault_prefix qs pd h ts hd k

example : Newick.QS_OK Newick.qsGo ∧
    (∀ t ∈ [Newick.exTree, ⟨[97, 32, 98], none, .nil⟩, Newick.exTree],
      Newick.Tree.AllDist (Newick.DistOK Newick.pdEx) t) := by decide

/-- Concrete instance on the model: cutting 5 bytes into the second copy of the example tree
(whose text is 42 bytes) gives the first tree and then the error. -/
example : Newick.decodeSrc Newick.pdEx .fail
    ((([Newick.exTree, Newick.exTree].map (Newick.write Newick.qsGo)).flatten).take 47) =
      [Item.ok Newick.exTree, Item.err] := by decide +kernel

/-- The two facts behind the Newick theorem, for ARBITRARY bytes `y`, `z`: a tree read from a
failing source was complete (it is read identically, with the longer rest, from any extension
of the data and with any ending). -/
theorem C07_newick_prefix_monotone (pd : Bytes → Option Newick.Dist) (e : Ending) (y z : Bytes)
    (t : Newick.Tree) (rest : Bytes) (h : Newick.readTree pd .fail y = .tree t rest) :
    Newick.readTree pd e (y ++ z) = .tree t (rest ++ z) :=
  Newick.readTree_fail_append pd e y z t rest h

/-- Non-vacuity: `"a;b"` under a failing source reads the tree `a` with rest `"b"`. -/
example : Newick.readTree Newick.pdEx .fail [97, 59, 98] = .tree ⟨[97], none, .nil⟩ [98] := by
  decide +kernel

/-- A strict prefix of a written tree never yields a tree. -/
theorem C07_newick_cut_tree (qs : Bytes) (pd : Bytes → Option Newick.Dist) (h : Newick.QS_OK qs)
    (t : Newick.Tree) (hd : t.AllDist (Newick.DistOK pd)) (k : Nat)
    (hk : k < (Newick.write qs t).length) :
    Newick.readTree pd .fail ((Newick.write qs t).take k) = .err :=
  Newick.readTree_strict_prefix qs pd h t hd k hk

example : Newick.QS_OK Newick.qsGo ∧ Newick.exTree.AllDist (Newick.DistOK Newick.pdEx) ∧
    17 < (Newick.write Newick.qsGo Newick.exTree).length := by decide

/-! ## 1b. A failing source never ends as though the data were complete (arbitrary bytes) -/

theorem C07_fasta_ends_in_err (x : Bytes) :
    (Fasta.decodeSrc .fail x).getLast? = some Item.err := Fasta.fail_getLast x

theorem C07_fastq_ends_in_err (x : Bytes) :
    (Fastq.decodeSrc .fail x).getLast? = some Item.err := Fastq.fromLines_fail_getLast _

theorem C07_sam_header_ends_in_err (pf : Bytes → Option Bytes) (x : Bytes) :
    (Sam.decodeHeaderSrc pf .fail x).getLast? = some Item.err := Sam.header_fail_getLast pf x

theorem C07_sam_ends_in_err (pf : Bytes → Option Bytes) (x : Bytes) :
    (Sam.decodeSrc pf .fail x).getLast? = some Item.err := Sam.fail_getLast pf x

theorem C07_bed_ends_in_err (x : Bytes) :
    (Bed.decodeSrc .fail x).getLast? = some Item.err := Bed.fromLines_fail_getLast _ _

theorem C07_newick_ends_in_err (pd : Bytes → Option Newick.Dist) (x : Bytes) :
    (Newick.decodeSrc pd .fail x).getLast? = some Item.err := Newick.fail_getLast pd x

/-- In particular never a clean end of the tree stream. -/
theorem C07_newick_never_eof (pd : Bytes → Option Newick.Dist) (x : Bytes) :
    Newick.readTree pd .fail x ≠ .eof := Newick.readTree_fail_ne_eof pd x

/-! ## 2. Failing writers -/

/-- `runWriter`, spelled out. -/
theorem C07_runWriter_def (k : Nat) (c : Bytes) (cs : List Bytes) :
    runWriter k [] = ([], true) ∧
    runWriter k (c :: cs) =
      if c.length ≤ k then
        (c ++ (runWriter (k - c.length) cs).1, (runWriter (k - c.length) cs).2)
      else (c.take k, false) :=
  ⟨by simp [runWriter], by rw [runWriter]⟩

/-- Three calls of 2, 0 and 3 bytes against a budget of 3: the first two succeed (a
zero-length call never fails), the third is cut after one byte and fails. -/
example : runWriter 3 [[1, 2], [], [3, 4, 5]] = ([1, 2, 3], false) := by decide
example : runWriter 2 [[1, 2], []] = ([1, 2], true) := by decide
example : runWriter 0 [[], []] = ([], true) := by decide

/-- `Write` returns `nil` iff the budget covers all bytes. -/
theorem C07_runWriter_ok_iff (k : Nat) (calls : List Bytes) :
    (runWriter k calls).2 = true ↔ calls.flatten.length ≤ k := runWriter_ok_iff k calls

/-- `Write` returns an error iff the budget is smaller than the output. -/
theorem C07_runWriter_err_iff (k : Nat) (calls : List Bytes) :
    (runWriter k calls).2 = false ↔ k < calls.flatten.length := by
  have := runWriter_ok_iff k calls
  cases h : (runWriter k calls).2 <;> simp [h] at this ⊢ <;> omega

/-- The bytes that reached the writer are the first `k` bytes of the output. -/
theorem C07_runWriter_bytes (k : Nat) (calls : List Bytes) :
    (runWriter k calls).1 = calls.flatten.take k := runWriter_bytes k calls

/-- FASTA: one `Fprintf` for the name line, one per sequence line. -/
theorem C07_fasta_writer (w : Nat) (r : Fasta.Fa) (k : Nat) :
    ((runWriter k (Fasta.writeCalls w r)).2 = false ↔ k < (Fasta.encode w r).length) ∧
    (runWriter k (Fasta.writeCalls w r)).1 = (Fasta.encode w r).take k :=
  ⟨C07_runWriter_err_iff k _, runWriter_bytes k _⟩

/-- FASTQ: a single `Fprintf`. -/
theorem C07_fastq_writer (r : Fastq.Fq) (k : Nat) :
    ((runWriter k [Fastq.encode r]).2 = false ↔ k < (Fastq.encode r).length) ∧
    (runWriter k [Fastq.encode r]).1 = (Fastq.encode r).take k := by
  have h1 := C07_runWriter_err_iff k [Fastq.encode r]
  have h2 := runWriter_bytes k [Fastq.encode r]
  simp only [List.flatten_cons, List.flatten_nil, List.append_nil] at h1 h2
  exact ⟨h1, h2⟩

/-- SAM: the eleven fields, one call per tag, the final newline. -/
theorem C07_sam_writer (s : Sam.Sam) (k : Nat) :
    ((runWriter k (Sam.writeCalls s)).2 = false ↔ k < (Sam.encode s).length) ∧
    (runWriter k (Sam.writeCalls s)).1 = (Sam.encode s).take k := by
  have h1 := C07_runWriter_err_iff k (Sam.writeCalls s)
  have h2 := runWriter_bytes k (Sam.writeCalls s)
  rw [Sam.writeCalls_flatten] at h1 h2
  exact ⟨h1, h2⟩

/-- Newick: a single write of the tree text. -/
theorem C07_newick_writer (qs : Bytes) (t : Newick.Tree) (k : Nat) :
    ((runWriter k [Newick.write qs t]).2 = false ↔ k < (Newick.write qs t).length) ∧
    (runWriter k [Newick.write qs t]).1 = (Newick.write qs t).take k := by
  have h1 := C07_runWriter_err_iff k [Newick.write qs t]
  have h2 := runWriter_bytes k [Newick.write qs t]
  simp only [List.flatten_cons, List.flatten_nil, List.append_nil] at h1 h2
  exact ⟨h1, h2⟩

/-- BED: the `Write` calls of /repo/formats/bed/bed.go `Write` for `3 ≤ N ≤ 12`: one
`Fprintf` for the first three fields, one per further field, for a block list one call for
the TAB and one per element, and the final newline (`Bed.writeCalls`, `Bed.listCalls` are
defined in `Bio/Lemmas/Cross.lean`). -/
theorem C07_bed_writeCalls_def (b : Bed.Bed) :
    Bed.writeCalls b =
      [b.chrom ++ TAB :: itoa b.chromStart ++ TAB :: itoa b.chromEnd] ++
      (if b.n > 3 then [TAB :: b.name] else []) ++
      (if b.n > 4 then [TAB :: itoa b.score] else []) ++
      (if b.n > 5 then [TAB :: b.strand] else []) ++
      (if b.n > 6 then [TAB :: itoa b.thickStart] else []) ++
      (if b.n > 7 then [TAB :: itoa b.thickEnd] else []) ++
      (if b.n > 8 then [TAB :: (natDigits b.rgb.1.toNat ++ Bed.COMMA :: natDigits b.rgb.2.1.toNat ++
          Bed.COMMA :: natDigits b.rgb.2.2.toNat)] else []) ++
      (if b.n > 9 then [TAB :: itoa b.blockCount] else []) ++
      (if b.n > 10 then [TAB] :: Bed.listCalls b.blockSizes else []) ++
      (if b.n > 11 then [TAB] :: Bed.listCalls b.blockStarts else []) ++
      [[LF]] ∧
    Bed.listCalls [] = [] ∧
    ∀ x xs, Bed.listCalls (x :: xs) = itoa x :: xs.map (fun y => Bed.COMMA :: itoa y) :=
  ⟨rfl, rfl, fun _ _ => rfl⟩

/-- The calls concatenate to what `encode` says is written. -/
theorem C07_bed_writeCalls_flatten (b : Bed.Bed) (t : Bytes) (h : Bed.encode b = some t) :
    (Bed.writeCalls b).flatten = t := Bed.writeCalls_flatten b t h

theorem C07_bed_writer (b : Bed.Bed) (t : Bytes) (h : Bed.encode b = some t) (k : Nat) :
    ((runWriter k (Bed.writeCalls b)).2 = false ↔ k < t.length) ∧
    (runWriter k (Bed.writeCalls b)).1 = t.take k := by
  have h1 := C07_runWriter_err_iff k (Bed.writeCalls b)
  have h2 := runWriter_bytes k (Bed.writeCalls b)
  rw [Bed.writeCalls_flatten b t h] at h1 h2
  exact ⟨h1, h2⟩

/-- Non-vacuity: the 12-field example record is written (in 15 calls). -/
example : (Bed.encode Bed.ex12).isSome ∧ (Bed.writeCalls Bed.ex12).length = 15 := by
  decide +kernel
example : (Bed.encode Bed.ex3).isSome ∧ (Bed.writeCalls Bed.ex3).length = 2 := by
  decide +kernel

/-- When `N` is outside 3…12 `Write` makes no call at all and returns an error
(`Bed.write_refuses`): nothing reaches the writer, whatever its budget. -/
theorem C07_bed_writer_refuses (b : Bed.Bed) (h : b.n < 3 ∨ b.n > 12) : Bed.encode b = none :=
  Bed.write_refuses b h

example : ({ Bed.ex12 with n := 13 } : Bed.Bed).n < 3 ∨ ({ Bed.ex12 with n := 13 } : Bed.Bed).n > 12 := by
  decide

end Bio

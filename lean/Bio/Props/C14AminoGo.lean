/-
  C14 / C12 for the Go SOURCE TEXT, two small functions: `AminoName` (sequtil/amino.go) with the map
  literal `aminoToName`, and `ReverseComplementString` (sequtil/sequtil.go), as translated on every
  run into `Bio.Generated.GoSrc`:

  * `AminoName` on the source's own map literal is the model's `aminoName` on the table OBSERVED from
    the running code, for all 256 bytes (lower case folded, a panic exactly on the other bytes) — a
    finite check lifted to `∀ b : UInt8`; hence the results of `Bio/Props/C14.lean` about the observed
    table hold for the source text;
  * `ReverseComplementString s` is `ReverseComplement(nil, s)` (the model's `revComp`), for every `s`.

  Guarded by the translator's `<f>_Found` flags.
-/
import Bio.Props.C14Inst
import Bio.Props.C12Go
namespace Bio.Props.C14AminoGo
open Bio Bio.GoRt Bio.Generated Bio.GoSrcLemmas

/-- every translator flag this file depends on (see `C12Go.allFound`) -/
def allFound : Bool :=
  GoSrc.g_aminoToName_Found && GoSrc.AminoName_Found && GoSrc.ReverseComplementString_Found && GoSrc.complementByte_Found

/-- `AminoName` of the source = the model on the observed table, for every byte. -/
theorem go_AminoName : GoSrc.AminoName_Found = true → GoSrc.g_aminoToName_Found = true →
    ∀ b : UInt8, GoSrc.AminoName GoSrc.g_aminoToName b = Sequtil.aminoName Generated.aminoTable b := by
  intro h1 h2
  first
  | exact absurd h1 (by decide)
  | exact absurd h2 (by decide)
  | exact AminoName_eq h1 _ Sequtil.generated_aminoTable_ok (by decide +kernel) (by decide +kernel)

/-- Accepted exactly on the letters of `AminoAcids` in either case; both names non-empty; lower case
gives the same answer as upper case; every other byte panics. -/
theorem go_AminoName_spec : GoSrc.AminoName_Found = true → GoSrc.g_aminoToName_Found = true →
    ∀ b : UInt8,
      ((GoSrc.AminoName GoSrc.g_aminoToName b).isSome = true ↔ Sequtil.upperAZ b ∈ Generated.aminoAcids)
      ∧ GoSrc.AminoName GoSrc.g_aminoToName b = GoSrc.AminoName GoSrc.g_aminoToName (Sequtil.upperAZ b)
      ∧ ∀ r, GoSrc.AminoName GoSrc.g_aminoToName b = some r → r.1 ≠ [] ∧ r.2 ≠ [] := by
  intro h1 h2 b
  rw [go_AminoName h1 h2 b, go_AminoName h1 h2 (Sequtil.upperAZ b)]
  exact Sequtil.aminoName_spec Sequtil.generated_aminoTable_ok b

example : allFound = false ∨ (GoSrc.AminoName GoSrc.g_aminoToName 109 = some ([77, 101, 116], [77, 101, 116, 104, 105, 111, 110, 105, 110, 101])
    ∧ GoSrc.AminoName GoSrc.g_aminoToName 42 = some ([42], [83, 116, 111, 112, 32, 99, 111, 100, 111, 110])
    ∧ GoSrc.AminoName GoSrc.g_aminoToName 74 = none ∧ GoSrc.AminoName GoSrc.g_aminoToName 10 = none) := by decide +kernel

/-- `ReverseComplementString` is `ReverseComplement` into an empty destination. -/
theorem go_ReverseComplementString : GoSrc.ReverseComplementString_Found = true → GoSrc.complementByte_Found = true →
    ∀ (tbl : List UInt8) (s : Bytes), GoSrc.ReverseComplementString tbl s = Sequtil.revComp tbl [] s := by
  intro hF hC tbl s
  first
  | exact absurd hF (by decide)
  | exact absurd hC (by decide)
  | (unfold GoSrc.ReverseComplementString
     simp only [Option.pure_def, Option.bind_eq_bind]
     exact revCompLoop_eq hC tbl [] s)

example : allFound = false ∨ (GoSrc.ReverseComplementString Generated.compTable [65, 65, 99, 78] = some [78, 103, 84, 84]
    ∧ GoSrc.ReverseComplementString Generated.compTable [65, 88] = none) := by decide

end Bio.Props.C14AminoGo

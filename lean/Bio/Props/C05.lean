/-
  C05 — Newick codec: names, tokens, condensed output, tree round trip,
  multi-tree round trip, error placement.

  Parameters: `qs` = the set of bytes that force quoting (hypothesis `QS_OK`);
  `pd` = the assumed distance parser (hypothesis `DistOK` on every distance token
  in the tree).  Definitions `QS_OK`, `DistOK`, `DistClean`, `Tree.AllDist`,
  `outsideQuotesNoWS` are at the top of `Bio/Lemmas/Newick.lean`.
-/
import Bio.Lemmas.Newick
namespace Bio.Newick

/-- The quote set of `nameToText` in newick.go: "(),:;'_\t\n\r". -/
def qsGo : Bytes := [40, 41, 44, 58, 59, 39, 95, 9, 10, 13]

example : QS_OK qsGo := by decide +kernel

/-! ## 1. Names -/

theorem undouble_roundtrip (s : Bytes) : undoubleQuotes (doubleQuotes s) = s :=
  undouble_double s

theorem name_roundtrip (qs : Bytes) (h : QS_OK qs) (s : Bytes) :
    nameFromText (nameToText qs s) = s :=
  name_roundtrip' qs h s

-- "a b" is written with an underscore; "a b'(c)\n" is quoted with the quote doubled.
example : nameToText qsGo [97, 32, 98] = [97, 95, 98] := by decide +kernel
example : nameToText qsGo [97, 32, 98, 39, 40, 99, 41, 10]
    = [39, 97, 32, 98, 39, 39, 40, 99, 41, 10, 39] := by decide +kernel
example : nameFromText (nameToText qsGo [97, 32, 98, 39, 40, 99, 41, 10])
    = [97, 32, 98, 39, 40, 99, 41, 10] := by decide +kernel
example : nameFromText (nameToText qsGo [39]) = [39] := by decide +kernel
example : nameFromText (nameToText qsGo [39, 39]) = [39, 39] := by decide +kernel

/-! ## 2. A name text is exactly one token -/

theorem name_one_token (qs : Bytes) (h : QS_OK qs) (e : Ending) (s : Bytes) (hs : s ≠ [])
    (c : UInt8) (r : Bytes) (hc : isStruct c = true) :
    nextToken e (nameToText qs s ++ c :: r) = Tok.tok (nameToText qs s) (c :: r) :=
  nextToken_name qs h e s (c :: r) (nameToText_ne_nil hs) (Term.struct hc)

theorem name_one_token_eof (qs : Bytes) (h : QS_OK qs) (s : Bytes) (hs : s ≠ []) :
    nextToken .eof (nameToText qs s) = Tok.tok (nameToText qs s) [] := by
  have := nextToken_name qs h .eof s [] (nameToText_ne_nil hs) (Or.inl ⟨rfl, rfl⟩)
  simpa using this

/-- The empty name has empty text (no token at all). -/
theorem name_empty (qs : Bytes) : nameToText qs [] = [] := by
  simp [nameToText, needsQuote]

/-- A name text is never mistaken for a structural token. -/
theorem name_not_struct_token (qs : Bytes) (h : QS_OK qs) (s : Bytes) (c : UInt8)
    (hc : isStruct c = true) : nameToText qs s ≠ [c] := by
  obtain ⟨h1, h2, h3, h4, h5⟩ := nameToText_notStructTok h s
  rcases isStruct_cases hc with rfl | rfl | rfl | rfl | rfl <;> assumption

example : ([97, 32, 98, 39, 40, 99, 41, 10] : Bytes) ≠ [] ∧ isStruct 41 = true := by decide +kernel
example : nextToken .fail (nameToText qsGo [97, 32, 98, 39, 40, 99, 41, 10] ++ [41, 59])
    = Tok.tok [39, 97, 32, 98, 39, 39, 40, 99, 41, 10, 39] [41, 59] := by decide +kernel

/-- `QS_OK` is needed: with the quote set "(),:;'_\t" (no LF, CR) the
name "a\nb" is written bare and the tokenizer cuts it at the LF. -/
example : nextToken .eof (nameToText [40, 41, 44, 58, 59, 39, 95, 9] [97, 10, 98] ++ [59])
    = Tok.tok [97] [98, 59] := by decide +kernel

/-! ## 3. Condensed output -/

theorem condensed (qs : Bytes) (h : QS_OK qs) (t : Tree) (hd : t.AllDist DistClean) :
    (write qs t).getLast? = some 59 ∧ outsideQuotesNoWS (write qs t) = true :=
  ⟨write_getLast qs t, scan_write qs h t hd⟩

/-- Same under the hypothesis used by the round-trip theorems. -/
theorem condensed_of_distOK (qs : Bytes) (pd : Bytes → Option Dist) (h : QS_OK qs) (t : Tree)
    (hd : t.AllDist (DistOK pd)) :
    (write qs t).getLast? = some 59 ∧ outsideQuotesNoWS (write qs t) = true :=
  condensed qs h t ⟨hd.1.clean, Forest.AllDist.mono (fun _ => DistOK.clean) _ hd.2⟩

/-! ## 4. Tree round trip -/

theorem tree_roundtrip (qs : Bytes) (pd : Bytes → Option Dist) (h : QS_OK qs) (t : Tree)
    (hd : t.AllDist (DistOK pd)) (rest : Bytes) :
    readTree pd .eof (write qs t ++ rest) = ReadRes.tree t rest :=
  readTree_write qs pd .eof h t hd rest

/-- The same whatever the ending of the source (in particular one that fails after the tree). -/
theorem tree_roundtrip_any_ending (qs : Bytes) (pd : Bytes → Option Dist) (e : Ending)
    (h : QS_OK qs) (t : Tree) (hd : t.AllDist (DistOK pd)) (rest : Bytes) :
    readTree pd e (write qs t ++ rest) = ReadRes.tree t rest :=
  readTree_write qs pd e h t hd rest

/-- A sample distance parser: accepts exactly "1" and "2.5". -/
def pdEx : Bytes → Option Dist := fun t =>
  if t = [49] then some (some [49]) else if t = [50, 46, 53] then some (some [50, 46, 53]) else none

/-- ((A:1,'b (c)''\n',):2.5,,(x y)inner)root:1  — three levels, distances, an
unnamed leaf, names with space / quote / parentheses / LF. -/
def exTree : Tree :=
  ⟨[114, 111, 111, 116], some [49],
    .cons [] (some [50, 46, 53])
      (.cons [65] (some [49]) .nil
        (.cons [98, 32, 40, 99, 41, 39, 10] none .nil
          (.cons [] none .nil .nil)))
    (.cons [] none .nil
      (.cons [105, 110, 110, 101, 114] none
        (.cons [120, 32, 121] none .nil .nil)
        .nil))⟩

example : exTree.AllDist (DistOK pdEx) := by decide +kernel

example : exTree.AllDist DistClean := by decide +kernel

-- "((A:1,'b (c)''\n',):2.5,,(x_y)inner)root:1;"
example : write qsGo exTree =
    [40, 40, 65, 58, 49, 44, 39, 98, 32, 40, 99, 41, 39, 39, 10, 39, 44, 41, 58, 50, 46, 53, 44,
      44, 40, 120, 95, 121, 41, 105, 110, 110, 101, 114, 41, 114, 111, 111, 116, 58, 49, 59] := by
  decide +kernel

example : outsideQuotesNoWS (write qsGo exTree) = true := by decide +kernel

example : readTree pdEx .eof (write qsGo exTree ++ [13, 10]) = ReadRes.tree exTree [13, 10] :=
  tree_roundtrip qsGo pdEx (by decide) exTree (by decide) [13, 10]

-- "();" and "(,);" : empty names, nothing between the structural bytes.
example : write qsGo ⟨[], none, .cons [] none .nil .nil⟩ = [40, 41, 59] := by decide +kernel
example : write qsGo ⟨[], none, .cons [] none .nil (.cons [] none .nil .nil)⟩ = [40, 44, 41, 59] := by
  decide +kernel

/-! ## 5. Several trees -/

/-- Trees written back to back. -/
theorem forest_roundtrip (qs : Bytes) (pd : Bytes → Option Dist) (h : QS_OK qs) (ts : List Tree)
    (hd : ∀ t ∈ ts, t.AllDist (DistOK pd)) :
    decode pd ((ts.map (write qs)).flatten) = ts.map Item.ok := by
  have := decodeSrc_writeAll qs pd h (ts.map fun t => (t, []))
    (by simpa using hd) (by simp)
  simpa [writeAll, decode, List.flatMap_def, Function.comp_def] using this

/-- Leading whitespace, and an arbitrary whitespace string (e.g. LF or CRLF)
after each tree. -/
theorem trees_roundtrip (qs : Bytes) (pd : Bytes → Option Dist) (h : QS_OK qs)
    (pre : Bytes) (tws : List (Tree × Bytes))
    (hpre : ∀ b ∈ pre, isWS b = true)
    (hd : ∀ p ∈ tws, p.1.AllDist (DistOK pd))
    (hw : ∀ p ∈ tws, ∀ b ∈ p.2, isWS b = true) :
    decode pd (pre ++ tws.flatMap fun p => write qs p.1 ++ p.2) = tws.map fun p => Item.ok p.1 := by
  unfold decode
  rw [decodeSrc_ws pd .eof pre _ hpre]
  exact decodeSrc_writeAll qs pd h tws hd hw

example :
    decode pdEx ([32, 10] ++ [(exTree, [13, 10]), (⟨[], none, .nil⟩, []), (exTree, [10, 9, 32])].flatMap
      fun p => write qsGo p.1 ++ p.2)
      = [Item.ok exTree, Item.ok ⟨[], none, .nil⟩, Item.ok exTree] :=
  trees_roundtrip qsGo pdEx (by decide) [32, 10] _ (by decide)
    (by decide) (by decide)

/-! ## 6. An error ends the iteration -/

/-- Records, then at most one error, which is last. -/
theorem decode_shape (pd : Bytes → Option Dist) (e : Ending) (x : Bytes) :
    ∃ oks : List Tree, decodeSrc pd e x = oks.map Item.ok ∨
      decodeSrc pd e x = oks.map Item.ok ++ [Item.err] :=
  decodeSrc_shape pd e x

theorem err_only_last (pd : Bytes → Option Dist) (e : Ending) (x : Bytes) (i : Nat)
    (hi : (decodeSrc pd e x)[i]? = some Item.err) : i + 1 = (decodeSrc pd e x).length :=
  err_index_last _ (decode_shape pd e x) i hi

/-- The progress guard in `decodeSrc` is dead code: a tree always consumes input. -/
theorem read_consumes (pd : Bytes → Option Dist) (e : Ending) (x : Bytes) (t : Tree) (rest : Bytes)
    (h : readTree pd e x = ReadRes.tree t rest) : rest.length < x.length :=
  readTree_rest_lt pd e x t rest h

end Bio.Newick

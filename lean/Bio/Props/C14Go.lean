/-
  C14 for the Go SOURCE TEXT: `Translate` and `TranslateReadingFrames` of sequtil/amino.go, as
  translated on every run into `Bio.Generated.GoSrc` (upper-casing each byte, then a look-up in the
  64-entry map literal `codonToAmino`, value 0 = absent = panic), compute the hand-written models
  `translate` / `frames` of `Bio.Model.Sequtil` on the table of all accepted raw triples observed
  from the running Go code — for every input of every length, panics (`none`) included.
  The two tables are related (`codonTables_compat`) through the standard genetic code: the source map
  is the standard code on the 64 upper-case codons (a finite check on the map, `srcCodonsOK`), the
  observed table is the standard code on all raw triples (`generated_codonTable_ok`, C14Inst).
  Guarded by the translator's `<f>_Found` flags (see `Bio.Lemmas.GoSrc`).
-/
import Bio.Lemmas.GoSrc
import Bio.Props.C14Inst
namespace Bio.Props.C14Go
open Bio Bio.GoRt Bio.Generated Bio.GoSrcLemmas

/-- every translator flag this file depends on; the non-vacuity examples below are stated as
`allFound = false ∨ …` so that a source the translator no longer recognises is not an alarm -/
def allFound : Bool := GoSrc.g_codonToAmino_Found && GoSrc.Translate_Found && GoSrc.TranslateReadingFrames_Found

/-- The source map and the observed table agree on all 256³ raw triples (0 = rejected). -/
theorem codonTables_compat : GoSrc.g_codonToAmino_Found = true →
    (∀ a b c : UInt8, mapGet GoSrc.g_codonToAmino [up a, up b, up c] 0
        = (Sequtil.codon Generated.codonTable a b c).getD 0)
    ∧ (∀ a b c v : UInt8, Sequtil.codon Generated.codonTable a b c = some v → v ≠ 0) := by
  intro h
  first
  | exact absurd h (by decide)
  | (have hsrc : srcCodonsOK GoSrc.g_codonToAmino = true := by decide +kernel
     have hobs := Sequtil.codon_eq_std Sequtil.generated_codonTable_ok
     exact ⟨fun a b c => by rw [mapGet_src_std hsrc, hobs],
       fun a b c v hv => Sequtil.stdCodon_ne_zero (hobs a b c ▸ hv)⟩)

example : allFound = false ∨ (GoSrc.g_codonToAmino_Found = true) := by decide

theorem go_Translate : GoSrc.Translate_Found = true → GoSrc.g_codonToAmino_Found = true →
    ∀ dst src : Bytes,
      GoSrc.Translate GoSrc.g_codonToAmino dst src = Sequtil.translate Generated.codonTable dst src :=
  fun hF hG dst src =>
    Translate_eq hF GoSrc.g_codonToAmino Generated.codonTable
      (codonTables_compat hG).1 (codonTables_compat hG).2 dst src

example : allFound = false ∨ (GoSrc.Translate_Found = true ∧ GoSrc.g_codonToAmino_Found = true) := by decide
-- "ATGtaa" -> "M*" after dst; a length not divisible by 3 and a non-nucleotide both panic
example : allFound = false ∨ (GoSrc.Translate GoSrc.g_codonToAmino [7] [65, 84, 71, 116, 97, 97] = some [7, 77, 42]
    ∧ GoSrc.Translate GoSrc.g_codonToAmino [] [65, 84, 71, 65] = none
    ∧ GoSrc.Translate GoSrc.g_codonToAmino [] [65, 78, 71] = none
    ∧ GoSrc.Translate GoSrc.g_codonToAmino [] [65, 123, 71] = none) := by decide

theorem go_TranslateReadingFrames : GoSrc.TranslateReadingFrames_Found = true →
    GoSrc.Translate_Found = true → GoSrc.g_codonToAmino_Found = true →
    ∀ seq : Bytes,
      GoSrc.TranslateReadingFrames GoSrc.g_codonToAmino seq = Sequtil.frames Generated.codonTable seq :=
  fun hF hTr hG seq =>
    TranslateReadingFrames_eq hF hTr GoSrc.g_codonToAmino Generated.codonTable
      (codonTables_compat hG).1 (codonTables_compat hG).2 seq

example : allFound = false ∨ (GoSrc.TranslateReadingFrames_Found = true ∧ GoSrc.Translate_Found = true
    ∧ GoSrc.g_codonToAmino_Found = true) := by decide
-- "ATGtaaC": frames ATG|taa, TGt|aaC, Gta|aC. -> "M*", "CN", "V"; the empty and 1-byte inputs
example : allFound = false ∨ (GoSrc.TranslateReadingFrames GoSrc.g_codonToAmino [65, 84, 71, 116, 97, 97, 67]
      = some [[77, 42], [67, 78], [86]]
    ∧ GoSrc.TranslateReadingFrames GoSrc.g_codonToAmino [] = some [[], [], []]
    ∧ GoSrc.TranslateReadingFrames GoSrc.g_codonToAmino [65] = some [[], [], []]
    ∧ GoSrc.TranslateReadingFrames GoSrc.g_codonToAmino [65, 84, 78, 65] = none) := by decide

end Bio.Props.C14Go

/-
  C09 (tables part) — the six shipped substitution matrices (BLOSUM45/62/80,
  PAM120/160/250) are total and symmetric over the 24-symbol alphabet, have gap-open
  score 0 and contain nothing else; `Levenshtein` is 0 on the diagonal and -1 elsewhere
  on all 65 536 byte pairs.  Consequences for the aligner: no panic on protein
  sequences, swap symmetry and optimality of Global with every shipped matrix.

  `Bio/Generated/Tables.lean` is regenerated by harness/cmd/tablegen from the RUNNING Go
  code (it ranges over the exported maps `align.BLOSUM62` …, keys sorted bytewise) on
  every verification run.  Nothing below copies its content: each table fact is obtained
  by running the executable check `Bio.Tables.tableCheck` on the generated definition
  inside the kernel (`decide +kernel`), and `tableCheck_sound` (Bio/Lemmas/Tables.lean)
  turns `true` into the ∀-statements.  A missing key, an extra key, an asymmetric pair, a
  non-zero gap-open or a non-integral score (emitted as the undefined identifier
  `nonIntegralScore`) makes this file fail to compile.
-/
import Bio.Generated.Tables
import Bio.Lemmas.Tables
import Bio.Props.C09
namespace Bio.Generated
open Bio.Align Bio.Tables

/-- The 23 amino-acid letters `ARNDCQEGHILKMFPSTWYVBZX` of the NCBI matrix files. -/
def letters23 : List UInt8 :=
  [65, 82, 78, 68, 67, 81, 69, 71, 72, 73, 76, 75, 77, 70, 80, 83, 84, 87, 89, 86, 66, 90, 88]

/-- The letters plus the gap symbol 255 (`align.Gap`): 24 symbols, 576 pairs. -/
def alphabet24 : List UInt8 :=
  [65, 82, 78, 68, 67, 81, 69, 71, 72, 73, 76, 75, 77, 70, 80, 83, 84, 87, 89, 86, 66, 90, 88, 255]

/-- The same 24 symbols in increasing byte order — the order in which tablegen lists keys
(`ABCDEFGHIKLMNPQRSTVWXYZ`, 255). -/
def sorted24 : List UInt8 :=
  [65, 66, 67, 68, 69, 70, 71, 72, 73, 75, 76, 77, 78, 80, 81, 82, 83, 84, 86, 87, 88, 89, 90, 255]

theorem alphabet24_eq : alphabet24 = letters23 ++ [GAP] := by decide
theorem letters23_eq_string :
    letters23.map (fun b => Char.ofNat b.toNat) = "ARNDCQEGHILKMFPSTWYVBZX".toList := by
  decide +kernel
theorem alphabet24_length : alphabet24.length = 24 ∧ alphabet24.Nodup := by decide +kernel
theorem sorted24_nodup : sorted24.Nodup := by decide +kernel
theorem mem_sorted24 (x : UInt8) : x ∈ sorted24 ↔ x ∈ alphabet24 :=
  have h : (∀ x ∈ alphabet24, x ∈ sorted24) ∧ (∀ x ∈ sorted24, x ∈ alphabet24) := by decide +kernel
  ⟨h.2 x, h.1 x⟩

theorem letters23_sub (x : UInt8) (h : x ∈ letters23) : x ∈ alphabet24 := by
  rw [alphabet24_eq]; exact List.mem_append_left _ h

/-- What is claimed of each shipped table. -/
structure TableOK (T : Table) : Prop where
  /-- every pair over the alphabet has an entry (`Get` cannot panic on it) -/
  total : ∀ x ∈ alphabet24, ∀ y ∈ alphabet24, (lookup T x y).isSome
  /-- symmetric over the alphabet -/
  symmetric : ∀ x ∈ alphabet24, ∀ y ∈ alphabet24, lookup T x y = lookup T y x
  /-- the gap-open score, the entry at `(GAP, GAP)` = `(255, 255)`, is 0 -/
  gapOpen : lookup T 255 255 = some 0
  /-- 576 entries with pairwise distinct keys: the table has nothing else -/
  keyCount : T.length = 576 ∧ (T.map (·.1)).Nodup
  /-- (stronger) an entry exists ONLY for pairs over the alphabet -/
  keysExact : ∀ x y, (lookup T x y).isSome ↔ x ∈ alphabet24 ∧ y ∈ alphabet24
  /-- (stronger) symmetric for all 65 536 byte pairs, absent entries included -/
  symmetricAll : ∀ x y, lookup T x y = lookup T y x

/-- Soundness of the executable check, specialised to the 24-symbol alphabet. -/
theorem tableOK_of_check (T : Table) (h : tableCheck sorted24 T = true) : TableOK T := by
  obtain ⟨hk, hsym, hgap⟩ := tableCheck_sound sorted24 sorted24_nodup T h
  have htot := total_of_keys sorted24 T hk
  exact
    { total := fun x hx y hy => htot x ((mem_sorted24 x).2 hx) y ((mem_sorted24 y).2 hy)
      symmetric := fun x _ y _ => hsym x y
      gapOpen := hgap
      keyCount := ⟨by rw [length_of_keys sorted24 T hk]; decide,
        nodup_of_keys sorted24 sorted24_nodup T hk⟩
      keysExact := fun x y => by
        rw [lookup_isSome_iff, hk, mem_expectedKeys, mem_sorted24, mem_sorted24]
      symmetricAll := hsym }

/-! Each of the six theorems below re-runs the check on the generated definition.  A generated table is `triples (r₀ ++ r₁ ++ … ++ r₁₇)`.  Left-nested, every cons of that chain passes
through up to 17 `List.append`s, and the kernel would spend as long on it as on the check itself;
hence the chain is reassociated to the right before the check is evaluated. -/

theorem blosum45_ok : TableOK blosum45 := by
  apply tableOK_of_check (triples _)
  repeat rw [List.append_assoc]
  decide +kernel
theorem blosum62_ok : TableOK blosum62 := by
  apply tableOK_of_check (triples _)
  repeat rw [List.append_assoc]
  decide +kernel
theorem blosum80_ok : TableOK blosum80 := by
  apply tableOK_of_check (triples _)
  repeat rw [List.append_assoc]
  decide +kernel
theorem pam120_ok : TableOK pam120 := by
  apply tableOK_of_check (triples _)
  repeat rw [List.append_assoc]
  decide +kernel
theorem pam160_ok : TableOK pam160 := by
  apply tableOK_of_check (triples _)
  repeat rw [List.append_assoc]
  decide +kernel
theorem pam250_ok : TableOK pam250 := by
  apply tableOK_of_check (triples _)
  repeat rw [List.append_assoc]
  decide +kernel

def shipped : List (String × Table) :=
  [("BLOSUM45", blosum45), ("BLOSUM62", blosum62), ("BLOSUM80", blosum80),
   ("PAM120", pam120), ("PAM160", pam160), ("PAM250", pam250)]

theorem shipped_ok : ∀ p ∈ shipped, TableOK p.2 := by
  simp only [shipped, List.forall_mem_cons, List.not_mem_nil, false_imp_iff, implies_true, and_true]
  exact ⟨blosum45_ok, blosum62_ok, blosum80_ok, pam120_ok, pam160_ok, pam250_ok⟩

/-- `align.Levenshtein` is a map with 256² entries; instead of shipping 65 536 triples,
tablegen ranges over ALL 65 536 byte pairs `(i, j)` of the running map and emits a
summary: `levKeys` = `len(Levenshtein)`, `levBad` = number of pairs that are missing or
have a non-integral value, `levDiag` = the sorted set of values found at `i = j`,
`levOff` = the sorted set of values found at `i ≠ j`.  The statement below therefore says:
all 65 536 pairs are present (and nothing else), every diagonal entry — including
`(Gap, Gap)`, so gap-open is 0 — is `0`, and every off-diagonal entry is `-1`; i.e. the
shipped `Levenshtein` is the matrix `levMat` of `Bio/Props/C09.lean`
(`levenshtein_is_edit_distance`). -/
theorem levenshtein_summary : levKeys = 65536 ∧ levBad = 0 ∧ levDiag = [0] ∧ levOff = [-1] := by
  decide

/-- `levMat` has exactly the summarised shape. -/
theorem levMat_shape : (∀ x, levMat x x = 0) ∧ (∀ x y, x ≠ y → levMat x y = -1) := by
  constructor
  · intro x; simp [levMat]
  · intro x y h; simp [levMat, h]

/-- Global and Local do not panic on sequences over the alphabet (any lengths; the gap byte 255
may occur) with a table satisfying `TableOK`. -/
theorem tableOK_no_panic (T : Table) (hT : TableOK T) (a b : Bytes)
    (ha : ∀ x ∈ a, x ∈ alphabet24) (hb : ∀ y ∈ b, y ∈ alphabet24) :
    (globalP (lookup T) a b).isSome ∧ (localP (lookup T) a b).isSome :=
  total_no_panic (lookup T) a b <|
    needed_isSome (lookup T) alphabet24 (by decide) hT.total a b ha hb

/-- … for every shipped matrix. -/
theorem shipped_no_panic' : ∀ p ∈ shipped, ∀ a b : Bytes,
    (∀ x ∈ a, x ∈ alphabet24) → (∀ y ∈ b, y ∈ alphabet24) →
    (globalP (lookup p.2) a b).isSome ∧ (localP (lookup p.2) a b).isSome :=
  fun p hp a b => tableOK_no_panic p.2 (shipped_ok p hp) a b

/-- In particular on protein sequences, over the 23 letters. -/
theorem shipped_no_panic : ∀ p ∈ shipped, ∀ a b : Bytes,
    (∀ x ∈ a, x ∈ letters23) → (∀ y ∈ b, y ∈ letters23) →
    (globalP (lookup p.2) a b).isSome ∧ (localP (lookup p.2) a b).isSome :=
  fun p hp a b ha hb => shipped_no_panic' p hp a b
    (fun x hx => letters23_sub x (ha x hx)) (fun y hy => letters23_sub y (hb y hy))

theorem TableOK.none_outside {T : Table} (hT : TableOK T) {x y : UInt8}
    (h : ¬ (x ∈ alphabet24 ∧ y ∈ alphabet24)) : lookup T x y = none :=
  Option.not_isSome_iff_eq_none.1 (mt (hT.keysExact x y).1 h)

/-- Conversely a letter outside the alphabet (e.g. `J`, `O`, `U`, lower case) panics. -/
theorem tableOK_panic_outside (T : Table) (hT : TableOK T) (a b : Bytes) (x : UInt8)
    (hx : x ∈ a) (hout : x ∉ alphabet24) : globalP (lookup T) a b = none ∧ localP (lookup T) a b = none := by
  apply panic_of_missing (lookup T) a b (x, GAP)
  · rw [needed_spec]; exact Or.inr (Or.inl ⟨x, hx, rfl⟩)
  · exact hT.none_outside fun h => hout h.1

/-- The total matrix the DP runs on is symmetric on ALL bytes and has zero gap-open. -/
theorem tableOK_total_symm (T : Table) (hT : TableOK T) :
    (∀ x y, total (lookup T) x y = total (lookup T) y x) ∧ total (lookup T) GAP GAP = 0 :=
  ⟨total_symm (lookup T) hT.symmetricAll, by
    have h : lookup T GAP GAP = some 0 := hT.gapOpen
    simp [total, h]⟩

/-- Swapping the inputs does not change the Global score — for ALL byte strings `a b`
(in particular for sequences over the alphabet, where moreover nothing panics). -/
theorem tableOK_swap (T : Table) (hT : TableOK T) (a b : Bytes) :
    (globalT (total (lookup T)) a b).2 = (globalT (total (lookup T)) b a).2 :=
  swap_symmetric _ a b (tableOK_total_symm T hT).1 (tableOK_total_symm T hT).2

theorem shipped_swap : ∀ p ∈ shipped, ∀ a b : Bytes,
    (globalT (total (lookup p.2)) a b).2 = (globalT (total (lookup p.2)) b a).2 :=
  fun p hp a b => tableOK_swap p.2 (shipped_ok p hp) a b

/-- In terms of the panicking API: on protein sequences both calls return, with equal scores. -/
theorem shipped_swap_P : ∀ p ∈ shipped, ∀ a b : Bytes,
    (∀ x ∈ a, x ∈ letters23) → (∀ y ∈ b, y ∈ letters23) →
    ∃ r r', globalP (lookup p.2) a b = some r ∧ globalP (lookup p.2) b a = some r' ∧ r.2 = r'.2 := by
  intro p hp a b ha hb
  obtain ⟨r, hr⟩ := Option.isSome_iff_exists.1 (shipped_no_panic p hp a b ha hb).1
  obtain ⟨r', hr'⟩ := Option.isSome_iff_exists.1 (shipped_no_panic p hp b a hb ha).1
  refine ⟨r, r', hr, hr', ?_⟩
  unfold globalP at hr hr'
  split at hr <;> split at hr' <;> try contradiction
  cases hr; cases hr'
  exact shipped_swap p hp a b

/-- Gap-open is 0 in every shipped matrix, so Global is OPTIMAL with each of them
(C09 §1): the returned steps are an alignment with the returned score and no alignment
scores more. -/
theorem shipped_global_optimal : ∀ p ∈ shipped, ∀ a b : Bytes,
    rescore (total (lookup p.2)) .none a b (globalT (total (lookup p.2)) a b).1
      = some ((globalT (total (lookup p.2)) a b).2, [], []) ∧
    ∀ s v, rescore (total (lookup p.2)) .none a b s = some (v, [], []) →
      v ≤ (globalT (total (lookup p.2)) a b).2 :=
  fun p hp a b => global_is_max_zero_open _ a b (tableOK_total_symm p.2 (shipped_ok p hp)).2

example : ("BLOSUM62", blosum62) ∈ shipped := by simp [shipped]
/-- "ARND" and "WYV" are sequences over the 23 letters. -/
example : (∀ x ∈ ([65, 82, 78, 68] : Bytes), x ∈ letters23) ∧
    (∀ y ∈ ([87, 89, 86] : Bytes), y ∈ letters23) := by decide
/-- `J` (74) is outside the alphabet. -/
example : (74 : UInt8) ∈ ([65, 74] : Bytes) ∧ (74 : UInt8) ∉ alphabet24 := by decide
/-- The tables are not trivial (some entry is non-zero) and an outside pair is absent. -/
example : lookup blosum62 65 65 ≠ some 0 ∧ (lookup blosum62 65 65).isSome ∧
    lookup blosum62 74 65 = none :=
  ⟨by decide +kernel, by decide +kernel, blosum62_ok.none_outside (by decide)⟩
/-- The check does reject: a one-entry table; a table over `[65, 66]` that is not symmetric (and has
no `(GAP, GAP)` entry); of the two tables over `[65, 255]` the one with gap-open score `-3`. -/
example : tableCheck sorted24 [((65, 65), 4)] = false := by decide +kernel
example : tableCheck [65, 66] [((65, 65), 1), ((65, 66), 2), ((66, 65), 3), ((66, 66), 1)] = false := by
  decide +kernel
example : tableCheck [65, 255] [((65, 65), 1), ((65, 255), 2), ((255, 65), 2), ((255, 255), 0)] = true := by
  decide +kernel
example : tableCheck [65, 255] [((65, 65), 1), ((65, 255), 2), ((255, 65), 2), ((255, 255), -3)] = false := by
  decide +kernel

end Bio.Generated

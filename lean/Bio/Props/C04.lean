/-
  C04 — BED: what `Write` emits for a well-formed record is read back as the
  same record (restricted to its first N fields); the writer refuses N outside
  3…12; files of records round-trip; errors end the iteration; a source that
  fails after k bytes yields a prefix of the records and then one error.
-/
import Bio.Lemmas.Bed
namespace Bio.Bed

/-! ## Definitions that are part of the statements

`textOK`, `inRange`, `truncate` and `WF` are in `Bio.Lemmas.Bed`. -/

/-- One physical line of a BED file: a record, or a line the reader skips
(blank or `#` comment); each with its own terminator (LF or CR LF). -/
inductive Entry where
  | record (b : Bed) (crlf : Bool)
  | skip (l : Bytes) (crlf : Bool)

def Entry.line : Entry → Bytes
  | .record b _ => (encodeLine b).getD []
  | .skip l _ => l

def Entry.crlf : Entry → Bool
  | .record _ c => c
  | .skip _ c => c

/-- The bytes of the line including its terminator. -/
def Entry.bytes (e : Entry) : Bytes := e.line ++ lineEnd e.crlf

/-- What the reader reports for the line. -/
def Entry.out (N : Nat) : Entry → Option Bed
  | .record b _ => some (truncate N b)
  | .skip _ _ => none

def Entry.OK (N : Nat) : Entry → Prop
  | .record b _ => WF N b
  | .skip l _ => isSkipped l = true ∧ ∀ c ∈ l, c ≠ 10 ∧ c ≠ 13

instance (N : Nat) (e : Entry) : Decidable (e.OK N) := by
  cases e <;> unfold Entry.OK <;> infer_instance

/-! ## Example records used for non-vacuity -/

/-- 12 fields, two blocks, a name with a double quote, NUL and 0xFF, negative ints. -/
def ex12 : Bed :=
  { n := 12, chrom := [99, 104, 114, 49], chromStart := -5, chromEnd := 9223372036854775807,
    name := [34, 97, 34, 0, 255, 35, 32], score := -9223372036854775808, strand := [45],
    thickStart := 0, thickEnd := -1, rgb := (255, 0, 7), blockCount := 2,
    blockSizes := [10, -20], blockStarts := [0, 300] }

/-- 3 fields; the fields beyond the third hold junk that is not written. -/
def ex3 : Bed :=
  { ex12 with n := 3, chrom := [], blockCount := 77 }

/-- 11 fields: the sizes must agree with the block count; the starts are not written
and may hold anything. -/
def ex11 : Bed :=
  { ex12 with n := 11, blockCount := 2, blockSizes := [10, -20], blockStarts := [1, 2, 3] }

/-- 10 fields: a non-zero block count with neither list written. -/
def ex10 : Bed :=
  { ex12 with n := 10, blockCount := 2, blockSizes := [7], blockStarts := [1, 2, 3] }

/-! ## Consequences of the block-consistency clause -/

/-- With at most 10 fields the block clause is no constraint at all: any block count and
any (unwritten) lists are allowed. -/
theorem wf_blocks_le10 (N : Nat) (b : Bed) (h : N ≤ 10) :
    (N > 10 → (b.blockSizes.length : Int) = b.blockCount) ∧
    (N > 11 → (b.blockStarts.length : Int) = b.blockCount) :=
  ⟨fun h' => by omega, fun h' => by omega⟩

theorem wf_blocks_le9 (N : Nat) (b : Bed) (h : N ≤ 9) :
    (N > 10 → (b.blockSizes.length : Int) = b.blockCount) ∧
    (N > 11 → (b.blockStarts.length : Int) = b.blockCount) :=
  wf_blocks_le10 N b (by omega)

/-- 10 fields: only the range of the block count matters; replacing it by any other
in-range count keeps the record well-formed (no relation to the unwritten lists). -/
theorem wf_blocks_10 (b : Bed) (h : WF 10 b) (bc : Int) (hbc : inRange bc) :
    WF 10 { b with blockCount := bc } := by
  obtain ⟨h3, h12, hn, hc, hhead, hname, hstrand, hcs, hce, hsc, hts, hte, _, hsz, hst, _, _⟩ := h
  exact ⟨h3, h12, hn, hc, hhead, hname, hstrand, hcs, hce, hsc, hts, hte, hbc, hsz, hst,
    fun h' => by omega, fun h' => by omega⟩

/-- 11 fields: the sizes (written) must agree with the count; the starts (not written) are free. -/
theorem wf_blocks_11 (b : Bed) (h : WF 11 b) : (b.blockSizes.length : Int) = b.blockCount :=
  h.2.2.2.2.2.2.2.2.2.2.2.2.2.2.2.1 (by omega)

theorem wf_blocks_12 (b : Bed) (h : WF 12 b) :
    (b.blockSizes.length : Int) = b.blockCount ∧ (b.blockStarts.length : Int) = b.blockCount :=
  ⟨h.2.2.2.2.2.2.2.2.2.2.2.2.2.2.2.1 (by omega), h.2.2.2.2.2.2.2.2.2.2.2.2.2.2.2.2 (by omega)⟩

example : WF 12 ex12 := by decide +kernel
example : WF 3 ex3 := by decide +kernel
example : WF 11 ex11 := by decide +kernel
example : WF 10 ex10 := by decide +kernel
/-- N = 10: non-zero block count, lists that do not match it. -/
example : WF 10 ex10 ∧ ex10.blockCount ≠ 0 ∧ (ex10.blockSizes.length : Int) ≠ ex10.blockCount ∧
    (ex10.blockStarts.length : Int) ≠ ex10.blockCount := by decide +kernel
/-- N = 11: sizes = count ≠ 0, and non-empty unwritten starts of another length. -/
example : WF 11 ex11 ∧ ex11.blockCount ≠ 0 ∧ (ex11.blockSizes.length : Int) = ex11.blockCount ∧
    ex11.blockStarts ≠ [] ∧ (ex11.blockStarts.length : Int) ≠ ex11.blockCount := by decide +kernel
/-- `ex12` cut to 10 or 11 fields is well-formed as well. -/
example : WF 11 { ex12 with n := 11 } ∧ WF 10 { ex12 with n := 10 } := by decide +kernel
/-- Still outside: sizes that disagree with the count, from 11 fields on. -/
example : ¬ WF 11 { ex12 with n := 11, blockSizes := [10] } := by decide +kernel
example : ¬ WF 12 { ex12 with blockSizes := [10] } := by decide +kernel
example : ¬ WF 12 { ex12 with blockStarts := [0, 300, 5] } := by decide +kernel
/-- Hypotheses of `wf_blocks_10` are satisfiable. -/
example : WF 10 ex10 ∧ inRange 9223372036854775807 := by decide +kernel

/-! ## 1. Record round trip -/

theorem roundtrip (N : Nat) (b : Bed) (h : WF N b) :
    ∃ line, encodeLine b = some line ∧ (splitOn TAB line).length = N ∧
      parseLine (splitOn TAB line) = some (truncate N b) :=
  ⟨_, h.line.1, h.line.2.len, h.line.2.parse⟩

example : WF 12 ex12 ∧ truncate 12 ex12 = ex12 := by decide +kernel
example : WF 3 ex3 ∧ truncate 3 ex3 ≠ ex3 := by decide +kernel
/-- The line written for `ex12` (chr1, -5, maxInt64, `"a"\0\xFF# `, minInt64, `-`, 0, -1, `255,0,7`, 2, `10,-20`, `0,300`). -/
example : encodeLine ex12 = some
    [99, 104, 114, 49, 9, 45, 53, 9, 57, 50, 50, 51, 51, 55, 50, 48, 51, 54, 56, 53, 52, 55, 55, 53, 56, 48, 55, 9,
     34, 97, 34, 0, 255, 35, 32, 9, 45, 57, 50, 50, 51, 51, 55, 50, 48, 51, 54, 56, 53, 52, 55, 55, 53, 56, 48, 56,
     9, 45, 9, 48, 9, 45, 49, 9, 50, 53, 53, 44, 48, 44, 55, 9, 50, 9, 49, 48, 44, 45, 50, 48, 9, 48, 44, 51, 48, 48] := by
  decide +kernel
/-- Empty chrom, three fields: the line starts with a TAB. -/
example : encodeLine ex3 = some
    [9, 45, 53, 9, 57, 50, 50, 51, 51, 55, 50, 48, 51, 54, 56, 53, 52, 55, 55, 53, 56, 48, 55] := by
  decide +kernel
example : parseLine (splitOn TAB ((encodeLine ex12).getD [])) = some ex12 := by decide +kernel
example : parseLine (splitOn TAB ((encodeLine ex3).getD [])) = some (truncate 3 ex3) := by decide +kernel

/-- 10 fields and block count 2 DO round-trip: the lists are
not written, the reader reports block count 2 and empty lists. -/
example : parseLine (splitOn TAB ((encodeLine { ex12 with n := 10 }).getD []))
    = some (truncate 10 { ex12 with n := 10 }) := by decide +kernel
example : (truncate 10 { ex12 with n := 10 }).blockCount = 2 ∧
    (truncate 10 { ex12 with n := 10 }).blockSizes = [] ∧
    (truncate 10 { ex12 with n := 10 }).blockStarts = [] := by decide +kernel
example : parseLine (splitOn TAB ((encodeLine ex10).getD [])) = some (truncate 10 ex10) := by
  decide +kernel
/-- 11 fields, sizes = count = 2, three unwritten starts: round-trips, the starts read back empty. -/
example : parseLine (splitOn TAB ((encodeLine ex11).getD [])) = some (truncate 11 ex11) := by
  decide +kernel
example : (truncate 11 ex11).blockCount = 2 ∧ (truncate 11 ex11).blockSizes = [10, -20] ∧
    (truncate 11 ex11).blockStarts = [] := by decide +kernel
/-- The block clause of `WF` is needed from 11 fields on.  12 fields, one size for block
count 2: the writer writes the line, the reader rejects it. -/
example : (encodeLine { ex12 with blockSizes := [10] }).isSome ∧
    parseLine (splitOn TAB ((encodeLine { ex12 with blockSizes := [10] }).getD [])) = none := by
  decide +kernel
/-- 12 fields, three starts for block count 2: rejected. -/
example : (encodeLine { ex12 with blockStarts := [0, 300, 5] }).isSome ∧
    parseLine (splitOn TAB ((encodeLine { ex12 with blockStarts := [0, 300, 5] }).getD [])) = none := by
  decide +kernel
/-- 11 fields, one size for block count 2: rejected. -/
example : (encodeLine { ex12 with n := 11, blockSizes := [10] }).isSome ∧
    parseLine (splitOn TAB ((encodeLine { ex12 with n := 11, blockSizes := [10] }).getD [])) = none := by
  decide +kernel
/-- The `#` clause of `WF` is needed: a chrom starting with `#` makes the line a comment. -/
example : decode ((encode { ex12 with chrom := [35, 49] }).getD []) = [] := by decide +kernel

/-! ## 2. The writer -/

theorem write_refuses (b : Bed) (h : b.n < 3 ∨ b.n > 12) : encode b = none := by
  simp [encode, encodeLine, h]

theorem encode_some (b : Bed) (h : 3 ≤ b.n ∧ b.n ≤ 12) : (encode b).isSome := by
  have : ¬ (b.n < 3 ∨ b.n > 12) := by omega
  simp [encode, encodeLine, this]

example : ({ ex12 with n := 2 } : Bed).n < 3 ∨ ({ ex12 with n := 2 } : Bed).n > 12 := by decide +kernel
example : ({ ex12 with n := -1 } : Bed).n < 3 ∨ ({ ex12 with n := -1 } : Bed).n > 12 := by decide +kernel
example : ({ ex12 with n := 13 } : Bed).n < 3 ∨ ({ ex12 with n := 13 } : Bed).n > 12 := by decide +kernel
example : 3 ≤ ex3.n ∧ ex3.n ≤ 12 := by decide +kernel

/-- What is written for a well-formed record is exactly one line: `line ++ [LF]`
with `line` free of LF and CR, non-empty and not a comment. -/
theorem encode_one_line (N : Nat) (b : Bed) (h : WF N b) :
    ∃ line, encode b = some (line ++ [LF]) ∧ encodeLine b = some line ∧
      (∀ c ∈ line, c ≠ 10 ∧ c ≠ 13) ∧ line ≠ [] ∧ line.head? ≠ some 35 ∧ isSkipped line = false := by
  obtain ⟨he, hl⟩ := h.line
  have := isSkipped_eq_false.1 hl.notSkipped
  exact ⟨_, by simp [encode, he], he, hl.noNL, this.1, this.2, hl.notSkipped⟩

/-! ## 3. File round trip -/

/-- LF-terminated records. -/
theorem file_roundtrip (N : Nat) (bs : List Bed) (h : ∀ b ∈ bs, WF N b) :
    decode (bs.map fun b => (encodeLine b).getD [] ++ [10]).flatten
      = bs.map (fun b => Item.ok (truncate N b)) := by
  have := decode_file N (fun b => (encodeLine b).getD []) (fun _ => false)
    (fun b => some (truncate N b)) bs (fun b hb => (h b hb).spec)
  simpa [lineEnd, List.filterMap_eq_map, Function.comp_def] using this

/-- The file really is what the writer produces: the concatenation of `encode`. -/
theorem file_roundtrip_encode (N : Nat) (bs : List Bed) (h : ∀ b ∈ bs, WF N b) :
    decode (bs.map fun b => (encode b).getD []).flatten
      = bs.map (fun b => Item.ok (truncate N b)) := by
  have hmap : (bs.map fun b => (encode b).getD []) = bs.map fun b => (encodeLine b).getD [] ++ [10] := by
    apply List.map_congr_left
    intro b hb
    obtain ⟨line, h1, h2, _⟩ := encode_one_line N b (h b hb)
    simp [h1, h2, LF]
  rw [hmap]; exact file_roundtrip N bs h

/-- CR LF terminated records. -/
theorem file_roundtrip_crlf (N : Nat) (bs : List Bed) (h : ∀ b ∈ bs, WF N b) :
    decode (bs.map fun b => (encodeLine b).getD [] ++ [13, 10]).flatten
      = bs.map (fun b => Item.ok (truncate N b)) := by
  have := decode_file N (fun b => (encodeLine b).getD []) (fun _ => true)
    (fun b => some (truncate N b)) bs (fun b hb => (h b hb).spec)
  simpa [lineEnd, List.filterMap_eq_map, Function.comp_def] using this

/-- The last record without a line terminator. -/
theorem file_roundtrip_no_final_lf (N : Nat) (bs : List Bed) (last : Bed)
    (h : ∀ b ∈ bs, WF N b) (hlast : WF N last) :
    decode ((bs.map fun b => (encodeLine b).getD [] ++ [10]).flatten ++ (encodeLine last).getD [])
      = (bs ++ [last]).map (fun b => Item.ok (truncate N b)) := by
  have := decode_file_last N (fun b => (encodeLine b).getD []) (fun _ => false)
    (fun b => some (truncate N b)) bs (fun b hb => (h b hb).spec)
    ((encodeLine last).getD []) (truncate N last) hlast.spec
  simpa [lineEnd, List.filterMap_eq_map, Function.comp_def] using this

private theorem entry_spec (N : Nat) (e : Entry) (h : e.OK N) : Spec N e.line (e.out N) := by
  cases e with
  | record b c => exact WF.spec h
  | skip l c => exact ⟨h.2, h.1⟩

private theorem entry_bytes (es : List Entry) :
    (es.map fun e => e.line ++ lineEnd e.crlf) = es.map Entry.bytes := rfl

/-- Records mixed with blank lines and `#` comment lines, each line ending in
LF or CR LF. -/
theorem file_roundtrip_mixed (N : Nat) (es : List Entry) (h : ∀ e ∈ es, e.OK N) :
    decode (es.map Entry.bytes).flatten = (es.filterMap (Entry.out N)).map Item.ok := by
  have := decode_file N Entry.line Entry.crlf (Entry.out N) es (fun e he => entry_spec N e (h e he))
  rw [entry_bytes] at this
  exact this

/-- Same, with a final record that has no line terminator. -/
theorem file_roundtrip_mixed_no_final_lf (N : Nat) (es : List Entry) (last : Bed)
    (h : ∀ e ∈ es, e.OK N) (hlast : WF N last) :
    decode ((es.map Entry.bytes).flatten ++ (encodeLine last).getD [])
      = (es.filterMap (Entry.out N)).map Item.ok ++ [Item.ok (truncate N last)] := by
  have := decode_file_last N Entry.line Entry.crlf (Entry.out N) es
    (fun e he => entry_spec N e (h e he))
    ((encodeLine last).getD []) (truncate N last) hlast.spec
  rw [entry_bytes] at this
  exact this

example : ∀ b ∈ [ex12, { ex12 with name := [], blockCount := 0, blockSizes := [], blockStarts := [] }],
    WF 12 b := by decide +kernel
example : ∀ b ∈ [ex3, ex3], WF 3 b := by decide +kernel
example : ∀ e ∈ [Entry.skip [35, 9, 120] true, Entry.record ex12 false, Entry.skip [] false,
    Entry.record ex12 true, Entry.skip [35] false], e.OK 12 := by decide +kernel

/-- Concrete instance, evaluated directly on the model: comment (CR LF), record, blank line,
record (CR LF), comment. -/
example : decode ([Entry.skip [35, 9, 120] true, Entry.record ex12 false, Entry.skip [] false,
      Entry.record ex12 true, Entry.skip [35] false].map Entry.bytes).flatten
    = [Item.ok ex12, Item.ok ex12] := by decide +kernel

/-! ## 4. An error ends the iteration -/

/-- Index form: an error item sits at the last position. -/
theorem err_only_last_idx (e : Ending) (x : Bytes) (i : Nat)
    (h : (decodeSrc e x)[i]? = some Item.err) : i + 1 = (decodeSrc e x).length :=
  fromLines_err_last e none _ i h

/-- Whatever the bytes and however the source ends: if the reader's output
contains an error item, nothing follows it. -/
theorem err_only_last (e : Ending) (x : Bytes) (pre post : List (Item Bed))
    (h : decodeSrc e x = pre ++ Item.err :: post) : post = [] := by
  have := err_only_last_idx e x pre.length (by rw [h]; simp)
  rw [h, List.length_append, List.length_cons] at this
  exact List.eq_nil_of_length_eq_zero (by omega)

/-- The record read from the line `a<TAB>1<TAB>2`. -/
def exA : Bed :=
  { n := 3, chrom := [97], chromStart := 1, chromEnd := 2, name := [], score := 0, strand := [],
    thickStart := 0, thickEnd := 0, rgb := (0, 0, 0), blockCount := 0, blockSizes := [],
    blockStarts := [] }

/-- Instances with an error item: a non-numeric start; a field-count change; a failing source. -/
example : decodeSrc .eof [97, 9, 98, 9, 99, 10, 97, 9, 49, 9, 50, 10] = [Item.err] := by decide +kernel
example : decodeSrc .eof [97, 9, 49, 9, 50, 10, 97, 9, 49, 9, 50, 9, 120, 10, 97, 9, 49, 9, 50, 10]
    = [Item.ok exA, Item.err] := by decide +kernel
example : decodeSrc .fail [97, 9, 49, 9, 50, 10, 97, 9, 49] = [Item.ok exA, Item.err] := by decide +kernel

/-! ## 5. Source failing after k bytes of a well-formed file -/

theorem fault_prefix_wf (N : Nat) (bs : List Bed) (h : ∀ b ∈ bs, WF N b) (k : Nat) :
    ∃ n, decodeSrc .fail ((bs.map fun b => (encodeLine b).getD [] ++ [10]).flatten.take k)
      = (bs.take n).map (fun b => Item.ok (truncate N b)) ++ [Item.err] := by
  exact fault_prefix N (fun b => (encodeLine b).getD []) (truncate N) bs
    (fun b hb => (h b hb).spec) none (Or.inl rfl) k

/-- Cutting the two-record file of `ex12` inside the second record: one record, then the error. -/
example : decodeSrc .fail (([ex12, ex12].map fun b => (encodeLine b).getD [] ++ [10]).flatten.take 120)
    = [Item.ok ex12, Item.err] := by decide +kernel
example : ∀ b ∈ [ex12, ex12], WF 12 b := by decide +kernel

end Bio.Bed

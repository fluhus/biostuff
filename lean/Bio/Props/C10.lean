/-
  C10 — "Global / Local return an optimal alignment also when the gap-open
  score `m GAP GAP` is non-zero" is FALSE for the single-state recurrence of
  /repo/align.  This file states that property (`C10_full`, `C10_local_full`), refutes
  it by concrete witnesses, and proves what does hold for every gap-open: the
  returned score is attained by an alignment, so it never exceeds the optimum
  (`*_le_opt_partial`, via C08).  Mechanism of the failure:
  a cell keeps only its best score and that score's last step; on a tie
  `decideOnStep` prefers a match, and the slightly-worse-or-equal path ending in
  a gap — which could be extended without paying gap-open again — is lost.
-/
import Bio.Props.C08
namespace Bio.Align

/-- Optimality of `Global` (false, `global_affine_not_optimal`): for every matrix whose gap scores
(including gap-open) are non-positive, no alignment of `a`, `b` scores more
than the returned score. -/
def C10_full : Prop :=
  ∀ (m : Mat) (a b : Bytes), (∀ x, m x GAP ≤ 0) → (∀ y, m GAP y ≤ 0) →
    ∀ s v, rescore m .none a b s = some (v, [], []) → v ≤ (globalT m a b).2

/-- Optimality of `Local` (false, `local_affine_not_optimal`): no alignment of any pair of substrings
scores more than the returned score. -/
def C10_local_full : Prop :=
  ∀ (m : Mat) (a b : Bytes), (∀ x, m x GAP ≤ 0) → (∀ y, m GAP y ≤ 0) →
    ∀ i i' j j', i ≤ i' → i' ≤ a.length → j ≤ j' → j' ≤ b.length →
    ∀ s v, rescore m .none ((a.drop i).take (i' - i)) ((b.drop j).take (j' - j)) s
        = some (v, [], []) →
      v ≤ (localT m a b).2.2.2

/-- Affine scoring: `mt` for equal letters, `mm` for different letters, `g` per
gap character, `o` for opening a gap. -/
def affineMat (mt mm g o : Int) : Mat := fun x y =>
  if x = GAP ∧ y = GAP then o else if x = GAP ∨ y = GAP then g else if x = y then mt else mm

theorem affineMat_gap_right (mt mm g o : Int) (hg : g ≤ 0) (ho : o ≤ 0) (x : UInt8) :
    affineMat mt mm g o x GAP ≤ 0 := by
  unfold affineMat; split
  · exact ho
  · simp [hg]

theorem affineMat_gap_left (mt mm g o : Int) (hg : g ≤ 0) (ho : o ≤ 0) (y : UInt8) :
    affineMat mt mm g o GAP y ≤ 0 := by
  unfold affineMat; split
  · exact ho
  · simp [hg]

/-- Witness: `a = "a"`, `b = "aab"`, match 2, mismatch -1, gap -1, gap-open -3.
`Global` returns score -6 (steps ins, ins, mch), but mch, ins, ins scores -3. -/
theorem global_affine_witness :
    globalT (affineMat 2 (-1) (-1) (-3)) [97] [97, 97, 98] = ([.ins, .ins, .mch], -6) ∧
    rescore (affineMat 2 (-1) (-1) (-3)) .none [97] [97, 97, 98] [.mch, .ins, .ins]
      = some (-3, [], []) := by
  decide +kernel

theorem global_affine_not_optimal : ¬ C10_full := by
  intro h
  have := h (affineMat 2 (-1) (-1) (-3)) [97] [97, 97, 98]
    (affineMat_gap_right _ _ _ _ (by decide) (by decide))
    (affineMat_gap_left _ _ _ _ (by decide) (by decide))
    [.mch, .ins, .ins] (-3) global_affine_witness.2
  rw [global_affine_witness.1] at this
  exact absurd this (by decide)

/-- Witness: `a = "cad"`, `b = "caabd"`, match 10, mismatch -1, gap -1, gap-open -3.
`Local` returns score 22, but mch, mch, ins, ins, mch on the whole strings scores 25. -/
theorem local_affine_witness :
    localT (affineMat 10 (-1) (-1) (-3)) [99, 97, 100] [99, 97, 97, 98, 100]
      = ([.mch, .ins, .mch, .ins, .mch], 0, 0, 22) ∧
    rescore (affineMat 10 (-1) (-1) (-3)) .none [99, 97, 100] [99, 97, 97, 98, 100]
      [.mch, .mch, .ins, .ins, .mch] = some (25, [], []) := by
  decide +kernel

theorem local_affine_not_optimal : ¬ C10_local_full := by
  intro h
  have := h (affineMat 10 (-1) (-1) (-3)) [99, 97, 100] [99, 97, 97, 98, 100]
    (affineMat_gap_right _ _ _ _ (by decide) (by decide))
    (affineMat_gap_left _ _ _ _ (by decide) (by decide))
    0 3 0 5 (by decide) (by decide) (by decide) (by decide)
    [.mch, .mch, .ins, .ins, .mch] 25 local_affine_witness.2
  rw [local_affine_witness.1] at this
  exact absurd this (by decide)

/-- For EVERY matrix (any gap-open) the score returned by Global is the score of
an actual alignment of `a` and `b` — the returned steps (`global_valid`, C08).
Hence it is ≤ the optimum; by `global_affine_not_optimal` it can be strictly
smaller. -/
theorem global_affine_le_opt_partial (m : Mat) (a b : Bytes) :
    ∃ s, rescore m .none a b s = some ((globalT m a b).2, [], []) :=
  ⟨(globalT m a b).1, global_valid m a b⟩

/-- Same for Local under non-positive gap scores: the returned score is the score
of an alignment of some substring pair (`localT_attained`). -/
theorem local_affine_le_opt_partial (m : Mat) (a b : Bytes) (ho : m GAP GAP ≤ 0)
    (hg : ∀ x ∈ a, m x GAP ≤ 0) (hg' : ∀ y ∈ b, m GAP y ≤ 0) :
    ∃ i i' j j' s, i ≤ i' ∧ i' ≤ a.length ∧ j ≤ j' ∧ j' ≤ b.length ∧
      rescore m .none ((a.drop i).take (i' - i)) ((b.drop j).take (j' - j)) s
        = some ((localT m a b).2.2.2, [], []) :=
  localT_attained m a b ⟨ho, hg, hg'⟩

/-- The hypotheses are satisfiable with a non-zero gap-open (the witness matrix). -/
example : affineMat 10 (-1) (-1) (-3) GAP GAP ≤ 0 ∧
    (∀ x ∈ ([99, 97, 100] : Bytes), affineMat 10 (-1) (-1) (-3) x GAP ≤ 0) ∧
    (∀ y ∈ ([99, 97, 97, 98, 100] : Bytes), affineMat 10 (-1) (-1) (-3) GAP y ≤ 0) := by
  decide

/-- The alignment returned by Local on the witness does score the returned 22. -/
example : rescore (affineMat 10 (-1) (-1) (-3)) .none [99, 97, 100] [99, 97, 97, 98, 100]
    [.mch, .ins, .mch, .ins, .mch] = some (22, [], []) := by decide +kernel

end Bio.Align

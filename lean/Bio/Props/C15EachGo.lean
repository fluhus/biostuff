/-
  C15 / C18 for the Go SOURCE TEXT of trie/trie.go, second half: `(*Trie).keys` and
  `(*Trie).ForEach`, translated statement by statement on every run into
  `Bio.Generated.GoSrc.Trie_keys` / `Trie_ForEach`.

  Conventions of the translation (as for `New` / `Add` / `Has` / `Delete`, see `Bio.Props.C15Go`):
  `*Trie` values live in the explicit `heap : List (List (UInt8 × Int))`, a pointer is an index,
  `nil = -1`.  New here:
  * the `*forEachStep` values (fields `t *Trie`, `k []byte`, `i int`) never leave the function, so
    their cells live in a FUNCTION-LOCAL heap that starts empty; the Go stack is a list of indices
    into it (top frame last), `step.i++` is a write into it;
  * `for k := range t.m` visits the association list in LIST order.  Go's map order is unspecified;
    the theorems below hold for EVERY heap that represents the trie, i.e. for every list
    representing each map, hence for every order Go may pick (the model trie `t` carries the order);
  * the callback `f func([]byte) bool` is a history consumer `h : List Bytes → Bool` (asked about
    all items handed to it so far, the current one last), the result is the LOG of items handed to it;
  * the `for { }` loop runs at most `fuel` iterations; `none` = a Go panic or out of fuel.

  Proved: for every `heap`, `root`, `t` with `HWF heap root` and `Rep heap root t`, every history
  consumer `h` and every `fuel ≥ 2 * t.size + 1` (sharp: `go_ForEach_fuel_sharp`)

      Trie_ForEach fuel heap root h = some (IterH.forEachLogH h t)

  — the translated explicit-stack loop is the hand model's `eachLoopH` step for step (one Go
  iteration = one model step; `Bio.GoSrcLemmas.TrieEach.each_loop`, relation `Sim`) — and from it,
  on the source level, C18Hist's early-stop law, C15's "exactly the members, each once", no panic,
  dependence on the heap only through the footprint, and the `ForEach` half of "the trie behaves as
  a set under any history".
  Guarded by the translator's `<f>_Found` flags (see `Bio.Lemmas.GoSrc`).
-/
import Bio.Lemmas.GoSrcTrieEach
import Bio.Props.C15Go
import Bio.Props.C18Hist
namespace Bio.Props.C15EachGo
open Bio Bio.GoRt Bio.Generated Bio.GoSrcLemmas Bio.GoSrcLemmas.TrieGo Bio.GoSrcLemmas.TrieEach Bio.Trie
open Bio.Props.C15Go (heapA trieA heapA_ok heapG heapG_ok opsEx)

/-- every translator flag this file depends on; the non-vacuity examples below are stated as
`allFound = false ∨ …` so that a source the translator no longer recognises is not an alarm -/
def allFound : Bool :=
  GoSrc.New_Found && GoSrc.Trie_Add_Found && GoSrc.Trie_Delete_Found && GoSrc.Trie_keys_Found &&
    GoSrc.Trie_ForEach_Found

/-! ## 1. `keys` -/

/-- `keys` of a node = the keys of its edge list, in list order (the order `range` visits them in);
`none` (a nil-pointer panic) exactly for a nil or dangling pointer. -/
theorem go_keys : GoSrc.Trie_keys_Found = true → ∀ (heap : Heap) (p : Int),
    (∀ (n : Nat) (es : List (UInt8 × Int)), p = (n : Int) → heap[n]? = some es →
      GoSrc.Trie_keys heap p = some (es.map (·.1))) ∧
    (GoSrc.Trie_keys heap p = none ↔ (p < 0 ∨ (heap.length : Int) ≤ p)) := by
  intro hK heap p
  refine ⟨?_, Trie_keys_none hK heap p⟩
  rintro n es rfl hn
  exact Trie_keys_eq hK heap n es hn

example : (0 : Int) = ((0 : Nat) : Int) ∧ heapA[0]? = some [(97, 1), (98, 4)] := by decide +kernel

example : allFound = false ∨
    (GoSrc.Trie_keys heapA 0 = some [97, 98] ∧ GoSrc.Trie_keys heapA 1 = some [98, 99] ∧
     GoSrc.Trie_keys heapA 2 = some [] ∧ GoSrc.Trie_keys heapA (-1) = none ∧
     GoSrc.Trie_keys heapA 5 = none) := by decide +kernel

/-! ## 2. `ForEach` is the model's explicit-stack loop -/

/-- THE statement: on an invariant heap the translated `ForEach` logs exactly what the hand model
`IterH.forEachLogH` logs, for EVERY deterministic consumer (stateful ones included), and the loop
ends by itself within `2 * size + 1` iterations. -/
theorem go_ForEach : GoSrc.Trie_ForEach_Found = true → GoSrc.Trie_keys_Found = true →
    ∀ (heap : Heap) (root : Int) (t : T) (h : List Bytes → Bool) (fuel : Nat),
      HWF heap root → Rep heap root t → 2 * t.size + 1 ≤ fuel →
      GoSrc.Trie_ForEach fuel heap root h = some (IterH.forEachLogH h t) := by
  intro hF hK heap root t h fuel hw hr hf
  obtain ⟨n, S, rfl, hg⟩ := good_of hw hr
  exact ForEach_eq hF hK heap n t S h fuel hg hf

/-- Step for step: the result is the model MACHINE `eachLoopH` started on the root frame, for any
model fuel `m ≥ 2 * size + 1` (the model's own `2 * size + 2` is one more than needed). -/
theorem go_ForEach_machine : GoSrc.Trie_ForEach_Found = true → GoSrc.Trie_keys_Found = true →
    ∀ (heap : Heap) (root : Int) (t : T) (h : List Bytes → Bool) (fuel m : Nat),
      HWF heap root → Rep heap root t → 2 * t.size + 1 ≤ fuel → 2 * t.size + 1 ≤ m →
      GoSrc.Trie_ForEach fuel heap root h = some (IterH.eachLoopH h m [(t.isNil, t)] [] []) := by
  intro hF hK heap root t h fuel m hw hr hf hm
  obtain ⟨n, S, rfl, hg⟩ := good_of hw hr
  exact ForEach_machine hF hK heap n t S h fuel m hg hf hm

/-- The tree shape of `HWF` is not needed for reading: it is enough that `root` represents `t` and
that every cell of the footprint (and the root cell) is a map — pairwise distinct keys.  Shared
sub-tries are fine. -/
theorem go_ForEach_maps : GoSrc.Trie_ForEach_Found = true → GoSrc.Trie_keys_Found = true →
    ∀ (heap : Heap) (n : Nat) (es : List (UInt8 × Int)) (t : T) (S : List Nat)
      (h : List Bytes → Bool) (fuel : Nat),
      heap[n]? = some es → RepE heap es t S → KeysOK heap (n :: S) → 2 * t.size + 1 ≤ fuel →
      GoSrc.Trie_ForEach fuel heap (n : Int) h = some (IterH.forEachLogH h t) := by
  intro hF hK heap n es t S h fuel hn hre hk hf
  exact Trie_ForEach_loop hF hK heap n es t S h fuel _ hn hre (hk n (by simp) es hn)
    (fun x hx => hk x (by simp [hx])) hf (by omega)

/-- The fuel bound is sharp: with `2 * size` iterations or fewer a consumer that never stops is not
done, and the translation reports `none` (= no claim). -/
theorem go_ForEach_fuel_sharp : GoSrc.Trie_ForEach_Found = true → GoSrc.Trie_keys_Found = true →
    ∀ (heap : Heap) (root : Int) (t : T) (fuel : Nat),
      HWF heap root → Rep heap root t → fuel ≤ 2 * t.size →
      GoSrc.Trie_ForEach fuel heap root (fun _ => true) = none := by
  intro hF hK heap root t fuel hw hr hf
  obtain ⟨n, S, rfl, hg⟩ := good_of hw hr
  exact ForEach_short hF hK heap n t S fuel hg hf

-- the hypotheses are satisfiable: `heapA` (after Add "ab", "ac", "b"), 4 edges: 9 iterations
example : HWF heapA 0 ∧ Rep heapA 0 trieA ∧ 2 * trieA.size + 1 ≤ 9 ∧ 8 ≤ 2 * trieA.size :=
  ⟨heapA_ok.1, heapA_ok.2, by decide, by decide⟩

example : IterH.forEachLogH (fun _ => true) trieA = [[97, 98], [97, 99], [98]] ∧
    IterH.forEachLogH (fun l => l.length < 2) trieA = [[97, 98], [97, 99]] := by decide +kernel

example : allFound = false ∨
    (GoSrc.Trie_ForEach 9 heapA 0 (fun _ => true) = some [[97, 98], [97, 99], [98]] ∧
     -- a stateful consumer: "stop at the second item"
     GoSrc.Trie_ForEach 9 heapA 0 (fun l => l.length < 2) = some [[97, 98], [97, 99]] ∧
     GoSrc.Trie_ForEach 9 heapA 0 (fun _ => false) = some [[97, 98]] ∧
     -- a sub-trie: node 1 ("a")
     GoSrc.Trie_ForEach 5 heapA 1 (fun _ => true) = some [[98], [99]] ∧
     -- insufficient fuel: `none`
     GoSrc.Trie_ForEach 8 heapA 0 (fun _ => true) = none ∧
     -- … unless the consumer stops early enough
     GoSrc.Trie_ForEach 8 heapA 0 (fun l => l.length < 3) = some [[97, 98], [97, 99], [98]] ∧
     GoSrc.Trie_ForEach 7 heapA 0 (fun l => l.length < 3) = none) := by
  decide +kernel

/-- the empty trie: the root is a leaf but `cur` is empty — no callback, one iteration -/
example : allFound = false ∨
    (GoSrc.Trie_ForEach 1 [[]] 0 (fun _ => false) = some [] ∧
     GoSrc.Trie_ForEach 0 [[]] 0 (fun _ => false) = none) := by decide +kernel
example : HWF [[]] 0 ∧ Rep [[]] 0 .nil ∧ 2 * T.nil.size + 1 ≤ 1 :=
  ⟨(of_good (good_new [])).1, (of_good (good_new [])).2, by decide⟩

/-- the same trie with the edges of the root listed in the other order (another order Go's map
iteration may pick) is another heap and another model trie: the log follows the list order -/
example : allFound = false ∨
    GoSrc.Trie_ForEach 11 [[(98, 4), (97, 1)], [(99, 3), (98, 2)], [], [], []] 0 (fun _ => true)
      = some [[98], [97, 99], [97, 98]] := by decide +kernel

/-- `HWF` (distinct keys) IS needed: a "map" with the key 97 twice represents (`Rep`) a trie with
two edges 97, but the map lookup `step.t.m[key]` finds the first one both times -/
example : Rep [[(97, 1), (97, 2)], [(98, 3)], [], []] 0
    (.cons 97 (.cons 98 .nil .nil) (.cons 97 .nil .nil)) :=
  ⟨0, _, [1, 3, 2], rfl, rfl, absE_sound _ 8 _ _ _ (by decide)⟩
example : IterH.forEachLogH (fun _ => true) (.cons 97 (.cons 98 .nil .nil) (.cons 97 .nil .nil))
    = [[97, 98], [97]] := by decide +kernel
example : allFound = false ∨
    GoSrc.Trie_ForEach 11 [[(97, 1), (97, 2)], [(98, 3)], [], []] 0 (fun _ => true)
      = some [[97, 98], [97, 98]] := by decide +kernel

/-! ## 3. Corollaries on the source level -/

/-- The log is the list of leaf paths in edge order (= the members), up to and including the first
one after which the consumer — asked about everything it was handed so far — said stop. -/
theorem go_ForEach_log : GoSrc.Trie_ForEach_Found = true → GoSrc.Trie_keys_Found = true →
    ∀ (heap : Heap) (root : Int) (t : T) (h : List Bytes → Bool) (fuel : Nat),
      HWF heap root → Rep heap root t → 2 * t.size + 1 ≤ fuel →
      GoSrc.Trie_ForEach fuel heap root h = some (takeThroughH h [] (Trie.leaves t)) ∧
      GoSrc.Trie_ForEach fuel heap root h = some (takeThroughH h [] (Trie.members t)) := by
  intro hF hK heap root t h fuel hw hr hf
  rw [go_ForEach hF hK heap root t h fuel hw hr hf]
  exact ⟨congrArg some (C18Hist.forEachLogH_log h t).1, congrArg some (C18Hist.forEachLogH_log h t).2⟩

/-- With a consumer that never stops `ForEach` reports exactly the members of the trie (the maximal
sequences, `abs t`), in edge order, each once, and never the root / the empty sequence
(`C15_forEach_members`, `C15_members_eq` for the source text). -/
theorem go_ForEach_all : GoSrc.Trie_ForEach_Found = true → GoSrc.Trie_keys_Found = true →
    ∀ (heap : Heap) (root : Int) (t : T) (fuel : Nat),
      HWF heap root → Rep heap root t → 2 * t.size + 1 ≤ fuel →
      ∃ log, GoSrc.Trie_ForEach fuel heap root (fun _ => true) = some log ∧
        log = members t ∧ log = abs t ∧ (∀ y, y ∈ log ↔ y ∈ abs t) ∧ log.Nodup ∧ [] ∉ log := by
  intro hF hK heap root t fuel hw hr hf
  refine ⟨members t, ?_, rfl, C15_members_eq t, ?_⟩
  · rw [(go_ForEach_log hF hK heap root t _ fuel hw hr hf).2]
    exact congrArg some (by simpa using IterH.takeThroughH_true (members t) [])
  · exact C15_forEach_members t (C15Go.go_noDupKeys heap root t hw hr)

/-- Early stop, for EVERY deterministic consumer: (a) the log is a prefix of the uninterrupted run
(the members); (b) the consumer answered `true` on every proper prefix of the log — every answer but
the last; (c) an item after which the consumer said stop is the last item: no further call. -/
theorem go_ForEach_early_stop : GoSrc.Trie_ForEach_Found = true → GoSrc.Trie_keys_Found = true →
    ∀ (heap : Heap) (root : Int) (t : T) (h : List Bytes → Bool) (fuel : Nat),
      HWF heap root → Rep heap root t → 2 * t.size + 1 ≤ fuel →
      ∃ log, GoSrc.Trie_ForEach fuel heap root h = some log ∧
        log <+: members t ∧
        (∀ i, i + 1 < log.length → h (log.take (i + 1)) = true) ∧
        (∀ i, i < log.length → h (log.take (i + 1)) = false → i + 1 = log.length) := by
  intro hF hK heap root t h fuel hw hr hf
  exact ⟨_, go_ForEach hF hK heap root t h fuel hw hr hf, C18Hist.forEachLogH_early_stop h t⟩

-- (c) is not vacuous: in the run above the consumer says `false` on the history of length 2
example : (1 : Nat) < ([[97, 98], [97, 99]] : List Bytes).length ∧
    (fun l : List Bytes => decide (l.length < 2)) (([[97, 98], [97, 99]] : List Bytes).take (1 + 1))
      = false := by decide +kernel

/-- No panic: on an invariant heap, with enough fuel, `ForEach` never ends in `none`, whatever the
consumer does. -/
theorem go_ForEach_no_panic : GoSrc.Trie_ForEach_Found = true → GoSrc.Trie_keys_Found = true →
    ∀ (heap : Heap) (root : Int) (t : T) (h : List Bytes → Bool) (fuel : Nat),
      HWF heap root → Rep heap root t → 2 * t.size + 1 ≤ fuel →
      (GoSrc.Trie_ForEach fuel heap root h).isSome = true := by
  intro hF hK heap root t h fuel hw hr hf
  rw [go_ForEach hF hK heap root t h fuel hw hr hf]; rfl

-- without the invariant the code does panic: a nil root, a dangling child pointer
example : allFound = false ∨
    (GoSrc.Trie_ForEach 11 heapA (-1) (fun _ => true) = none ∧
     GoSrc.Trie_ForEach 11 [[(97, 7)]] 0 (fun _ => true) = none) := by decide +kernel

/-- Read-only: the heap is not an output of `ForEach`, and the log depends on the heap only through
the cells reachable from `root` — two heaps that agree on the root cell and on the footprint `S`
(garbage, other tries, later allocations may differ) give the same log. -/
theorem go_ForEach_readonly : GoSrc.Trie_ForEach_Found = true → GoSrc.Trie_keys_Found = true →
    ∀ (heap heap' : Heap) (n : Nat) (t : T) (S : List Nat) (h : List Bytes → Bool) (fuel : Nat),
      Good heap n t S → (∀ x ∈ n :: S, heap'[x]? = heap[x]?) → 2 * t.size + 1 ≤ fuel →
      GoSrc.Trie_ForEach fuel heap' (n : Int) h = GoSrc.Trie_ForEach fuel heap (n : Int) h ∧
      GoSrc.Trie_ForEach fuel heap' (n : Int) h = some (IterH.forEachLogH h t) := by
  intro hF hK heap heap' n t S h fuel hg hag hf
  have h1 := ForEach_eq hF hK heap n t S h fuel hg hf
  have h2 := ForEach_eq hF hK heap' n t S h fuel (hg.frame hag) hf
  exact ⟨h2.trans h1.symm, h2⟩

-- `heapG` has garbage cells 2, 3, 4 (left behind by `Delete "ab"`); its footprint is `[1, 5]`
example : Good heapG 0 (.cons 97 (.cons 120 .nil .nil) .nil) [1, 5] :=
  ⟨[(97, 1)], by decide, absE_sound heapG 8 _ _ _ (by decide), by decide, keysOK_of_b (by decide)⟩
example : ∀ x ∈ [0, 1, 5], ([[(97, 1)], [(120, 5)], [(7, 7), (7, 7)], [], [(1, -1)], [], [(3, 0)]] : Heap)[x]?
    = heapG[x]? := by decide +kernel
example : allFound = false ∨
    (GoSrc.Trie_ForEach 5 heapG 0 (fun _ => true) = some [[97, 120]] ∧
     GoSrc.Trie_ForEach 5 [[(97, 1)], [(120, 5)], [(7, 7), (7, 7)], [], [(1, -1)], [], [(3, 0)]] 0
       (fun _ => true) = some [[97, 120]]) := by decide +kernel

/-! ## 4. Every history -/

/-- The `ForEach` half of "the trie behaves as a set under any history", on the source text: after
ANY list of `Add` / `Delete` calls on the trie returned by `New()` (`goHistory`), `ForEach` on the
final heap with a consumer that never stops yields exactly the members of the model's final trie —
which are exactly the elements of the specified set `runSpec ops ∅`, each once
(`C15_reachable_observe`). -/
theorem go_history_forEach : GoSrc.New_Found = true → GoSrc.Trie_Add_Found = true →
    GoSrc.Trie_Delete_Found = true → GoSrc.Trie_ForEach_Found = true → GoSrc.Trie_keys_Found = true →
    ∀ (ops : List Op) (fuel : Nat), (∀ op ∈ ops, (opBytes op).length + 1 ≤ fuel) →
      ∃ heap', goHistory fuel ops = some (results ops .nil, heap', 0) ∧
        ∀ fuel', 2 * (run ops .nil).size + 1 ≤ fuel' →
          ∃ log, GoSrc.Trie_ForEach fuel' heap' 0 (fun _ => true) = some log ∧
            log = members (run ops .nil) ∧
            (∀ y, y ∈ log ↔ runSpec ops SSet.empty y) ∧ log.Nodup := by
  intro hN hA hD hF hK ops fuel hf
  obtain ⟨heap', h1, hw, hr⟩ := C15Go.go_history hN hA hD ops fuel hf
  refine ⟨heap', h1, fun fuel' hf' => ?_⟩
  obtain ⟨log, hl, rfl, _⟩ := go_ForEach_all hF hK heap' 0 _ fuel' hw hr hf'
  obtain ⟨_, o2, o3⟩ := C15_reachable_observe ops
  exact ⟨_, hl, rfl, o2, o3⟩

/-- `go_history_forEach` with ANY consumer: the members of the model's final trie, cut by the consumer. -/
theorem go_history_forEach_any : GoSrc.New_Found = true → GoSrc.Trie_Add_Found = true →
    GoSrc.Trie_Delete_Found = true → GoSrc.Trie_ForEach_Found = true → GoSrc.Trie_keys_Found = true →
    ∀ (ops : List Op) (fuel : Nat), (∀ op ∈ ops, (opBytes op).length + 1 ≤ fuel) →
      ∃ heap', goHistory fuel ops = some (results ops .nil, heap', 0) ∧
        ∀ (h : List Bytes → Bool) (fuel' : Nat), 2 * (run ops .nil).size + 1 ≤ fuel' →
          GoSrc.Trie_ForEach fuel' heap' 0 h = some (takeThroughH h [] (members (run ops .nil))) := by
  intro hN hA hD hF hK ops fuel hf
  obtain ⟨heap', h1, hw, hr⟩ := C15Go.go_history hN hA hD ops fuel hf
  exact ⟨heap', h1, fun h fuel' hf' => (go_ForEach_log hF hK heap' 0 _ h fuel' hw hr hf').2⟩

/-- `go_history_forEach_any` with a fuel bound in terms of the calls alone: the final trie has at most as many edges as the
history added bytes (`addBytes`), so `2 * addBytes ops + 1` iterations always suffice. -/
theorem go_history_forEach_fuel : GoSrc.New_Found = true → GoSrc.Trie_Add_Found = true →
    GoSrc.Trie_Delete_Found = true → GoSrc.Trie_ForEach_Found = true → GoSrc.Trie_keys_Found = true →
    ∀ (ops : List Op) (fuel : Nat), (∀ op ∈ ops, (opBytes op).length + 1 ≤ fuel) →
      ∃ heap', goHistory fuel ops = some (results ops .nil, heap', 0) ∧
        ∀ (h : List Bytes → Bool) (fuel' : Nat), 2 * addBytes ops + 1 ≤ fuel' →
          GoSrc.Trie_ForEach fuel' heap' 0 h = some (takeThroughH h [] (members (run ops .nil))) ∧
          (GoSrc.Trie_ForEach fuel' heap' 0 (fun _ => true)).isSome = true := by
  intro hN hA hD hF hK ops fuel hf
  obtain ⟨heap', h1, h2⟩ := go_history_forEach_any hN hA hD hF hK ops fuel hf
  refine ⟨heap', h1, fun h fuel' hf' => ?_⟩
  have hs := size_run ops .nil
  simp only [T.size, Nat.zero_add] at hs
  refine ⟨h2 h fuel' (by omega), ?_⟩
  rw [h2 _ fuel' (by omega)]; rfl

example : addBytes opsEx = 9 ∧ (run opsEx .nil).size = 1 := by decide +kernel

/-! ## 5. A concrete history -/

example : ∀ op ∈ opsEx, (opBytes op).length + 1 ≤ 4 := by decide +kernel

-- after the three Adds "abc", "abd", "ax" (shared prefixes "ab", "a"): 5 edges, 11 iterations
example : run (opsEx.take 3) .nil
    = .cons 97 (.cons 98 (.cons 99 .nil (.cons 100 .nil .nil)) (.cons 120 .nil .nil)) .nil ∧
    2 * (run (opsEx.take 3) .nil).size + 1 ≤ 11 := by decide +kernel

example : allFound = false ∨
    ((goHistory 4 (opsEx.take 3)).bind fun r => GoSrc.Trie_ForEach 11 r.2.1 r.2.2 (fun _ => true))
      = some [[97, 98, 99], [97, 98, 100], [97, 120]] := by decide +kernel
example : allFound = false ∨
    ((goHistory 4 (opsEx.take 3)).bind fun r => GoSrc.Trie_ForEach 11 r.2.1 r.2.2 (fun l => l.length < 2))
      = some [[97, 98, 99], [97, 98, 100]] := by decide +kernel
-- after Delete "abc": "abd" and "ax" are left
example : allFound = false ∨
    ((goHistory 4 (opsEx.take 4)).bind fun r => GoSrc.Trie_ForEach 11 r.2.1 r.2.2 (fun _ => true))
      = some [[97, 98, 100], [97, 120]] := by decide +kernel
-- after Delete "abd" as well: the node "ab" is pruned, only "ax" is left
example : allFound = false ∨
    ((goHistory 4 (opsEx.take 5)).bind fun r => GoSrc.Trie_ForEach 11 r.2.1 r.2.2 (fun _ => true))
      = some [[97, 120]] := by decide +kernel
-- the whole history: only "b" is left (the cells 1 … 5 are garbage and are not visited)
example : allFound = false ∨
    ((goHistory 4 opsEx).bind fun r => GoSrc.Trie_ForEach 3 r.2.1 r.2.2 (fun _ => true))
      = some [[98]] := by decide +kernel
example : members (run opsEx .nil) = [[98]] ∧ 2 * (run opsEx .nil).size + 1 ≤ 3 := by decide +kernel
-- … and one iteration fewer is not enough
example : allFound = false ∨
    ((goHistory 4 opsEx).bind fun r => GoSrc.Trie_ForEach 2 r.2.1 r.2.2 (fun _ => true)) = none := by
  decide +kernel

example : allFound = false ∨ allFound = true := by decide +kernel

end Bio.Props.C15EachGo

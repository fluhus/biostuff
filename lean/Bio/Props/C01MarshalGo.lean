/-
  C01 / C02, `MarshalText`, for the Go SOURCE TEXT: `(*Fasta).MarshalText` of
  formats/fasta/fasta.go and `(*Fastq).MarshalText` of formats/fastq/fastq.go, as translated on
  every run into `Bio.Generated.GoSrc.fasta_MarshalText` / `fastq_MarshalText`.  Each computes the
  length `n` of the text in advance (`2 + len(name) + len(seq) + (len(seq)+80-1)/80`, resp.
  `6 + len(name) + len(seq) + len(quals)`), lets the translated `Write` write the record into a
  `bytes.Buffer`, and PANICS (`none`) if the buffer's length then differs from `n`.

  The `bytes.Buffer` is the abstract writer `Bio.GoRt.Wr` with `room` bytes of room, `room` a
  parameter of the translated function.  A real Buffer never refuses bytes, so the theorems are for
  every `room` at least the length of the text:

  * the result is `some (text, nil)` with `text` the model's text of the record
    (`Fasta.encode 80 ⟨name, seq⟩` / `Fastq.encode ⟨name, seq, quals⟩`, the functions of C01, C02 and
    C07Go), of exactly the pre-computed length: the self-check never fires, no panic — for every
    name and sequence, and for FASTQ also for `seq` and `quals` of different lengths;
  * the result does not depend on `room`;
  * (about the model only) with `room` smaller than the text the translated function is `none`:
    the writer cut the text, `Write`'s error is dropped by `MarshalText` (as in the Go text:
    `f.Write(buf)` is an expression statement) and the self-check fires.  This is the sense in which
    the hypothesis on `room` stands for "a Buffer never refuses bytes";
  * the exact value for every `room` (`go_fasta_marshal_exact`, `go_fastq_marshal_exact`);
  * round trip: the marshalled bytes of a record in the domain of C01 / C02, read back with the
    translated `read` (iterated: `C01Go.goDecode`, `C02Go.goDecode`), give the record.

  Guarded by the translator's `<f>_Found` flags (see `Bio.Lemmas.GoSrc`).
-/
import Bio.Lemmas.GoSrcMarshal
import Bio.Props.C01Go
import Bio.Props.C02Go
namespace Bio.Props.C01MarshalGo
open Bio Bio.GoRt Bio.Generated Bio.GoSrcLemmas

/-- every translator flag this file depends on; the non-vacuity examples below are stated as
`allFound = false ∨ …` so that a source the translator no longer recognises is not an alarm -/
def allFound : Bool :=
  GoSrc.fasta_MarshalText_Found && GoSrc.fastq_MarshalText_Found && GoSrc.fasta_Write_Found
    && GoSrc.fastq_Write_Found && GoSrc.fasta_read_Found && GoSrc.fastq_read_Found

example : allFound = false ∨ (GoSrc.fasta_MarshalText_Found = true ∧ GoSrc.fastq_MarshalText_Found = true
    ∧ GoSrc.fasta_Write_Found = true ∧ GoSrc.fastq_Write_Found = true) := by decide

/-! ## The length of the model's text is the length `MarshalText` computes in advance -/

theorem fasta_text_length (name seq : Bytes) :
    (Fasta.encode 80 ⟨name, seq⟩).length = 2 + name.length + seq.length + (seq.length + 79) / 80 :=
  fasta_encode_length name seq

theorem fastq_text_length (name seq quals : Bytes) :
    (Fastq.encode ⟨name, seq, quals⟩).length = 6 + name.length + seq.length + quals.length :=
  fastq_encode_length name seq quals

/-! ## FASTA -/

/-- The exact value of the translated `MarshalText`, for every `room`. -/
theorem go_fasta_marshal_exact : GoSrc.fasta_MarshalText_Found = true → GoSrc.fasta_Write_Found = true →
    ∀ (room : Nat) (name seq : Bytes),
      GoSrc.fasta_MarshalText room name seq
        = if 2 + name.length + seq.length + (seq.length + 79) / 80 ≤ room
          then some (Fasta.encode 80 ⟨name, seq⟩, GoErr.nil) else none := by
  intro hM hW room name seq
  rw [fasta_MarshalText_eq hM hW, fasta_encode_length]

/-- With a buffer that does not refuse bytes: the model's text, no error, of exactly the
pre-computed length; the self-check does not fire (no panic). -/
theorem go_fasta_marshal_total : GoSrc.fasta_MarshalText_Found = true → GoSrc.fasta_Write_Found = true →
    ∀ (name seq : Bytes) (room : Nat),
      2 + name.length + seq.length + (seq.length + 79) / 80 ≤ room →
      GoSrc.fasta_MarshalText room name seq = some (Fasta.encode 80 ⟨name, seq⟩, GoErr.nil)
      ∧ GoSrc.fasta_MarshalText room name seq ≠ none
      ∧ (Fasta.encode 80 ⟨name, seq⟩).length = 2 + name.length + seq.length + (seq.length + 79) / 80 := by
  intro hM hW name seq room h
  have h1 := go_fasta_marshal_exact hM hW room name seq
  rw [if_pos h] at h1
  exact ⟨h1, by rw [h1]; exact Option.some_ne_none _, fasta_encode_length name seq⟩

example : 2 + ([114, 49] : Bytes).length + (List.replicate 81 (65 : UInt8)).length
    + ((List.replicate 81 (65 : UInt8)).length + 79) / 80 ≤ 100 := by decide

/-- The result is the same for all sufficiently large `room`. -/
theorem go_fasta_marshal_room_independent : GoSrc.fasta_MarshalText_Found = true →
    GoSrc.fasta_Write_Found = true → ∀ (name seq : Bytes) (room room' : Nat),
      2 + name.length + seq.length + (seq.length + 79) / 80 ≤ room →
      2 + name.length + seq.length + (seq.length + 79) / 80 ≤ room' →
      GoSrc.fasta_MarshalText room name seq = GoSrc.fasta_MarshalText room' name seq := by
  intro hM hW name seq room room' h h'
  rw [(go_fasta_marshal_total hM hW name seq room h).1, (go_fasta_marshal_total hM hW name seq room' h').1]

/-- (The model only.)  With less room than the text needs the translated function is `none`: the
hypothesis on `room` above is what stands for "a Buffer never refuses bytes". -/
theorem go_fasta_marshal_small_room : GoSrc.fasta_MarshalText_Found = true →
    GoSrc.fasta_Write_Found = true → ∀ (name seq : Bytes) (room : Nat),
      room < 2 + name.length + seq.length + (seq.length + 79) / 80 →
      GoSrc.fasta_MarshalText room name seq = none := by
  intro hM hW name seq room h
  rw [go_fasta_marshal_exact hM hW, if_neg (by omega)]

example : 5 < 2 + ([114, 49] : Bytes).length + ([65, 67] : Bytes).length
    + (([65, 67] : Bytes).length + 79) / 80 := by decide

/-! ## FASTQ (any `seq` and `quals`, also of different lengths) -/

theorem go_fastq_marshal_exact : GoSrc.fastq_MarshalText_Found = true → GoSrc.fastq_Write_Found = true →
    ∀ (room : Nat) (name seq quals : Bytes),
      GoSrc.fastq_MarshalText room name seq quals
        = if 6 + name.length + seq.length + quals.length ≤ room
          then some (Fastq.encode ⟨name, seq, quals⟩, GoErr.nil) else none := by
  intro hM hW room name seq quals
  rw [fastq_MarshalText_eq hM hW, fastq_encode_length]

/-- As `go_fasta_marshal_total`. -/
theorem go_fastq_marshal_total : GoSrc.fastq_MarshalText_Found = true → GoSrc.fastq_Write_Found = true →
    ∀ (name seq quals : Bytes) (room : Nat),
      6 + name.length + seq.length + quals.length ≤ room →
      GoSrc.fastq_MarshalText room name seq quals = some (Fastq.encode ⟨name, seq, quals⟩, GoErr.nil)
      ∧ GoSrc.fastq_MarshalText room name seq quals ≠ none
      ∧ (Fastq.encode ⟨name, seq, quals⟩).length = 6 + name.length + seq.length + quals.length := by
  intro hM hW name seq quals room h
  have h1 := go_fastq_marshal_exact hM hW room name seq quals
  rw [if_pos h] at h1
  exact ⟨h1, by rw [h1]; exact Option.some_ne_none _, fastq_encode_length name seq quals⟩

-- unequal lengths of `seq` and `quals`
example : 6 + ([114, 49] : Bytes).length + ([65, 67, 71] : Bytes).length + ([73] : Bytes).length ≤ 12 := by
  decide

/-- As `go_fasta_marshal_room_independent`. -/
theorem go_fastq_marshal_room_independent : GoSrc.fastq_MarshalText_Found = true →
    GoSrc.fastq_Write_Found = true → ∀ (name seq quals : Bytes) (room room' : Nat),
      6 + name.length + seq.length + quals.length ≤ room →
      6 + name.length + seq.length + quals.length ≤ room' →
      GoSrc.fastq_MarshalText room name seq quals = GoSrc.fastq_MarshalText room' name seq quals := by
  intro hM hW name seq quals room room' h h'
  rw [(go_fastq_marshal_total hM hW name seq quals room h).1,
    (go_fastq_marshal_total hM hW name seq quals room' h').1]

theorem go_fastq_marshal_small_room : GoSrc.fastq_MarshalText_Found = true →
    GoSrc.fastq_Write_Found = true → ∀ (name seq quals : Bytes) (room : Nat),
      room < 6 + name.length + seq.length + quals.length →
      GoSrc.fastq_MarshalText room name seq quals = none := by
  intro hM hW name seq quals room h
  rw [go_fastq_marshal_exact hM hW, if_neg (by omega)]

example : 9 < 6 + ([114, 49] : Bytes).length + ([65, 67, 71] : Bytes).length + ([73] : Bytes).length := by
  decide

/-! ## Round trip through the translated readers -/

/-- FASTA: the marshalled bytes of a record in the domain of C01, read back by the translated
`read` (iterated as `(*reader).iter` does: `C01Go.goDecode`), give exactly the record. -/
theorem go_fasta_marshal_read : GoSrc.fasta_MarshalText_Found = true → GoSrc.fasta_Write_Found = true →
    GoSrc.fasta_read_Found = true → ∀ (name seq : Bytes), Fasta.WF ⟨name, seq⟩ → ∀ (room : Nat),
      2 + name.length + seq.length + (seq.length + 79) / 80 ≤ room →
      ∃ text, GoSrc.fasta_MarshalText room name seq = some (text, GoErr.nil)
        ∧ C01Go.goDecode (text.length + 1) .eof text = [Item.ok ⟨name, seq⟩] := by
  intro hM hW hR name seq hwf room h
  refine ⟨_, (go_fasta_marshal_total hM hW name seq room h).1, ?_⟩
  have := C01Go.go_roundtrip hR 80 (by decide) [⟨name, seq⟩] (by simpa using hwf)
  simpa [Fasta.encodeAll] using this

/-- FASTQ: the same, for a record in the domain of C02 (in particular as many qualities as bases). -/
theorem go_fastq_marshal_read : GoSrc.fastq_MarshalText_Found = true → GoSrc.fastq_Write_Found = true →
    GoSrc.fastq_read_Found = true → ∀ (name seq quals : Bytes), Fastq.WF ⟨name, seq, quals⟩ →
      ∀ (room : Nat), 6 + name.length + seq.length + quals.length ≤ room →
      ∃ text, GoSrc.fastq_MarshalText room name seq quals = some (text, GoErr.nil)
        ∧ C02Go.goDecode ((scanLines text).length + 1) .eof (scanLines text)
            = [Item.ok ⟨name, seq, quals⟩] := by
  intro hM hW hR name seq quals hwf room h
  refine ⟨_, (go_fastq_marshal_total hM hW name seq quals room h).1, ?_⟩
  have := C02Go.go_roundtrip hR [⟨name, seq, quals⟩] (by simpa using hwf)
  simpa [Fastq.encodeAll] using this

example : allFound = false ∨ (allFound = true
    ∧ Fasta.WF ⟨[114, 49], List.replicate 81 65⟩ ∧ Fastq.WF ⟨[114, 49], [65, 67, 71], [73, 43, 64]⟩) := by
  decide

/-! ## Non-vacuity: the translated functions evaluated -/

-- ">r1\n" + 80 × 'A' + "\n" + "A\n": 2 + 2 + 81 + 2 = 87 bytes; the second line is the 81st base
example : allFound = false ∨ (
    (GoSrc.fasta_MarshalText 87 [114, 49] (List.replicate 81 65)).map (fun p => (p.1.length, p.2))
      = some (87, GoErr.nil)
    ∧ (GoSrc.fasta_MarshalText 1000 [114, 49] (List.replicate 81 65)).map (fun p => (p.1.length, p.2))
      = some (87, GoErr.nil)
    ∧ (GoSrc.fasta_MarshalText 87 [114, 49] (List.replicate 81 65)).map (fun p => p.1.take 5)
      = some [62, 114, 49, 10, 65]
    ∧ (GoSrc.fasta_MarshalText 87 [114, 49] (List.replicate 81 65)).map (fun p => p.1.drop 83)
      = some [65, 10, 65, 10]
    ∧ GoSrc.fasta_MarshalText 86 [114, 49] (List.replicate 81 65) = none
    ∧ GoSrc.fasta_MarshalText 9 [114, 49] [65, 67, 71, 84] = some ([62, 114, 49, 10, 65, 67, 71, 84, 10], GoErr.nil)
    ∧ GoSrc.fasta_MarshalText 3 [] [] = some ([62, 10], GoErr.nil)) := by decide +kernel

-- "@r1\nACG\n+\nI\n" (3 bases, 1 quality): 6 + 2 + 3 + 1 = 12 bytes
set_option maxRecDepth 4000 in
example : allFound = false ∨ (
    GoSrc.fastq_MarshalText 12 [114, 49] [65, 67, 71] [73]
      = some ([64, 114, 49, 10, 65, 67, 71, 10, 43, 10, 73, 10], GoErr.nil)
    ∧ GoSrc.fastq_MarshalText 11 [114, 49] [65, 67, 71] [73] = none
    ∧ (GoSrc.fastq_MarshalText 200 [114, 49] (List.replicate 81 65) (List.replicate 81 73)).map
        (fun p => (p.1.length, p.2)) = some (170, GoErr.nil)
    ∧ GoSrc.fastq_MarshalText 6 [] [] [] = some ([64, 10, 10, 43, 10, 10], GoErr.nil)) := by decide +kernel

end Bio.Props.C01MarshalGo

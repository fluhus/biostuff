/-
  Property C01: FASTA write → read, for every layout.
  Model: `Bio/Model/Fasta.lean`; helper lemmas: `Bio/Lemmas/Fasta.lean`.
-/
import Bio.Lemmas.Fasta
namespace Bio.Fasta

/-- The domain of the property: name and sequence free of CR/LF, sequence free of `'>'`. -/
def WF (r : Fa) : Prop :=
  (∀ b ∈ r.name, b ≠ 10 ∧ b ≠ 13) ∧ (∀ b ∈ r.seq, b ≠ 10 ∧ b ≠ 13 ∧ b ≠ 62)

instance (r : Fa) : Decidable (WF r) := by unfold WF; infer_instance

/-! ## Shape of the writer's output -/

/-- The lines the writer cuts the sequence into: each of length `1 … w`, all but the last
exactly `w`, and together they are the sequence. -/
theorem wrap_lines (w : Nat) (hw : 0 < w) (s : Bytes) :
    (∀ l ∈ wrap w s, 0 < l.length ∧ l.length ≤ w) ∧ (wrap w s).flatten = s ∧
      (∀ l ∈ (wrap w s).dropLast, l.length = w) :=
  ⟨wrap_mem_length w hw s, wrap_flatten w hw s, wrap_dropLast_length w hw s⟩

example : wrap 3 [65, 67, 71, 84, 65, 67, 71] = [[65, 67, 71], [84, 65, 67], [71]] := by
  simp [wrap]

/-- The written record: `'>'`, the name, LF, then every sequence line followed by LF. -/
theorem encode_eq (w : Nat) (r : Fa) :
    encode w r = 62 :: r.name ++ [10] ++ ((wrap w r.seq).map (· ++ [10])).flatten := by
  simp [encode, writeCalls]

/-- The length `MarshalText` pre-computes is the length written: its panic is unreachable. -/
theorem encode_length (w : Nat) (hw : 0 < w) (r : Fa) :
    (encode w r).length = marshalLen w r := by
  rw [encode_eq]
  simp only [List.length_cons, List.length_append, List.length_nil,
    flatten_map_append_length, wrap_flatten w hw, wrap_length w hw, marshalLen]
  omega

example : (0 : Nat) < 3 := by decide

/-! ## Layouts -/

/-- Only line-break bytes. -/
def IsNLs (s : Bytes) : Prop := ∀ b ∈ s, b = 10 ∨ b = 13

/-- A separator: a non-empty run of LF / CR bytes (LF, CRLF, blank lines, mixtures). -/
def Sep (s : Bytes) : Prop := s ≠ [] ∧ IsNLs s

/-- The layout of one record: the name, the separator after the name line, and the
chunks (lines) of the sequence, each with the separator that follows it. -/
structure RecLayout where
  name : Bytes
  nameSep : Bytes
  chunks : List (Bytes × Bytes)
  deriving Repr, DecidableEq

/-- The record a layout spells out. -/
def RecLayout.toFa (l : RecLayout) : Fa := ⟨l.name, (l.chunks.map (·.1)).flatten⟩

/-- The separators of a record layout, in file order. -/
def RecLayout.seps (l : RecLayout) : List Bytes := l.nameSep :: l.chunks.map (·.2)

def renderRec (l : RecLayout) : Bytes :=
  62 :: l.name ++ l.nameSep ++ (l.chunks.map (fun c => c.1 ++ c.2)).flatten

/-- The bytes of a file laid out as `L`. -/
def render (L : List RecLayout) : Bytes := (L.map renderRec).flatten

/-- All separators of the file, in file order. -/
def allSeps (L : List RecLayout) : List Bytes := (L.map RecLayout.seps).flatten

/-- A valid layout: every chunk is non-empty, every separator consists of line-break
bytes, and every separator except the very last one of the file is a `Sep` (non-empty);
the last one may be empty (missing final newline — including a last record with empty
sequence whose name line is not terminated). -/
def Valid (L : List RecLayout) : Prop :=
  (∀ l ∈ L, ∀ c ∈ l.chunks, c.1 ≠ []) ∧
  (∀ s ∈ allSeps L, IsNLs s) ∧
  (∀ s ∈ (allSeps L).dropLast, Sep s)

instance (s : Bytes) : Decidable (IsNLs s) := by unfold IsNLs; infer_instance
instance (s : Bytes) : Decidable (Sep s) := by unfold Sep; infer_instance
instance (L : List RecLayout) : Decidable (Valid L) := by unfold Valid; infer_instance

/-- **Layout independence.**  Whatever the line widths, line terminators (LF, CR, CRLF,
mixed), blank lines between lines, and with or without a final newline: the reader
returns exactly the records. -/
theorem layout_decode (rs : List Fa) (h : ∀ r ∈ rs, WF r) (L : List RecLayout)
    (hv : Valid L) (hL : L.map RecLayout.toFa = rs) :
    decode (render L) = rs.map Item.ok := by
  subst hL
  induction L with
  | nil => exact decodeSrc_nil _
  | cons l L ih =>
    obtain ⟨hv1, hv2, hv3⟩ := hv
    have hwf : WF l.toFa := h _ (by simp)
    have hseps : allSeps (l :: L) = l.seps ++ allSeps L := by simp [allSeps]
    rw [hseps] at hv2 hv3
    -- the separators of `l` are fine in front of the rest: only the last one of the file may be empty
    have hs : SepsOK l.seps (render L) :=
      SepsOK.of_append hv2 (fun s hs => (hv3 s hs).1) _ (by cases L <;> simp [allSeps, RecLayout.seps, render])
    have hread := readOne_record l.name l.nameSep l.chunks (render L) hwf.1
      (fun c hcm => ⟨hv1 l (by simp) c hcm, fun b hb => hwf.2 b (by
        simp only [RecLayout.toFa, List.mem_flatten, List.mem_map]; exact ⟨c.1, ⟨c, hcm, rfl⟩, hb⟩)⟩)
      hs (by cases L; exact .inl rfl; exact .inr ⟨_, rfl⟩)
    have hvL : Valid L := by
      refine ⟨fun l' hl' => hv1 l' (by simp [hl']), fun s hs => hv2 s (by simp [hs]), fun s hs => ?_⟩
      have hne : allSeps L ≠ [] := fun e => by rw [e] at hs; simp at hs
      rw [List.dropLast_append_of_ne_nil hne] at hv3
      exact hv3 s (List.mem_append_right _ hs)
    rw [show render (l :: L) = 62 :: (l.name ++ l.nameSep ++
        (l.chunks.map (fun c => c.1 ++ c.2)).flatten ++ render L) by simp [render, renderRec],
      decode_cons, hread, ih hvL fun r hr => h r (by simp at hr ⊢; exact Or.inr hr)]
    rfl

/-- Non-vacuity: two records; CRLF after the first name, lines of widths 1, 3, 2 with a
blank line, a bare CR and a mixed run in between; second record with empty name and
the final newline missing. -/
example :
    let L : List RecLayout :=
      [⟨[115, 49], [13, 10], [([65], [10, 10]), ([67, 71, 84], [13]), ([65, 67], [10, 13, 13, 10])]⟩,
       ⟨[], [10], [([84, 84], [])]⟩]
    let rs : List Fa := [⟨[115, 49], [65, 67, 71, 84, 65, 67]⟩, ⟨[], [84, 84]⟩]
    (∀ r ∈ rs, WF r) ∧ Valid L ∧ L.map RecLayout.toFa = rs := by
  decide

/-- Non-vacuity: last record with empty sequence and an unterminated name line. -/
example :
    let L : List RecLayout := [⟨[97], [10], [([65], [10])]⟩, ⟨[98], [], []⟩]
    let rs : List Fa := [⟨[97], [65]⟩, ⟨[98], []⟩]
    (∀ r ∈ rs, WF r) ∧ Valid L ∧ L.map RecLayout.toFa = rs := by
  decide

/-- The layout with a fixed separator `s` after the name and after every sequence line. -/
def sepLayout (s : Bytes) (w : Nat) (r : Fa) : RecLayout :=
  ⟨r.name, s, (wrap w r.seq).map (fun c => (c, s))⟩

theorem sepLayout_allSeps (s : Bytes) (w : Nat) (rs : List Fa) :
    ∀ t ∈ allSeps (rs.map (sepLayout s w)), t = s := by
  intro t ht
  simp only [allSeps, RecLayout.seps, sepLayout, List.map_map, List.mem_flatten,
    List.mem_map, Function.comp_def] at ht
  obtain ⟨_, ⟨r, _, rfl⟩, ht⟩ := ht
  simp at ht
  rcases ht with ht | ⟨_, ht⟩
  · exact ht
  · exact ht.symm

theorem sepLayout_valid (s : Bytes) (hs : Sep s) (w : Nat) (hw : 0 < w) (rs : List Fa) :
    Valid (rs.map (sepLayout s w)) ∧ (rs.map (sepLayout s w)).map RecLayout.toFa = rs := by
  refine ⟨⟨?_, ?_, ?_⟩, ?_⟩
  · intro l hl c hc
    obtain ⟨r, _, rfl⟩ := List.mem_map.mp hl
    simp only [sepLayout, List.mem_map] at hc
    obtain ⟨d, hd, rfl⟩ := hc
    exact List.length_pos_iff.mp (wrap_mem_length w hw r.seq d hd).1
  · intro t ht
    rw [sepLayout_allSeps s w rs t ht]; exact hs.2
  · intro t ht
    rw [sepLayout_allSeps s w rs t (List.dropLast_subset _ ht)]; exact hs
  · rw [List.map_map]
    conv => rhs; rw [← List.map_id rs]
    apply List.map_congr_left
    intro r _
    simp [RecLayout.toFa, sepLayout, List.map_map, Function.comp_def, wrap_flatten w hw]

/-- The layout the writer produces: LF after the name, lines of width `w`, LF after each. -/
def writerLayout (w : Nat) (r : Fa) : RecLayout :=
  ⟨r.name, [10], (wrap w r.seq).map (fun c => (c, [10]))⟩

/-- The writer's output is the rendering of a valid layout of the records. -/
theorem encode_is_layout (w : Nat) (hw : 0 < w) (rs : List Fa) :
    encodeAll w rs = render (rs.map (writerLayout w)) ∧
      Valid (rs.map (writerLayout w)) ∧
      (rs.map (writerLayout w)).map RecLayout.toFa = rs := by
  refine ⟨?_, sepLayout_valid [10] (by decide) w hw rs⟩
  simp only [encodeAll, render, List.map_map]
  congr 1
  apply List.map_congr_left
  intro r _
  simp [encode_eq, renderRec, writerLayout, List.map_map, Function.comp_def]

example : (0 : Nat) < 3 := by decide

/-! ## Round trip -/

/-- Write then read returns the records: every record count, every length, every content
in the domain, every positive line width. -/
theorem roundtrip (w : Nat) (hw : 0 < w) (rs : List Fa) (h : ∀ r ∈ rs, WF r) :
    decode (encodeAll w rs) = rs.map Item.ok := by
  obtain ⟨h1, h2, h3⟩ := encode_is_layout w hw rs
  rw [h1]
  exact layout_decode rs h _ h2 h3

/-- Non-vacuity: width 3, a 7-byte sequence (3 lines), an empty record, odd bytes. -/
example :
    (0 : Nat) < 3 ∧
    ∀ r ∈ ([⟨[115, 32, 49], [65, 67, 71, 84, 65, 67, 71]⟩, ⟨[], []⟩, ⟨[62, 64], [255, 0, 43]⟩] : List Fa),
      WF r := by
  decide

/-! ## Errors -/

/-- An error item is always the last item delivered. -/
theorem err_only_last (e : Ending) (x : Bytes) :
    ∀ i, (decodeSrc e x)[i]? = some Item.err → i + 1 = (decodeSrc e x).length :=
  err_last e x

/-- A source that ends cleanly never produces an error: every byte string is accepted. -/
theorem eof_no_err (x : Bytes) : Item.err ∉ decode x := eof_no_err' x

/-- Every item delivered from a cleanly ending source is a record. -/
theorem eof_all_ok (x : Bytes) : ∀ it ∈ decode x, ∃ r, it = Item.ok r := by
  intro it hit
  cases it with
  | ok r => exact ⟨r, rfl⟩
  | err => exact absurd hit (eof_no_err x)

/-! ## Failing source (for C07) -/

/-- What a failing source changes, for every byte string: the last item of the clean decode
(the record being read when the source fails) is replaced by one error. -/
theorem fail_eq_dropLast (x : Bytes) :
    decodeSrc .fail x = (decode x).dropLast ++ [Item.err] := decodeSrc_fail_eq x

/-- For **every** byte string `x` and every offset `k`: a source that delivers the first
`k` bytes of `x` and then fails yields leading items of the fault-free decode of `x`
(all of them records, by `eof_no_err`), followed by exactly one error. -/
theorem fault_prefix (x : Bytes) (k : Nat) :
    ∃ n, decodeSrc .fail (x.take k) = (decode x).take n ++ [Item.err] := by
  refine ⟨((decodeSrc .eof (x.take k)).dropLast).length, ?_⟩
  have hp := decode_prefix (x.take k) (x.drop k)
  rw [List.take_append_drop] at hp
  rw [decodeSrc_fail_eq, decode, ← List.prefix_iff_eq_take.mp hp]

/-- The records delivered before the error are the leading records written. -/
theorem fault_prefix_wf (w : Nat) (hw : 0 < w) (rs : List Fa) (h : ∀ r ∈ rs, WF r) (k : Nat) :
    ∃ n, decodeSrc .fail ((encodeAll w rs).take k) = (rs.take n).map Item.ok ++ [Item.err] := by
  obtain ⟨n, hn⟩ := fault_prefix (encodeAll w rs) k
  exact ⟨n, by rw [hn, roundtrip w hw rs h, List.map_take]⟩

example :
    (0 : Nat) < 3 ∧
    ∀ r ∈ ([⟨[115, 49], [65, 67, 71, 84, 65, 67, 71]⟩, ⟨[], [84]⟩] : List Fa), WF r := by
  decide

end Bio.Fasta

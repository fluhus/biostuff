/-
  C15 for the Go SOURCE TEXT of trie/trie.go: `New`, `(*Trie).Add`, `(*Trie).Has`,
  `(*Trie).Delete`, translated statement by statement on every run into
  `Bio.Generated.GoSrc.New` / `Trie_Add` / `Trie_Has` / `Trie_Delete`.

  The Go type is `type Trie struct{ m map[byte]*Trie }`, used through pointers and mutated in place,
  so the translation runs over an EXPLICIT HEAP: `heap : List (List (UInt8 × Int))` lists the map
  fields of all nodes allocated so far, a `*Trie` is an index into it (`nil = -1`), `New` appends an
  empty map, functions that write return the new heap; a `for len(b) > 0 { … }` loop runs at most
  `fuel` iterations; `none` = a Go panic (nil / dangling pointer, index out of range) or out of fuel.

  This file is a REFINEMENT proof: the heap-manipulating code refines the purely functional hand
  model `Bio.Trie` (`add` / `has` / `del`, Bio/Model/Trie.lean), edge order included.

  * `Rep heap p t` (Bio/Lemmas/GoSrcTrie1.lean): `p` is a node of `heap`, and reading its edge list
    in order — key `kᵢ`, child pointer `cᵢ`, with `Rep heap cᵢ tᵢ` — gives
    `t = cons k₁ t₁ (cons k₂ t₂ …)`.
  * `HWF heap root`: the part of the heap reachable from `root` is a TREE (no cell is reached twice:
    no cycle, no sharing) whose nodes are maps (pairwise distinct keys).  Cells that are not
    reachable from `root` — the garbage `Delete` leaves behind, other tries — are unconstrained.
    `checkHWF` is a decidable sufficient check for concrete heaps.

  For every `heap`, `root`, `t` with `HWF heap root` and `Rep heap root t`, every `b`, and every
  `fuel ≥ len(b) + 1`: `Has` answers `Trie.has b t`; `Add` ends in a heap that satisfies the
  invariant again and represents `Trie.add b t`; `Delete` returns false and leaves the heap untouched
  when `Trie.del b t = none`, and otherwise returns true and ends in an invariant heap that represents
  the model's result; nothing panics.  Hence (`go_history`) for EVERY history of `Add` / `Delete`
  calls from `New()` the returned flags and the final trie are the model's, and C15's
  `C15_reachable` / `C15_reachable_observe` (the trie behaves as the specified set of maximal
  sequences) hold for the source text.
  Guarded by the translator's `<f>_Found` flags (see `Bio.Lemmas.GoSrc`).
-/
import Bio.Lemmas.GoSrcTrie
import Bio.Props.C15
namespace Bio.Props.C15Go
open Bio Bio.GoRt Bio.Generated Bio.GoSrcLemmas Bio.GoSrcLemmas.TrieGo Bio.Trie

/-- every translator flag this file depends on; the non-vacuity examples below are stated as
`allFound = false ∨ …` so that a source the translator no longer recognises is not an alarm -/
def allFound : Bool :=
  GoSrc.New_Found && GoSrc.Trie_Add_Found && GoSrc.Trie_Has_Found && GoSrc.Trie_Delete_Found

/-! ## 0. The invariant is satisfiable: concrete heaps -/

/-- after `Add("ab"); Add("ac"); Add("b")` -/
def heapA : Heap := [[(97, 1), (98, 4)], [(98, 2), (99, 3)], [], [], []]

def trieA : T := .cons 97 (.cons 98 .nil (.cons 99 .nil .nil)) (.cons 98 .nil .nil)

/-- with garbage: after `Add("abc"); Add("abd"); Add("ax"); Delete("ab")` the cells 2, 3, 4 are
unreachable, and cell 2 still has its two edges -/
def heapG : Heap := [[(97, 1)], [(120, 5)], [(99, 3), (100, 4)], [], [], []]

theorem heapA_ok : HWF heapA 0 ∧ Rep heapA 0 trieA :=
  checkHWF_sound (fuel := 8) (by decide) trieA [1, 2, 3, 4] (by decide)

theorem heapG_ok : HWF heapG 0 ∧ Rep heapG 0 (.cons 97 (.cons 120 .nil .nil) .nil) :=
  checkHWF_sound (fuel := 8) (by decide) _ [1, 5] (by decide)

example : HWF heapA 0 := heapA_ok.1
example : HWF heapG 0 := heapG_ok.1
-- a sub-trie of an invariant heap is one as well (`Has`, `Add`, `Delete` work on any node)
example : HWF heapA 1 ∧ Rep heapA 1 (.cons 98 .nil (.cons 99 .nil .nil)) :=
  checkHWF_sound (fuel := 8) (by decide) _ [2, 3] (by decide)

/-- a shared node (two edges to cell 1) is not a tree: the invariant excludes it -/
example : ¬ HWF [[(97, 1), (98, 1)], []] 0 := by
  rintro ⟨n, t, S, hroot, es, hn, hr, hnd, _⟩
  have h0 : n = 0 := by omega
  subst h0
  simp at hn
  subst hn
  cases hr with
  | cons hv hc h1 h2 =>
    cases h2 with
    | cons hv' hc' h1' h2' =>
      have e1 := Int.ofNat.inj hv
      have e2 := Int.ofNat.inj hv'
      subst e1 e2
      simp at hnd

/-- a cycle is not a tree either -/
example : ¬ HWF [[(97, 0)]] 0 := by
  rintro ⟨n, t, S, hroot, es, hn, hr, hnd, _⟩
  have h0 : n = 0 := by omega
  subst h0
  simp at hn
  subst hn
  cases hr with
  | cons hv hc h1 h2 =>
    have e1 := Int.ofNat.inj hv
    subst e1
    simp at hnd

/-- `Rep` determines the trie, and an invariant heap represents one -/
theorem go_rep_unique (heap : Heap) (root : Int) (t t' : T) (h : Rep heap root t)
    (h' : Rep heap root t') : t = t' := rep_unique h h'

theorem go_rep_exists (heap : Heap) (root : Int) (h : HWF heap root) : ∃ t, Rep heap root t :=
  rep_of_hwf h

/-- the model's invariant (C15's `NoDupKeys`) holds for the trie an invariant heap represents -/
theorem go_noDupKeys (heap : Heap) (root : Int) (t : T) (hw : HWF heap root) (hr : Rep heap root t) :
    NoDupKeys t := by
  obtain ⟨n, S, _, hg⟩ := good_of hw hr
  exact noDupKeys_of_good hg

/-! ## 1. `New` -/

/-- `New` appends an empty map and returns its index; the new node represents the empty trie, and
every trie already in the heap is still there, invariant included. -/
theorem go_New : GoSrc.New_Found = true → ∀ heap : Heap,
    GoSrc.New heap = some ((heap.length : Int), heap ++ [[]]) ∧
    HWF (heap ++ [[]]) (heap.length : Int) ∧ Rep (heap ++ [[]]) (heap.length : Int) .nil ∧
    ∀ (root : Int) (t : T), HWF heap root → Rep heap root t →
      HWF (heap ++ [[]]) root ∧ Rep (heap ++ [[]]) root t := by
  intro hF heap
  refine ⟨New_eq hF heap, (of_good (good_new heap)).1, (of_good (good_new heap)).2, ?_⟩
  intro root t hw hr
  obtain ⟨n, S, rfl, hg⟩ := good_of hw hr
  exact of_good (good_append hg [[]])

example : allFound = false ∨ GoSrc.New heapA = some (5, heapA ++ [[]]) := by decide +kernel

/-! ## 2. `Has` -/

/-- `Has` does not even need the invariant (it only reads, and the first edge with the key is what
both the map lookup and the model find) -/
theorem go_Has_rep : GoSrc.Trie_Has_Found = true →
    ∀ (heap : Heap) (root : Int) (t : T) (b : Bytes) (fuel : Nat),
      Rep heap root t → b.length + 1 ≤ fuel →
      GoSrc.Trie_Has fuel heap root b = some (has b t) := by
  intro hF heap root t b fuel hr hf
  obtain ⟨n, es, S, rfl, hn, hre⟩ := hr
  exact Has_eq hF fuel heap n es t S b hn hre hf

theorem go_Has : GoSrc.Trie_Has_Found = true →
    ∀ (heap : Heap) (root : Int) (t : T) (b : Bytes) (fuel : Nat),
      HWF heap root → Rep heap root t → b.length + 1 ≤ fuel →
      GoSrc.Trie_Has fuel heap root b = some (has b t) :=
  fun hF heap root t b fuel _ hr hf => go_Has_rep hF heap root t b fuel hr hf

example : HWF heapA 0 ∧ Rep heapA 0 trieA ∧ ([97, 99] : Bytes).length + 1 ≤ 3 :=
  ⟨heapA_ok.1, heapA_ok.2, by decide⟩

example : allFound = false ∨
    (GoSrc.Trie_Has 3 heapA 0 [97, 99] = some true ∧ GoSrc.Trie_Has 3 heapA 0 [97, 97] = some false ∧
     GoSrc.Trie_Has 3 heapA 0 [] = some true ∧ GoSrc.Trie_Has 4 heapA 0 [97, 99, 99] = some false ∧
     -- the fuel bound is needed: out of fuel = `none`
     GoSrc.Trie_Has 2 heapA 0 [97, 99] = none) := by decide +kernel

/-! ## 3. `Add` -/

theorem go_Add : GoSrc.New_Found = true → GoSrc.Trie_Add_Found = true →
    ∀ (heap : Heap) (root : Int) (t : T) (b : Bytes) (fuel : Nat),
      HWF heap root → Rep heap root t → b.length + 1 ≤ fuel →
      ∃ heap', GoSrc.Trie_Add fuel heap root b = some heap' ∧
        HWF heap' root ∧ Rep heap' root (add b t) := by
  intro hN hF heap root t b fuel hw hr hf
  obtain ⟨n, S, rfl, hg⟩ := good_of hw hr
  obtain ⟨heap', S', h1, h2, _⟩ := Add_eq hN hF fuel heap n t S b hg hf
  exact ⟨heap', h1, of_good h2⟩

/-- `Add` only allocates: the heap grows, no cell is freed or moved -/
theorem go_Add_grows : GoSrc.New_Found = true → GoSrc.Trie_Add_Found = true →
    ∀ (heap : Heap) (root : Int) (t : T) (b : Bytes) (fuel : Nat),
      HWF heap root → Rep heap root t → b.length + 1 ≤ fuel →
      ∃ heap', GoSrc.Trie_Add fuel heap root b = some heap' ∧ heap.length ≤ heap'.length := by
  intro hN hF heap root t b fuel hw hr hf
  obtain ⟨n, S, rfl, hg⟩ := good_of hw hr
  obtain ⟨heap', S', h1, _, h3⟩ := Add_eq hN hF fuel heap n t S b hg hf
  exact ⟨heap', h1, h3.len⟩

-- "acd" shares the prefix "ac": the walk goes down two existing edges, then allocates one cell
example : allFound = false ∨
    GoSrc.Trie_Add 4 heapA 0 [97, 99, 100]
      = some [[(97, 1), (98, 4)], [(98, 2), (99, 3)], [], [(100, 5)], [], []] := by decide +kernel
example : add [97, 99, 100] trieA
    = .cons 97 (.cons 98 .nil (.cons 99 (.cons 100 .nil .nil) .nil)) (.cons 98 .nil .nil) := by decide +kernel
-- adding a sequence that is already there (or the empty one) changes nothing
example : allFound = false ∨
    (GoSrc.Trie_Add 3 heapA 0 [97, 98] = some heapA ∧ GoSrc.Trie_Add 1 heapA 0 [] = some heapA) := by
  decide +kernel

/-! ## 4. `Delete` -/

theorem go_Delete : GoSrc.Trie_Delete_Found = true →
    ∀ (heap : Heap) (root : Int) (t : T) (b : Bytes), HWF heap root → Rep heap root t →
      (del b t = none → GoSrc.Trie_Delete heap root b = some (false, heap)) ∧
      (∀ t', del b t = some t' → ∃ heap', GoSrc.Trie_Delete heap root b = some (true, heap') ∧
        HWF heap' root ∧ Rep heap' root t') := by
  intro hF heap root t b hw hr
  obtain ⟨n, S, rfl, hg⟩ := good_of hw hr
  obtain ⟨r, h1, h2⟩ := Delete_eq hF heap n t S b hg
  refine ⟨fun hd => ?_, fun t' ht' => ?_⟩
  · rw [hd] at h2; rw [h1, h2]
  · rw [ht'] at h2
    obtain ⟨S', h3, h4, _⟩ := h2
    exact ⟨r.2, by rw [h1, ← h3], of_good h4⟩

/-- `Delete` neither allocates nor frees: the unreachable cells stay in the heap -/
theorem go_Delete_length : GoSrc.Trie_Delete_Found = true →
    ∀ (heap : Heap) (root : Int) (t : T) (b : Bytes), HWF heap root → Rep heap root t →
      ∃ flag heap', GoSrc.Trie_Delete heap root b = some (flag, heap') ∧ heap'.length = heap.length := by
  intro hF heap root t b hw hr
  obtain ⟨n, S, rfl, hg⟩ := good_of hw hr
  obtain ⟨r, h1, h2⟩ := Delete_eq hF heap n t S b hg
  refine ⟨r.1, r.2, h1, ?_⟩
  cases hd : del b t with
  | none => rw [hd] at h2; rw [h2]
  | some t' =>
    rw [hd] at h2
    obtain ⟨_, _, _, hlen, _⟩ := h2
    exact hlen

example : del [97, 99] trieA = some (.cons 97 (.cons 98 .nil .nil) (.cons 98 .nil .nil)) ∧
    del [97, 100] trieA = none := by decide +kernel

-- "ac": the edge is erased, node 1 keeps "b": stop
example : allFound = false ∨
    GoSrc.Trie_Delete heapA 0 [97, 99] = some (true, [[(97, 1), (98, 4)], [(98, 2)], [], [], []]) := by
  decide +kernel
-- absent: false, the heap is untouched
example : allFound = false ∨
    (GoSrc.Trie_Delete heapA 0 [97, 100] = some (false, heapA) ∧
     GoSrc.Trie_Delete heapA 0 [97, 98, 98] = some (false, heapA)) := by decide +kernel
-- the empty sequence: true, nothing changes
example : allFound = false ∨ GoSrc.Trie_Delete heapA 0 [] = some (true, heapA) := by decide +kernel
-- a prefix with a whole subtree below: one edge erased, the subtree becomes garbage
example : allFound = false ∨
    GoSrc.Trie_Delete heapA 0 [97] = some (true, [[(98, 4)], [(98, 2), (99, 3)], [], [], []]) := by
  decide +kernel

/-! ## 5. No panic -/

theorem go_no_panic : GoSrc.New_Found = true → GoSrc.Trie_Add_Found = true →
    GoSrc.Trie_Has_Found = true → GoSrc.Trie_Delete_Found = true →
    ∀ (heap : Heap) (root : Int) (b : Bytes) (fuel : Nat), HWF heap root → b.length + 1 ≤ fuel →
      (GoSrc.New heap).isSome = true ∧ (GoSrc.Trie_Has fuel heap root b).isSome = true ∧
      (GoSrc.Trie_Add fuel heap root b).isSome = true ∧ (GoSrc.Trie_Delete heap root b).isSome = true := by
  intro hN hA hH hD heap root b fuel hw hf
  obtain ⟨t, hr⟩ := rep_of_hwf hw
  refine ⟨by rw [New_eq hN]; rfl, by rw [go_Has hH heap root t b fuel hw hr hf]; rfl, ?_, ?_⟩
  · obtain ⟨heap', h1, _⟩ := go_Add hN hA heap root t b fuel hw hr hf
    rw [h1]; rfl
  · obtain ⟨flag, heap', h1, _⟩ := go_Delete_length hD heap root t b hw hr
    rw [h1]; rfl

-- without the invariant the code does panic: a nil root, a dangling child pointer
example : allFound = false ∨
    (GoSrc.Trie_Has 3 heapA (-1) [97] = none ∧ GoSrc.Trie_Add 3 [[(97, 7)]] 0 [97, 98] = none ∧
     GoSrc.Trie_Delete [[(97, 7)]] 0 [97, 98] = none) := by decide +kernel

/-! ## 6. One call against the specification (C15's sets of maximal sequences) -/

theorem go_Has_spec : GoSrc.Trie_Has_Found = true →
    ∀ (heap : Heap) (root : Int) (t : T) (x : Bytes) (fuel : Nat),
      HWF heap root → Rep heap root t → x.length + 1 ≤ fuel →
      ∃ r, GoSrc.Trie_Has fuel heap root x = some r ∧ (r = true ↔ specHas x (absSet t)) := by
  intro hF heap root t x fuel hw hr hf
  exact ⟨has x t, go_Has hF heap root t x fuel hw hr hf,
    C15_has_spec t x (go_noDupKeys heap root t hw hr)⟩

theorem go_Add_spec : GoSrc.New_Found = true → GoSrc.Trie_Add_Found = true →
    ∀ (heap : Heap) (root : Int) (t : T) (b : Bytes) (fuel : Nat),
      HWF heap root → Rep heap root t → b.length + 1 ≤ fuel →
      ∃ heap' t', GoSrc.Trie_Add fuel heap root b = some heap' ∧ HWF heap' root ∧
        Rep heap' root t' ∧ absSet t' = specAdd b (absSet t) := by
  intro hN hF heap root t b fuel hw hr hf
  obtain ⟨heap', h1, h2, h3⟩ := go_Add hN hF heap root t b fuel hw hr hf
  exact ⟨heap', add b t, h1, h2, h3, C15_add_spec b t (go_noDupKeys heap root t hw hr)⟩

theorem go_Delete_spec : GoSrc.Trie_Delete_Found = true →
    ∀ (heap : Heap) (root : Int) (t : T) (b : Bytes), HWF heap root → Rep heap root t → b ≠ [] →
      ∃ flag heap' t', GoSrc.Trie_Delete heap root b = some (flag, heap') ∧ HWF heap' root ∧
        Rep heap' root t' ∧ absSet t' = specDel b (absSet t) ∧
        (flag = true ↔ specDelFlag b (absSet t)) := by
  intro hF heap root t b hw hr hb
  have hnd := go_noDupKeys heap root t hw hr
  obtain ⟨d1, d2⟩ := go_Delete hF heap root t b hw hr
  obtain ⟨_, s2, s3⟩ := C15_step (.del b) t hnd
  simp only [specStep, specResult, if_neg hb] at s2 s3
  cases hd : del b t with
  | none =>
    simp only [step, hd] at s2 s3
    exact ⟨false, heap, t, d1 hd, hw, hr, s2, by simpa [Agrees] using s3⟩
  | some t' =>
    simp only [step, hd] at s2 s3
    obtain ⟨heap', h1, h2, h3⟩ := d2 t' hd
    exact ⟨true, heap', t', h1, h2, h3, s2, by simpa [Agrees] using s3⟩

example : HWF heapA 0 ∧ Rep heapA 0 trieA ∧ ([97, 99] : Bytes) ≠ [] :=
  ⟨heapA_ok.1, heapA_ok.2, by decide⟩

/-! ## 7. Every history -/

/-- For EVERY list of `Add` / `Delete` calls, on the trie returned by `New()` in the empty heap
(`goHistory`: all calls on the same root pointer, each on the heap the previous one left): no call
panics, the returned flags are exactly the model's `results`, and the final heap satisfies the
invariant and represents the model's final trie `run ops .nil`. -/
theorem go_history : GoSrc.New_Found = true → GoSrc.Trie_Add_Found = true →
    GoSrc.Trie_Delete_Found = true →
    ∀ (ops : List Op) (fuel : Nat), (∀ op ∈ ops, (opBytes op).length + 1 ≤ fuel) →
      ∃ heap', goHistory fuel ops = some (results ops .nil, heap', 0) ∧
        HWF heap' 0 ∧ Rep heap' 0 (run ops .nil) := by
  intro hN hA hD ops fuel hf
  obtain ⟨heap', S', h1, h2⟩ := goHistory_good hN hA hD fuel ops hf
  exact ⟨heap', h1, of_good h2⟩

/-- `go_history` from any invariant heap, not only from `New()` -/
theorem go_history_from : GoSrc.New_Found = true → GoSrc.Trie_Add_Found = true →
    GoSrc.Trie_Delete_Found = true →
    ∀ (heap : Heap) (root : Int) (t : T) (ops : List Op) (fuel : Nat),
      HWF heap root → Rep heap root t → (∀ op ∈ ops, (opBytes op).length + 1 ≤ fuel) →
      ∃ heap', goRun fuel ops (heap, root) = some (results ops t, heap') ∧
        HWF heap' root ∧ Rep heap' root (run ops t) := by
  intro hN hA hD heap root t ops fuel hw hr hf
  obtain ⟨n, S, rfl, hg⟩ := good_of hw hr
  obtain ⟨heap', S', h1, h2⟩ := goRun_good hN hA hD fuel ops heap n t S hg hf
  exact ⟨heap', h1, of_good h2⟩

/-- After any history `Has` on the final heap answers what the model answers on its final trie. -/
theorem go_history_has : GoSrc.New_Found = true → GoSrc.Trie_Add_Found = true →
    GoSrc.Trie_Has_Found = true → GoSrc.Trie_Delete_Found = true →
    ∀ (ops : List Op) (fuel : Nat), (∀ op ∈ ops, (opBytes op).length + 1 ≤ fuel) →
      ∃ heap', goHistory fuel ops = some (results ops .nil, heap', 0) ∧
        ∀ (x : Bytes) (fuel' : Nat), x.length + 1 ≤ fuel' →
          GoSrc.Trie_Has fuel' heap' 0 x = some (has x (run ops .nil)) := by
  intro hN hA hH hD ops fuel hf
  obtain ⟨heap', h1, h2, h3⟩ := go_history hN hA hD ops fuel hf
  exact ⟨heap', h1, fun x fuel' hx => go_Has hH heap' 0 _ x fuel' h2 h3 hx⟩

/-- `C15_reachable` for the source text: after any history from `New()` the heap is invariant, the
trie it holds stands for exactly the set the specification computes (`runSpec`: `specAdd` /
`specDel` from the empty set), that set is an antichain of non-empty sequences, and every flag
`Delete` returned was the specified one. -/
theorem go_reachable : GoSrc.New_Found = true → GoSrc.Trie_Add_Found = true →
    GoSrc.Trie_Delete_Found = true →
    ∀ (ops : List Op) (fuel : Nat), (∀ op ∈ ops, (opBytes op).length + 1 ≤ fuel) →
      ∃ flags heap' t, goHistory fuel ops = some (flags, heap', 0) ∧
        HWF heap' 0 ∧ Rep heap' 0 t ∧ NoDupKeys t ∧
        (∀ y, y ∈ abs t ↔ runSpec ops SSet.empty y) ∧
        IsAntichain (runSpec ops SSet.empty) ∧
        AgreeAll flags (specResults ops SSet.empty) := by
  intro hN hA hD ops fuel hf
  obtain ⟨heap', h1, h2, h3⟩ := go_history hN hA hD ops fuel hf
  obtain ⟨r1, r2, r3, r4⟩ := C15_reachable ops
  exact ⟨_, heap', _, h1, h2, h3, r1, r2, r3, r4⟩

/-- `C15_reachable_observe` for the source text: what `Has` answers after any history is the
specified observation — `x` is empty or a prefix of a member of the specified set. -/
theorem go_reachable_observe : GoSrc.New_Found = true → GoSrc.Trie_Add_Found = true →
    GoSrc.Trie_Has_Found = true → GoSrc.Trie_Delete_Found = true →
    ∀ (ops : List Op) (fuel : Nat), (∀ op ∈ ops, (opBytes op).length + 1 ≤ fuel) →
      ∃ flags heap', goHistory fuel ops = some (flags, heap', 0) ∧
        AgreeAll flags (specResults ops SSet.empty) ∧
        ∀ (x : Bytes) (fuel' : Nat), x.length + 1 ≤ fuel' →
          ∃ r, GoSrc.Trie_Has fuel' heap' 0 x = some r ∧
            (r = true ↔ specHas x (runSpec ops SSet.empty)) := by
  intro hN hA hH hD ops fuel hf
  obtain ⟨heap', h1, h2⟩ := go_history_has hN hA hH hD ops fuel hf
  obtain ⟨_, _, _, r4⟩ := C15_reachable ops
  obtain ⟨o1, _, _⟩ := C15_reachable_observe ops
  exact ⟨_, heap', h1, r4, fun x fuel' hx => ⟨_, h2 x fuel' hx, o1 x⟩⟩

/-! ## 8. A concrete history -/

/-- Add "abc", "abd", "ax" (shared prefixes "ab", "a"); Delete "abc" (node "ab" keeps "d": stop);
Delete "abd" (node "ab" becomes empty: the edge "b" of "a" goes too, "a" keeps "x": stop);
Delete "zz" (absent: false); Add "b"; Delete "ax" (prunes "x" and then "a", up to the root). -/
def opsEx : List Op :=
  [.add [97, 98, 99], .add [97, 98, 100], .add [97, 120], .del [97, 98, 99], .del [97, 98, 100],
   .del [122, 122], .add [98], .del [97, 120]]

example : ∀ op ∈ opsEx, (opBytes op).length + 1 ≤ 4 := by decide +kernel

-- the model
example : results opsEx .nil = [none, none, none, some true, some true, some false, none, some true] ∧
    run opsEx .nil = .cons 98 .nil .nil := by decide +kernel

-- the translated source, evaluated: the same flags; the cells 1 … 5 are garbage now
example : allFound = false ∨
    goHistory 4 opsEx = some ([none, none, none, some true, some true, some false, none, some true],
      [[(98, 6)], [], [], [], [], [], []], 0) := by decide +kernel

-- the heap after the three Adds, after Delete "abc", and after Delete "abd" (pruned one level up)
example : allFound = false ∨
    goHistory 4 (opsEx.take 3) = some ([none, none, none],
        [[(97, 1)], [(98, 2), (120, 5)], [(99, 3), (100, 4)], [], [], []], 0) := by decide +kernel
example : allFound = false ∨
    goHistory 4 (opsEx.take 4) = some ([none, none, none, some true],
        [[(97, 1)], [(98, 2), (120, 5)], [(100, 4)], [], [], []], 0) := by decide +kernel
example : allFound = false ∨
    goHistory 4 (opsEx.take 5) = some ([none, none, none, some true, some true],
        [[(97, 1)], [(120, 5)], [], [], [], []], 0) := by decide +kernel

-- `Has` before and after the two Deletes
example : allFound = false ∨
    ((List.map (GoSrc.Trie_Has 4 [[(97, 1)], [(98, 2), (120, 5)], [(99, 3), (100, 4)], [], [], []] 0)
        [[97, 98, 99], [97, 98], [97, 120], [97, 98, 101], [98], []])
      = [some true, some true, some true, some false, some false, some true] ∧
     (List.map (GoSrc.Trie_Has 4 [[(97, 1)], [(120, 5)], [], [], [], []] 0)
        [[97, 98, 99], [97, 98], [97, 120], [97, 98, 101], [98], []])
      = [some false, some false, some true, some false, some false, some true]) := by decide +kernel

-- an intermediate heap of the history satisfies the invariant (also a consequence of `go_history`)
example : HWF [[(97, 1)], [(98, 2), (120, 5)], [(100, 4)], [], [], []] 0 :=
  checkHWF_hwf (fuel := 8) (by decide)

example : allFound = false ∨ allFound = true := by decide +kernel

end Bio.Props.C15Go

/-
  The codec round-trip theorems of C03 / C05 / C11, instantiated with the concrete float-token
  recognisers the model driver runs against the Go code:
  `pf := FloatTok.samFloat` (SAM `f` tags), `pd := FloatTok.newickDist` (Newick distances).

  Every hypothesis about the float codec is replaced by a decidable canonicity condition on
  the tokens themselves (all defined in `Bio/Lemmas/FloatTok.lean`):
  * `Sam.WFCanon s`     : `Sam.WF` with the clause for an `F t` tag being `isCanonE t = true`
                          (`Sam.wfCanon_iff : WFCanon s ↔ WF samFloat s`);
  * `Newick.DistCanon d`: `d = none`, or `d = some t` with `isCanonG t = true`, `t ≠ "0"`,
                          `t ≠ "-0"`  (`Newick.distCanon_iff : DistCanon d ↔ DistOK newickDist d`);
  * the idempotence hypotheses `hpf` / `hpd` of C11 are proved (`hpf_samFloat`, `hpd_newickDist`).
-/
import Bio.Lemmas.FloatTok
import Bio.Props.C03
import Bio.Props.C05
import Bio.Props.C11
namespace Bio
open FloatTok

/-! ## Example data -/

/-- Tags `XF:f:1.5e+00`, `XI:f:-Inf`, `XN:f:NaN` (plus an `i` and a `Z` tag). -/
def FloatInst.exSam : Sam.Sam :=
  { qname := [114, 49], flag := 99, rname := [99, 104, 114], pos := 7, mapq := 60,
    cigar := [42], rnext := [61], pnext := 0, tlen := -3,
    seq := [65, 67], qual := [73, 34],
    tags := [([78, 77], .I 2),
             ([88, 70], .F [49, 46, 53, 101, 43, 48, 48]),
             ([88, 73], .F [45, 73, 110, 102]),
             ([88, 78], .F [78, 97, 78]),
             ([88, 90], .Z [58, 32, 58])] }

/-- `((A:2.5,b:1e-07):+Inf,c)r;` — distances `2.5`, `1e-07`, `+Inf`. -/
def FloatInst.exTree : Newick.Tree :=
  ⟨[114], none,
    .cons [] (some [43, 73, 110, 102])
      (.cons [65] (some [50, 46, 53]) .nil
        (.cons [98] (some [49, 101, 45, 48, 55]) .nil .nil))
      (.cons [99] none .nil .nil)⟩

theorem FloatInst.exSam_canon : Sam.WFCanon FloatInst.exSam := by decide +kernel
theorem FloatInst.exTree_canon : FloatInst.exTree.AllDist Newick.DistCanon := by decide +kernel

/-- The canonicity checks are not trivially true: non-canonical spellings are rejected. -/
example : isCanonE [49, 46, 53] = false ∧ isCanonE [49, 46, 53, 101, 43, 48] = false ∧
    isCanonE [49, 53, 101, 43, 48, 49] = false ∧ isCanonE [73, 110, 102] = false ∧
    isCanonG [46, 53] = false ∧ isCanonG [49, 101, 55] = false ∧ isCanonG [] = false ∧
    isCanonG [50, 46, 53, 32] = false := by decide +kernel

example : samFloat [49, 46, 53, 101, 43, 48, 48] = some [49, 46, 53, 101, 43, 48, 48] ∧
    samFloat [78, 97, 78] = some [78, 97, 78] ∧
    samFloat [45, 73, 110, 102] = some [45, 73, 110, 102] ∧
    newickDist [50, 46, 53] = some (some [50, 46, 53]) ∧
    newickDist [49, 101, 45, 48, 55] = some (some [49, 101, 45, 48, 55]) ∧
    newickDist [43, 73, 110, 102] = some (some [43, 73, 110, 102]) ∧
    newickDist [48] = some none ∧ newickDist [45, 48] = some none ∧
    newickDist [48, 46, 48] = some (some [48, 46, 48]) := by decide +kernel

/-! ## SAM -/

theorem sam_record_roundtrip_inst (s : Sam.Sam) (h : Sam.WFCanon s) :
    Sam.parseLine samFloat (splitOn TAB (Sam.encodeLine s)) = some s :=
  Sam.record_roundtrip samFloat s ((Sam.wfCanon_iff s).1 h)

example : Sam.WFCanon FloatInst.exSam := FloatInst.exSam_canon
example : Sam.parseLine samFloat (splitOn TAB (Sam.encodeLine FloatInst.exSam))
    = some FloatInst.exSam := sam_record_roundtrip_inst _ FloatInst.exSam_canon

theorem sam_file_roundtrip_inst (hs : List Bytes) (rs : List Sam.Sam)
    (hh : ∀ h ∈ hs, Sam.hdrOK h) (hr : ∀ s ∈ rs, Sam.WFCanon s) :
    Sam.decodeHeader samFloat ((hs ++ rs.map Sam.encodeLine).map (· ++ [10])).flatten =
      hs.map (fun h => Item.ok (Sam.Entry.hdr h)) ++
        rs.map (fun s => Item.ok (Sam.Entry.sam s)) ∧
    Sam.decode samFloat ((hs ++ rs.map Sam.encodeLine).map (· ++ [10])).flatten =
      rs.map Item.ok :=
  Sam.file_roundtrip samFloat hs rs hh (fun s hm => (Sam.wfCanon_iff s).1 (hr s hm))

example : (∀ h ∈ Sam.exHs, Sam.hdrOK h) ∧
    (∀ s ∈ [FloatInst.exSam, Sam.exSam2, FloatInst.exSam], Sam.WFCanon s) := by decide +kernel

/-- C11 for SAM with `hpf` discharged. -/
theorem sam_fixed_point_inst (x : Bytes) (s : Sam.Sam)
    (hm : Item.ok s ∈ Sam.decode samFloat x) (hc : Sam.Clean s) :
    Sam.decode samFloat (Sam.encode s) = [Item.ok s] ∧
    Sam.decodeHeader samFloat (Sam.encode s) = [Item.ok (Sam.Entry.sam s)] :=
  C11_sam_fixed_point samFloat hpf_samFloat x s hm hc

/-- The same with nothing asked of the `F` tokens: for an accepted record they are canonical,
hence clean. -/
theorem sam_fixed_point_inst' (x : Bytes) (s : Sam.Sam)
    (hm : Item.ok s ∈ Sam.decode samFloat x) (hc : Sam.CleanNF s) :
    Sam.decode samFloat (Sam.encode s) = [Item.ok s] ∧
    Sam.decodeHeader samFloat (Sam.encode s) = [Item.ok (Sam.Entry.sam s)] :=
  sam_fixed_point_inst x s hm (Sam.accepted_clean_samFloat .eof x s hm hc)

/-- Non-vacuity: the example record is delivered from its own line after a header line. -/
example :
    Item.ok FloatInst.exSam ∈
      Sam.decode samFloat ([64, 72, 68, 10] ++ Sam.encode FloatInst.exSam) ∧
    Sam.Clean FloatInst.exSam ∧ Sam.CleanNF FloatInst.exSam := by
  refine ⟨?_, by decide, by decide⟩
  have := (sam_file_roundtrip_inst [[64, 72, 68]] [FloatInst.exSam] (by decide)
    (by simpa using FloatInst.exSam_canon)).2
  have e : ([64, 72, 68, 10] : Bytes) ++ Sam.encode FloatInst.exSam =
      (([[64, 72, 68]] ++ [FloatInst.exSam].map Sam.encodeLine).map (· ++ [10])).flatten := by
    simp [Sam.encode, LF]
  rw [e, this]; simp

/-! ## Newick -/

theorem newick_tree_roundtrip_inst (qs : Bytes) (h : Newick.QS_OK qs) (t : Newick.Tree)
    (hd : t.AllDist Newick.DistCanon) (rest : Bytes) :
    Newick.readTree newickDist .eof (Newick.write qs t ++ rest) = Newick.ReadRes.tree t rest :=
  Newick.tree_roundtrip qs newickDist h t (Newick.allDist_canon hd) rest

example : Newick.QS_OK Newick.qsGo ∧ FloatInst.exTree.AllDist Newick.DistCanon :=
  ⟨by decide, FloatInst.exTree_canon⟩

-- "((A:2.5,b:1e-07):+Inf,c)r;"
example : Newick.write Newick.qsGo FloatInst.exTree =
    [40, 40, 65, 58, 50, 46, 53, 44, 98, 58, 49, 101, 45, 48, 55, 41, 58, 43, 73, 110, 102, 44,
      99, 41, 114, 59] := by decide +kernel

example : Newick.readTree newickDist .eof (Newick.write Newick.qsGo FloatInst.exTree ++ [13, 10])
    = Newick.ReadRes.tree FloatInst.exTree [13, 10] :=
  newick_tree_roundtrip_inst _ (by decide) _ FloatInst.exTree_canon _

theorem newick_trees_roundtrip_inst (qs : Bytes) (h : Newick.QS_OK qs)
    (pre : Bytes) (tws : List (Newick.Tree × Bytes))
    (hpre : ∀ b ∈ pre, Newick.isWS b = true)
    (hd : ∀ p ∈ tws, p.1.AllDist Newick.DistCanon)
    (hw : ∀ p ∈ tws, ∀ b ∈ p.2, Newick.isWS b = true) :
    Newick.decode newickDist (pre ++ tws.flatMap fun p => Newick.write qs p.1 ++ p.2) =
      tws.map fun p => Item.ok p.1 :=
  Newick.trees_roundtrip qs newickDist h pre tws hpre
    (fun p hp => Newick.allDist_canon (hd p hp)) hw

example :
    let tws : List (Newick.Tree × Bytes) :=
      [(FloatInst.exTree, [13, 10]), (⟨[], none, .nil⟩, []), (FloatInst.exTree, [10, 9, 32])]
    Newick.QS_OK Newick.qsGo ∧ (∀ b ∈ ([32, 10] : Bytes), Newick.isWS b = true) ∧
    (∀ p ∈ tws, p.1.AllDist Newick.DistCanon) ∧
    (∀ p ∈ tws, ∀ b ∈ p.2, Newick.isWS b = true) := by decide +kernel

/-- C11 for Newick with `hpd` discharged. -/
theorem newick_fixed_point_inst (qs : Bytes) (hq : Newick.QS_OK qs)
    (x : Bytes) (t : Newick.Tree) (hm : Item.ok t ∈ Newick.decode newickDist x) :
    Newick.decode newickDist (Newick.write qs t) = [Item.ok t] :=
  C11_newick_fixed_point qs newickDist hq hpd_newickDist x t hm

/-- Non-vacuity: the example tree is delivered from `" \n" ++ its text ++ "\r\n"`. -/
example :
    Newick.QS_OK Newick.qsGo ∧
    Item.ok FloatInst.exTree ∈
      Newick.decode newickDist
        ([32, 10] ++ Newick.write Newick.qsGo FloatInst.exTree ++ [13, 10]) := by
  refine ⟨by decide, ?_⟩
  have := newick_trees_roundtrip_inst Newick.qsGo (by decide) [32, 10]
    [(FloatInst.exTree, [13, 10])] (by decide) (by decide) (by decide)
  simp only [List.flatMap_cons, List.flatMap_nil, List.append_nil, List.map_cons,
    List.map_nil] at this
  rw [← List.append_assoc] at this
  rw [this]; simp

/-- A distance the reader turns into "no distance" (`0`) is not a fixed point *as text*, but
the delivered tree (distance `none`) is: `"a:0;"` is read as the tree `a`, written `"a;"`. -/
example : Newick.decode newickDist [97, 58, 48, 59] = [Item.ok ⟨[97], none, .nil⟩] := by
  decide +kernel

end Bio

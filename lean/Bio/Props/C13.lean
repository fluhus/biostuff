/-
  C13 — sequtil/sequtil.go: `Ntoi`, `Iton`, `DNATo2Bit`, `DNAFrom2Bit`.

  Table parameters: `ntoiTableOK tbl` (0/1/2/3 at aA/cC/gG/tT, -1 elsewhere)
  and `from2bitTableOK tbl2` (entry n = the four bases of n, most significant
  pair first); both are defined in `Bio/Lemmas/Sequtil.lean` as equality with a
  hand-written tabulation and discharged on the regenerated tables by
  `decide +kernel`.  `pack` (same file) is the specification of the packing:
  chunks of four bases, big-endian base 4, A=0 C=1 G=2 T=3, zero padding.
-/
import Bio.Lemmas.Sequtil
namespace Bio.Sequtil

/-- The `ntoi` table as a literal (for the non-vacuity examples). -/
def exNtoiTable : List Int :=
  ((((((((List.replicate 256 (-1 : Int)).set 65 0).set 97 0).set 67 1).set 99 1).set 71 2).set 103 2).set
    84 3).set 116 3

/-- The expansion table, built the way the Go `init` builds it. -/
def exFrom2bitTable : List Bytes :=
  (List.range 256).map fun i =>
    [iton ((i >>> 6 &&& 3 : Nat) : Int), iton ((i >>> 4 &&& 3 : Nat) : Int),
     iton ((i >>> 2 &&& 3 : Nat) : Int), iton ((i &&& 3 : Nat) : Int)]

theorem exNtoiTable_ok : ntoiTableOK exNtoiTable = true := by decide +kernel
theorem exFrom2bitTable_ok : from2bitTableOK exFrom2bitTable = true := by decide +kernel

example : ntoiTableOK exNtoiTable = true := exNtoiTable_ok
example : ntoiTableOK (exNtoiTable.set 78 0) = false := by decide +kernel
example : from2bitTableOK exFrom2bitTable = true := exFrom2bitTable_ok
example : from2bitTableOK (exFrom2bitTable.set 3 [65, 65, 65, 65]) = false := by decide +kernel

/-! ## 1. `DNATo2Bit` -/

/-- `⌈|s| / 4⌉` bytes. -/
theorem pack_length (s : Bytes) : (pack s).length = (s.length + 3) / 4 := by
  match s with
  | [] | [_] | [_, _] | [_, _, _] => simp [pack]
  | _ :: _ :: _ :: _ :: rest => simp only [pack, List.length_cons, pack_length rest]; omega

/-- First base in the most significant bits: "CGTA" packs to 0b01_10_11_00, "T" to 0b11_000000. -/
example : pack [67, 71, 84, 65] = [0x6C] ∧ pack [84] = [0xC0] ∧ pack [97, 99, 103, 116, 84] = [0x1B, 0xC0] := by
  decide

/-- The result is `dst` (untouched) followed by the packed sequence. -/
theorem to2bit_spec {tbl : List Int} (h : ntoiTableOK tbl = true) (dst s : Bytes)
    (hs : ∀ b ∈ s, isDNA b = true) : to2bit tbl dst s = some (dst ++ pack s) :=
  to2bitAux_aligned h dst.length s 0 dst (by omega) (by omega) hs

example : ntoiTableOK exNtoiTable = true ∧ (∀ b ∈ [97, 99, 103, 116, 84], isDNA b = true) := by
  exact ⟨exNtoiTable_ok, by decide⟩
example : to2bit exNtoiTable [9] [97, 99, 103, 116, 84] = some [9, 0x1B, 0xC0] := by
  rw [to2bit_spec exNtoiTable_ok _ _ (by decide)]; decide

theorem to2bit_panics {tbl : List Int} (h : ntoiTableOK tbl = true) (dst s : Bytes)
    (hb : ∃ b ∈ s, isDNA b = false) : to2bit tbl dst s = none :=
  to2bitAux_none h dst.length s 0 dst hb

example : ∃ b ∈ [65, 78, 67], isDNA b = false := by decide
example : to2bit exNtoiTable [] [65, 78, 67] = none :=
  to2bit_panics exNtoiTable_ok _ _ (by decide)

theorem to2bit_isSome_iff {tbl : List Int} (h : ntoiTableOK tbl = true) (dst s : Bytes) :
    (to2bit tbl dst s).isSome = true ↔ ∀ b ∈ s, isDNA b = true := by
  constructor
  · intro hsome b hb
    cases hd : isDNA b with
    | true => rfl
    | false => rw [to2bit_panics h dst s ⟨b, hb, hd⟩] at hsome; simp at hsome
  · intro hs; rw [to2bit_spec h dst s hs]; rfl

/-! ## 2. `DNAFrom2Bit` -/

theorem from2bit_append (tbl2 : List Bytes) (dst src : Bytes) :
    from2bit tbl2 dst src = dst ++ from2bit tbl2 [] src := by
  simp [from2bit]

/-- Four output bases per input byte, all in "ACGT". -/
theorem from2bit_spec {tbl2 : List Bytes} (h2 : from2bitTableOK tbl2 = true) (dst src : Bytes) :
    from2bit tbl2 dst src = dst ++ src.flatMap fun b => expand b.toNat := by
  rw [from2bit_append, from2bit_eq_flatMap h2]

theorem from2bit_pack {tbl2 : List Bytes} (h2 : from2bitTableOK tbl2 = true) (s : Bytes)
    (hs : ∀ b ∈ s, isDNA b = true) :
    from2bit tbl2 [] (pack s) = s.map upperBase ++ List.replicate ((4 - s.length % 4) % 4) 65 :=
  from2bit_pack_aux h2 s hs

example : from2bitTableOK exFrom2bitTable = true ∧ (∀ b ∈ [97, 99, 103, 116, 84], isDNA b = true) := by
  exact ⟨exFrom2bitTable_ok, by decide⟩
example : from2bit exFrom2bitTable [] (pack [97, 99, 103, 116, 84])
    = [65, 67, 71, 84, 84, 65, 65, 65] := by
  rw [from2bit_pack exFrom2bitTable_ok _ (by decide)]; decide

/-! ## 3. Round trip on every byte string -/

theorem to2bit_from2bit {tbl : List Int} {tbl2 : List Bytes} (h : ntoiTableOK tbl = true)
    (h2 : from2bitTableOK tbl2 = true) (p : Bytes) :
    to2bit tbl [] (from2bit tbl2 [] p) = some p := by
  rw [to2bit_spec h [] _ (from2bit_dna h2 p), from2bit_eq_flatMap h2, pack_flatMap_expand]
  rfl

example : to2bit exNtoiTable [] (from2bit exFrom2bitTable [] [0, 255, 27, 200]) = some [0, 255, 27, 200] :=
  to2bit_from2bit exNtoiTable_ok exFrom2bitTable_ok _

/-- And the other way: unpacking a packed DNA string gives it back upper-cased
and padded with `A` to a multiple of four. -/
theorem from2bit_to2bit {tbl : List Int} {tbl2 : List Bytes} (h : ntoiTableOK tbl = true)
    (h2 : from2bitTableOK tbl2 = true) (s : Bytes) (hs : ∀ b ∈ s, isDNA b = true) :
    (to2bit tbl [] s).map (from2bit tbl2 []) =
      some (s.map upperBase ++ List.replicate ((4 - s.length % 4) % 4) 65) := by
  rw [to2bit_spec h [] s hs]
  simp only [List.nil_append, Option.map_some, from2bit_pack h2 s hs]

/-! ## 4. `Ntoi` / `Iton` -/

theorem ntoi_spec {tbl : List Int} (h : ntoiTableOK tbl = true) (b : UInt8) :
    ntoi tbl b = stdNtoi b := ntoi_eq h b

/-- `Ntoi` is negative exactly off the alphabet `aAcCgGtT` (and then it is -1). -/
theorem ntoi_neg_iff {tbl : List Int} (h : ntoiTableOK tbl = true) (b : UInt8) :
    ntoi tbl b < 0 ↔ isDNA b = false := by
  rw [ntoi_eq h]
  have := stdNtoi_neg b
  cases hd : isDNA b <;> simp_all

theorem ntoi_iton {tbl : List Int} (h : ntoiTableOK tbl = true) (i : Int) (h0 : 0 ≤ i) (h4 : i < 4) :
    ntoi tbl (iton i) = i := by
  rw [ntoi_eq h]; exact stdNtoi_iton i h0 h4

theorem iton_ntoi {tbl : List Int} (h : ntoiTableOK tbl = true) (b : UInt8) (hb : isDNA b = true) :
    iton (ntoi tbl b) = upperBase b := by
  rw [ntoi_eq h]; exact iton_stdNtoi b hb

example : ntoi exNtoiTable (iton 2) = 2 := ntoi_iton exNtoiTable_ok 2 (by decide) (by decide)
example : isDNA 116 = true ∧ upperBase 116 = 84 := by decide
example : iton (ntoi exNtoiTable 116) = 84 := iton_ntoi exNtoiTable_ok 116 (by decide)

end Bio.Sequtil

/-
  Property C06 — the same records whatever the line terminators (LF or CR LF).

  The other clause of C06, "the decoded records do not depend on how the `io.Reader` chunks the
  stream", is a statement about Go's `bufio.Reader` / `bufio.Scanner` re-assembly of short reads.  The
  model decoders (`Bio/Model/*.lean`) are functions of the *whole* byte string, so it holds of them by
  construction; the modelled pull interface is treated in `Bio/Props/C06Bufio.lean`, the translated
  `File` wrappers in `C06FileGo` / `C06File2Go`, the Go runtime by the correspondence harness (every
  split offset on the real code).

  What is proved: for the writer's output `text` on well-formed records (the same `WF`
  predicates as C01–C05), `decode (crlf text) = decode text`, where `crlf` (defined in
  `Bio/Lemmas/Cross.lean`) replaces every LF byte by CR LF.  For Newick a blind byte
  substitution also rewrites LF bytes *inside quoted names*, which changes the names, so
  the terminator-only statement (`C06_newick_terminators`) is given for all trees and the
  `crlf` statement under the hypothesis that the written trees contain no LF.
-/
import Bio.Lemmas.CrossNewick
namespace Bio

/-- `crlf` is the byte substitution LF ↦ CR LF. -/
theorem C06_crlf_def (b : UInt8) (r : Bytes) :
    crlf [] = [] ∧ crlf (b :: r) = if b = 10 then 13 :: 10 :: crlf r else b :: crlf r :=
  ⟨rfl, rfl⟩

example : crlf [97, 10, 10, 13, 98, 10] = [97, 13, 10, 13, 10, 13, 98, 13, 10] := by decide

/-- The CRLF form of an LF-terminated file of LF-free lines is the CRLF-terminated file. -/
theorem C06_crlf_lfFile (ls : List Bytes) (h : ∀ l ∈ ls, (10 : UInt8) ∉ l) :
    crlf (lfFile ls) = crlfFile ls := crlf_lfFile ls h

example : ∀ l ∈ ([[97, 13], [], [98]] : List Bytes), (10 : UInt8) ∉ l := by decide

/-- General form for the line-based readers: `bufio.ScanLines` yields the same lines from the
LF and the CRLF form of a file whose lines are free of CR and LF. -/
theorem C06_scanLines_crlf (ls : List Bytes) (h : ∀ l ∈ ls, ∀ b ∈ l, b ≠ 10 ∧ b ≠ 13) :
    scanLines (crlf (lfFile ls)) = scanLines (lfFile ls) := scanLines_crlf_lfFile ls h

example : ∀ l ∈ ([[97, 9], [], [98]] : List Bytes), ∀ b ∈ l, b ≠ 10 ∧ b ≠ 13 := by decide

/-! ## FASTA -/

theorem C06_fasta (w : Nat) (hw : 0 < w) (rs : List Fasta.Fa) (h : ∀ r ∈ rs, Fasta.WF r) :
    Fasta.decode (crlf (Fasta.encodeAll w rs)) = Fasta.decode (Fasta.encodeAll w rs) := by
  rw [Fasta.decode_crlf w hw rs h, Fasta.roundtrip w hw rs h]

/-- Both are the records written. -/
theorem C06_fasta_records (w : Nat) (hw : 0 < w) (rs : List Fasta.Fa) (h : ∀ r ∈ rs, Fasta.WF r) :
    Fasta.decode (crlf (Fasta.encodeAll w rs)) = rs.map Item.ok := Fasta.decode_crlf w hw rs h

/-- Non-vacuity: width 3, a 7-byte sequence (three lines), an empty record. -/
example :
    (0 : Nat) < 3 ∧
    ∀ r ∈ ([⟨[115, 32, 49], [65, 67, 71, 84, 65, 67, 71]⟩, ⟨[], []⟩] : List Fasta.Fa), Fasta.WF r := by
  decide

example : crlf (Fasta.encodeAll 3 [⟨[115], [65, 67, 71, 84]⟩]) =
    [62, 115, 13, 10, 65, 67, 71, 13, 10, 84, 13, 10] := by
  simp [Fasta.encodeAll, Fasta.encode, Fasta.writeCalls, Fasta.wrap, crlf]

/-! ## FASTQ -/

theorem C06_fastq (rs : List Fastq.Fq) (h : ∀ r ∈ rs, Fastq.WF r) :
    Fastq.decode (crlf (Fastq.encodeAll rs)) = Fastq.decode (Fastq.encodeAll rs) :=
  Fastq.decodeSrc_crlf .eof rs h

theorem C06_fastq_records (rs : List Fastq.Fq) (h : ∀ r ∈ rs, Fastq.WF r) :
    Fastq.decode (crlf (Fastq.encodeAll rs)) = rs.map Item.ok := by
  rw [C06_fastq rs h, Fastq.roundtrip rs h]

example :
    ∀ r ∈ ([⟨[114, 32, 49], [65, 67, 71, 84], [43, 64, 73, 73]⟩, ⟨[], [], []⟩] : List Fastq.Fq),
      Fastq.WF r := by
  decide

/-! ## SAM (headers and records; both readers) -/

theorem C06_sam (pf : Bytes → Option Bytes) (hs : List Bytes) (rs : List Sam.Sam)
    (hh : ∀ h ∈ hs, Sam.hdrOK h) (hr : ∀ s ∈ rs, Sam.WF pf s) :
    Sam.decodeHeader pf (crlf ((hs ++ rs.map Sam.encodeLine).map (· ++ [10])).flatten) =
      Sam.decodeHeader pf ((hs ++ rs.map Sam.encodeLine).map (· ++ [10])).flatten ∧
    Sam.decode pf (crlf ((hs ++ rs.map Sam.encodeLine).map (· ++ [10])).flatten) =
      Sam.decode pf ((hs ++ rs.map Sam.encodeLine).map (· ++ [10])).flatten :=
  Sam.decode_crlf pf hs rs hh hr

/-- The file of `C06_sam` is what the writer produces: headers line by line, then
`encode` of every record. -/
theorem C06_sam_text (hs : List Bytes) (rs : List Sam.Sam) :
    ((hs ++ rs.map Sam.encodeLine).map (· ++ [10])).flatten =
      (hs.map (· ++ [10])).flatten ++ (rs.map Sam.encode).flatten := by
  simp only [List.map_append, List.flatten_append, List.map_map]
  rfl

example : (∀ h ∈ Sam.exHs, Sam.hdrOK h) ∧ (∀ s ∈ Sam.exRs, Sam.WF Sam.exPf s) :=
  ⟨Sam.exHs_ok, Sam.exRs_ok⟩

/-! ## BED -/

theorem C06_bed (N : Nat) (bs : List Bed.Bed) (h : ∀ b ∈ bs, Bed.WF N b) :
    Bed.decode (crlf (bs.map fun b => (Bed.encode b).getD []).flatten) =
      Bed.decode (bs.map fun b => (Bed.encode b).getD []).flatten := by
  rw [Bed.decode_crlf N bs h, Bed.file_roundtrip_encode N bs h]

theorem C06_bed_records (N : Nat) (bs : List Bed.Bed) (h : ∀ b ∈ bs, Bed.WF N b) :
    Bed.decode (crlf (bs.map fun b => (Bed.encode b).getD []).flatten) =
      bs.map (fun b => Item.ok (Bed.truncate N b)) := Bed.decode_crlf N bs h

example : ∀ b ∈ [Bed.ex12, Bed.ex12], Bed.WF 12 b := by decide
example : ∀ b ∈ [Bed.ex3, Bed.ex3], Bed.WF 3 b := by decide

/-! ## Newick -/

/-- Trees written one after another, each followed by LF or by CR LF: same trees.  (All
names, including names that contain LF bytes, which the writer quotes.) -/
theorem C06_newick_terminators (qs : Bytes) (pd : Bytes → Option Newick.Dist)
    (h : Newick.QS_OK qs) (ts : List Newick.Tree)
    (hd : ∀ t ∈ ts, t.AllDist (Newick.DistOK pd)) :
    Newick.decode pd (ts.flatMap fun t => Newick.write qs t ++ [13, 10]) =
      Newick.decode pd (ts.flatMap fun t => Newick.write qs t ++ [10]) := by
  rw [Newick.decode_sep qs pd h [13, 10] (by decide) ts hd,
    Newick.decode_sep qs pd h [10] (by decide) ts hd]

/-- The `crlf` form, for trees whose text contains no LF (i.e. no LF inside a quoted name). -/
theorem C06_newick (qs : Bytes) (pd : Bytes → Option Newick.Dist)
    (h : Newick.QS_OK qs) (ts : List Newick.Tree)
    (hd : ∀ t ∈ ts, t.AllDist (Newick.DistOK pd))
    (hlf : ∀ t ∈ ts, (10 : UInt8) ∉ Newick.write qs t) :
    Newick.decode pd (crlf (ts.flatMap fun t => Newick.write qs t ++ [10])) =
      Newick.decode pd (ts.flatMap fun t => Newick.write qs t ++ [10]) := by
  rw [Newick.crlf_trees qs ts hlf]
  exact C06_newick_terminators qs pd h ts hd

example : Newick.QS_OK Newick.qsGo ∧
    (∀ t ∈ [Newick.exTree, ⟨[97, 32, 98], none, .nil⟩],
      Newick.Tree.AllDist (Newick.DistOK Newick.pdEx) t) := by decide

/-- The same with the hypothesis on the trees rather than on their text: no name contains an
LF (`Tree.AllNames` is defined in `Bio/Lemmas/CrossNewick.lean`). -/
theorem C06_newick_names (qs : Bytes) (pd : Bytes → Option Newick.Dist)
    (h : Newick.QS_OK qs) (ts : List Newick.Tree)
    (hd : ∀ t ∈ ts, t.AllDist (Newick.DistOK pd))
    (hn : ∀ t ∈ ts, t.AllNames (fun n => (10 : UInt8) ∉ n)) :
    Newick.decode pd (crlf (ts.flatMap fun t => Newick.write qs t ++ [10])) =
      Newick.decode pd (ts.flatMap fun t => Newick.write qs t ++ [10]) :=
  C06_newick qs pd h ts hd (fun t ht => Newick.not_lf_write qs t (hn t ht)
    ⟨(hd t ht).1.clean, Newick.Forest.AllDist.mono (fun _ => Newick.DistOK.clean) _ (hd t ht).2⟩)

example : Newick.QS_OK Newick.qsGo ∧
    (∀ t ∈ [(⟨[97, 32, 39, 98], some [49], .cons [120, 13] none .nil .nil⟩ : Newick.Tree)],
      Newick.Tree.AllDist (Newick.DistOK Newick.pdEx) t ∧
      Newick.Tree.AllNames (fun n => (10 : UInt8) ∉ n) t) := by decide

example : Newick.QS_OK Newick.qsGo ∧
    (∀ t ∈ [(⟨[97, 32, 39, 98], some [49], .cons [120] none .nil .nil⟩ : Newick.Tree)],
      Newick.Tree.AllDist (Newick.DistOK Newick.pdEx) t ∧
      (10 : UInt8) ∉ Newick.write Newick.qsGo t) := by decide

/-- Why `hlf` is there: the name `"a\nb"` is written quoted, `'a\nb';`; the blind substitution
turns the LF inside the quotes into CR LF and the tree read back has the name `"a\r\nb"`. -/
example :
    Newick.decode Newick.pdEx (crlf (Newick.write Newick.qsGo ⟨[97, 10, 98], none, .nil⟩ ++ [10])) =
      [Item.ok ⟨[97, 13, 10, 98], none, .nil⟩] := by
  decide +kernel

end Bio

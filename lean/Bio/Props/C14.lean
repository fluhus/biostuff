/-
  C14 — sequtil/amino.go: `Translate`, `TranslateReadingFrames`, `AminoName`.

  Table parameters: `codonTableOK tbl` — the table (which lists every accepted
  raw triple, i.e. the 512 case variants) agrees with `stdCodon`, the standard
  genetic code (NCBI translation table 1) given by the string
  "FFLLSSSSYY**CC*WLLLLPPPPHHQQRRRRIIIMTTTTNNKKSSRRVVVVAAAADDEEGGGG" in TCAG
  order; `aminoTableOK tbl aminoAcids` — the accepted bytes of the name table
  are the symbols of `AminoAcids` in either case, all codes and names
  non-empty.  Both are defined in `Bio/Lemmas/Sequtil.lean` and discharged on
  the regenerated tables by `decide +kernel`.
-/
import Bio.Lemmas.Sequtil
namespace Bio.Sequtil

/-! ## Literal tables for the non-vacuity examples -/

/-- The 64 entries of `codonToAmino`, copied from amino.go. -/
def exCodons64 : CodonTable :=
  [((65, 65, 65), 75), ((65, 65, 67), 78), ((65, 65, 71), 75), ((65, 65, 84), 78),
   ((65, 67, 65), 84), ((65, 67, 67), 84), ((65, 67, 71), 84), ((65, 67, 84), 84),
   ((65, 71, 65), 82), ((65, 71, 67), 83), ((65, 71, 71), 82), ((65, 71, 84), 83),
   ((65, 84, 65), 73), ((65, 84, 67), 73), ((65, 84, 71), 77), ((65, 84, 84), 73),
   ((67, 65, 65), 81), ((67, 65, 67), 72), ((67, 65, 71), 81), ((67, 65, 84), 72),
   ((67, 67, 65), 80), ((67, 67, 67), 80), ((67, 67, 71), 80), ((67, 67, 84), 80),
   ((67, 71, 65), 82), ((67, 71, 67), 82), ((67, 71, 71), 82), ((67, 71, 84), 82),
   ((67, 84, 65), 76), ((67, 84, 67), 76), ((67, 84, 71), 76), ((67, 84, 84), 76),
   ((71, 65, 65), 69), ((71, 65, 67), 68), ((71, 65, 71), 69), ((71, 65, 84), 68),
   ((71, 67, 65), 65), ((71, 67, 67), 65), ((71, 67, 71), 65), ((71, 67, 84), 65),
   ((71, 71, 65), 71), ((71, 71, 67), 71), ((71, 71, 71), 71), ((71, 71, 84), 71),
   ((71, 84, 65), 86), ((71, 84, 67), 86), ((71, 84, 71), 86), ((71, 84, 84), 86),
   ((84, 65, 65), 42), ((84, 65, 67), 89), ((84, 65, 71), 42), ((84, 65, 84), 89),
   ((84, 67, 65), 83), ((84, 67, 67), 83), ((84, 67, 71), 83), ((84, 67, 84), 83),
   ((84, 71, 65), 42), ((84, 71, 67), 67), ((84, 71, 71), 87), ((84, 71, 84), 67),
   ((84, 84, 65), 76), ((84, 84, 67), 70), ((84, 84, 71), 76), ((84, 84, 84), 70)]

/-- All raw triples the Go code accepts: each base upper- or lower-case. -/
def exCodonTable : CodonTable :=
  exCodons64.flatMap fun e =>
    [e.1.1, e.1.1 + 32].flatMap fun a => [e.1.2.1, e.1.2.1 + 32].flatMap fun b =>
      [e.1.2.2, e.1.2.2 + 32].map fun c => ((a, b, c), e.2)

example : exCodonTable.length = 512 := by decide +kernel
theorem exCodonTable_ok : codonTableOK exCodonTable = true := by decide +kernel
/-- The predicate is not trivially true: a missing entry, a wrong letter, an extra entry. -/
example : codonTableOK (exCodonTable.drop 1) = false := by
  -- the dropped entry is AAA
  rw [Bool.eq_false_iff]
  exact fun h => absurd (codon_eq_std h 65 65 65) (by decide +kernel)
example : codonTableOK (((84, 71, 65), 87) :: exCodonTable) = false := by decide +kernel
example : codonTableOK (exCodonTable ++ [((78, 78, 78), 88)]) = false := by
  rw [Bool.eq_false_iff]
  exact fun h => absurd (codonTable_entry h (e := ((78, 78, 78), 88)) (by simp)) (by decide)

/-- `aminoToName` of amino.go (upper-case keys). -/
def exAminoUpper : List (UInt8 × Bytes × Bytes) :=
  [(65, [65, 108, 97], [65, 108, 97, 110, 105, 110, 101]),
   (66, [65, 115, 120], [65, 115, 112, 97, 114, 97, 103, 105, 110, 101]),
   (67, [67, 121, 115], [67, 121, 115, 116, 101, 105, 110, 101]),
   (68, [65, 115, 112], [65, 115, 112, 97, 114, 116, 105, 99]),
   (69, [71, 108, 117], [71, 108, 117, 116, 97, 109, 105, 99]),
   (70, [80, 104, 101], [80, 104, 101, 110, 121, 108, 97, 108, 97, 110, 105, 110, 101]),
   (71, [71, 108, 121], [71, 108, 121, 99, 105, 110, 101]),
   (72, [72, 105, 115], [72, 105, 115, 116, 105, 100, 105, 110, 101]),
   (73, [73, 108, 101], [73, 115, 111, 108, 101, 117, 99, 105, 110, 101]),
   (75, [76, 121, 115], [76, 121, 115, 105, 110, 101]),
   (76, [76, 101, 117], [76, 101, 117, 99, 105, 110, 101]),
   (77, [77, 101, 116], [77, 101, 116, 104, 105, 111, 110, 105, 110, 101]),
   (78, [65, 115, 110], [65, 115, 112, 97, 114, 97, 103, 105, 110, 101]),
   (80, [80, 114, 111], [80, 114, 111, 108, 105, 110, 101]),
   (81, [71, 108, 110], [71, 108, 117, 116, 97, 109, 105, 110, 101]),
   (82, [65, 114, 103], [65, 114, 103, 105, 110, 105, 110, 101]),
   (83, [83, 101, 114], [83, 101, 114, 105, 110, 101]),
   (84, [84, 104, 114], [84, 104, 114, 101, 111, 110, 105, 110, 101]),
   (86, [86, 97, 108], [86, 97, 108, 105, 110, 101]),
   (87, [84, 114, 112], [84, 114, 121, 112, 116, 111, 112, 104, 97, 110]),
   (88, [88], [65, 110, 121, 32, 99, 111, 100, 111, 110]),
   (89, [84, 121, 114], [84, 121, 114, 111, 115, 105, 110, 101]),
   (90, [71, 108, 120], [71, 108, 117, 116, 97, 109, 105, 110, 101]),
   (42, [42], [83, 116, 111, 112, 32, 99, 111, 100, 111, 110])]

/-- Every accepted raw byte: the keys and the lower-case forms of the letter keys. -/
def exAminoTable : List (UInt8 × Bytes × Bytes) :=
  exAminoUpper ++ (exAminoUpper.filter fun e => isUpper e.1).map fun e => (e.1 + 32, e.2)

/-- "ABCDEFGHIKLMNPQRSTVWXYZ*" -/
def exAminoAcids : Bytes :=
  [65, 66, 67, 68, 69, 70, 71, 72, 73, 75, 76, 77, 78, 80, 81, 82, 83, 84, 86, 87, 88, 89, 90, 42]

theorem exAminoTable_ok : aminoTableOK exAminoTable exAminoAcids = true :=
  aminoTableOK_of_fast (by decide +kernel)

example : aminoTableOK exAminoTable exAminoAcids = true := exAminoTable_ok
-- 'a' is missing; 'J' is accepted
example : aminoTableOK exAminoUpper exAminoAcids = false := aminoTableOK_false 97 (by decide) (by decide +kernel)
example : aminoTableOK ((74, [74], [74]) :: exAminoTable) exAminoAcids = false :=
  aminoTableOK_false 74 (by decide) (by decide +kernel)

/-! ## 1. The codon table is the standard genetic code -/

theorem codon_spec {tbl : CodonTable} (h : codonTableOK tbl = true) (a b c : UInt8) :
    codon tbl a b c = stdCodon a b c := codon_eq_std h a b c

/-- Accepted triples are exactly those over `aAcCgGtT` (8³ = 512 of them). -/
theorem codon_accepts_iff {tbl : CodonTable} (h : codonTableOK tbl = true) (a b c : UInt8) :
    (codon tbl a b c).isSome = (isDNA a && isDNA b && isDNA c) := by
  rw [codon_eq_std h, stdCodon_isSome]

/-- ATG = M, tga = *, TtT = F, GGN rejected. -/
example : stdCodon 65 84 71 = some 77 ∧ stdCodon 116 103 97 = some 42
    ∧ stdCodon 84 116 84 = some 70 ∧ stdCodon 71 71 78 = none := by decide

/-! ## 2. `Translate` -/

theorem translate_spec {tbl : CodonTable} (h : codonTableOK tbl = true) (dst src : Bytes) :
    translate tbl dst src =
      if src.length % 3 = 0 then
        ((codons src).mapM fun t => stdCodon t.1 t.2.1 t.2.2).map (dst ++ ·)
      else none := by
  rw [translate_eq]
  simp only [codon_eq_std h]

/-- "ATGtaa" → "M*" appended to dst. -/
example : translate exCodonTable [7] [65, 84, 71, 116, 97, 97] = some [7, 77, 42] := by
  rw [translate_spec exCodonTable_ok]; decide

/-- On DNA input of length divisible by 3: one standard letter per codon, after `dst`. -/
theorem translate_dna {tbl : CodonTable} (h : codonTableOK tbl = true) (dst src : Bytes)
    (hl : src.length % 3 = 0) (hs : ∀ b ∈ src, isDNA b = true) :
    translate tbl dst src = some (dst ++ (codons src).map stdAA) := by
  rw [translate_spec h, if_pos hl,
    mapM_some_of_forall (g := stdAA) (fun t ht => stdCodon_of_dna t (mem_codons_dna src hs t ht))]
  rfl

example : [65, 84, 71, 116, 97, 97].length % 3 = 0 ∧ ∀ b ∈ [65, 84, 71, 116, 97, 97], isDNA b = true := by
  decide

theorem translate_append (tbl : CodonTable) (dst x y : Bytes) (hx : x.length % 3 = 0) :
    translate tbl dst (x ++ y) = (translate tbl dst x).bind fun d => translate tbl d y :=
  translate_append_aux tbl x y dst hx

example : translate exCodonTable [] ([65, 84, 71] ++ [116, 97, 97])
    = (translate exCodonTable [] [65, 84, 71]).bind fun d => translate exCodonTable d [116, 97, 97] :=
  translate_append _ _ _ _ (by decide)

/-- One letter per codon. -/
theorem translate_length (tbl : CodonTable) (dst src r : Bytes)
    (h : translate tbl dst src = some r) : r.length = dst.length + src.length / 3 := by
  rw [translate_eq] at h
  split at h
  · obtain ⟨l, hl, rfl⟩ := Option.map_eq_some_iff.mp h
    have := congrArg List.length (mapM_eq_some_iff.mp hl)
    simp only [List.length_map, codons_length] at this
    rw [List.length_append, ← this]
  · cases h

/-- `dst` is untouched: the result is `dst` followed by the translation proper. -/
theorem translate_dst (tbl : CodonTable) (dst src : Bytes) :
    translate tbl dst src = (translate tbl [] src).map (dst ++ ·) := by
  rw [translate_eq, translate_eq]
  split
  · cases (codons src).mapM fun t => codon tbl t.1 t.2.1 t.2.2 <;> simp
  · rfl

/-- Panic exactly on a bad length or a triple the table rejects (any table). -/
theorem translate_none_iff (tbl : CodonTable) (dst src : Bytes) :
    translate tbl dst src = none ↔
      src.length % 3 ≠ 0 ∨ ∃ t ∈ codons src, codon tbl t.1 t.2.1 t.2.2 = none := by
  rw [translate_eq]
  split
  · rename_i hl
    simp only [Option.map_eq_none_iff, mapM_eq_none_iff, hl, ne_eq, not_true_eq_false, false_or]
  · rename_i hl
    simp [hl]

/-- With the standard table: defined exactly on DNA of length divisible by 3. -/
theorem translate_isSome_iff {tbl : CodonTable} (h : codonTableOK tbl = true) (dst src : Bytes) :
    (translate tbl dst src).isSome = true ↔ src.length % 3 = 0 ∧ ∀ b ∈ src, isDNA b = true := by
  constructor
  · intro hsome
    have hnn : ¬ translate tbl dst src = none := by
      intro hn; rw [hn] at hsome; simp at hsome
    rw [translate_none_iff] at hnn
    have hl : src.length % 3 = 0 := by
      apply Decidable.byContradiction; intro hc; exact hnn (Or.inl hc)
    refine ⟨hl, ?_⟩
    intro b hb
    cases hd : isDNA b with
    | true => rfl
    | false =>
      exfalso
      apply hnn
      right
      obtain ⟨t, ht, hbt⟩ := mem_codons_of_mem src hl b hb
      refine ⟨t, ht, ?_⟩
      have := stdCodon_isSome t.1 t.2.1 t.2.2
      rw [codon_eq_std h]
      cases hc : stdCodon t.1 t.2.1 t.2.2 with
      | none => rfl
      | some x =>
        rw [hc] at this
        rcases hbt with rfl | rfl | rfl <;> simp [hd] at this
  · rintro ⟨hl, hs⟩
    rw [translate_dna h dst src hl hs]; rfl

theorem translate_bad_length (tbl : CodonTable) (dst src : Bytes) (hl : src.length % 3 ≠ 0) :
    translate tbl dst src = none := (translate_none_iff tbl dst src).mpr (Or.inl hl)

theorem translate_bad_base {tbl : CodonTable} (h : codonTableOK tbl = true) (dst src : Bytes)
    (hb : ∃ b ∈ src, isDNA b = false) : translate tbl dst src = none := by
  cases ht : translate tbl dst src with
  | none => rfl
  | some r =>
    have := (translate_isSome_iff h dst src).mp (by rw [ht]; rfl)
    obtain ⟨b, hm, hd⟩ := hb
    rw [this.2 b hm] at hd
    cases hd

example : [65, 84].length % 3 ≠ 0 := by decide
example : translate exCodonTable [] [65, 84, 71, 65] = none := translate_bad_length _ _ _ (by decide)
example : ∃ b ∈ [65, 84, 71, 65, 78, 71], isDNA b = false := by decide
example : translate exCodonTable [] [65, 84, 71, 65, 78, 71] = none :=
  translate_bad_base exCodonTable_ok _ _ (by decide)

/-! ## 3. `TranslateReadingFrames` -/

/-- The three frames: offsets 0, 1, 2, each trimmed to a multiple of 3. -/
theorem frames_spec (tbl : CodonTable) (seq : Bytes) :
    frames tbl seq =
      [seq, seq.drop 1, seq.drop 2].mapM fun s => translate tbl [] (s.take (s.length / 3 * 3)) :=
  rfl

theorem frame_dna {tbl : CodonTable} (h : codonTableOK tbl = true) (s : Bytes)
    (hs : ∀ b ∈ s, isDNA b = true) : frame tbl s = some ((codons s).map stdAA) := by
  unfold frame
  rw [translate_dna h [] _ (take_length_mod3 s) (fun b hb => hs b (List.mem_of_mem_take hb)),
    codons_take]
  rfl

/-- Closed form on DNA input of EVERY length (including 0, 1, 2). -/
theorem frames_dna {tbl : CodonTable} (h : codonTableOK tbl = true) (seq : Bytes)
    (hs : ∀ b ∈ seq, isDNA b = true) :
    frames tbl seq = some [(codons seq).map stdAA, (codons (seq.drop 1)).map stdAA,
      (codons (seq.drop 2)).map stdAA] := by
  unfold frames
  simp only [List.mapM_cons, List.mapM_nil, frame_dna h seq hs,
    frame_dna h (seq.drop 1) (fun b hb => hs b (List.mem_of_mem_drop hb)),
    frame_dna h (seq.drop 2) (fun b hb => hs b (List.mem_of_mem_drop hb))]
  rfl

theorem frames_total {tbl : CodonTable} (h : codonTableOK tbl = true) (seq : Bytes)
    (hs : ∀ b ∈ seq, isDNA b = true) : (frames tbl seq).isSome = true := by
  rw [frames_dna h seq hs]; rfl

theorem frames_nil (tbl : CodonTable) : frames tbl [] = some [[], [], []] := by
  simp [frames, frame, translate]

theorem frames_one {tbl : CodonTable} (h : codonTableOK tbl = true) (a : UInt8)
    (ha : isDNA a = true) : frames tbl [a] = some [[], [], []] := by
  rw [frames_dna h [a] (by simpa using ha)]; rfl

example : ∀ b ∈ [65, 84, 71, 116, 97, 97, 67], isDNA b = true := by decide
/-- "ATGtaaC": frame 0 "M*", frame 1 "TGt aaC" = "CN", frame 2 "Gta" = "V". -/
example : frames exCodonTable [65, 84, 71, 116, 97, 97, 67] = some [[77, 42], [67, 78], [86]] := by
  rw [frames_dna exCodonTable_ok _ (by decide)]; decide
example : frames exCodonTable [71] = some [[], [], []] :=
  frames_one exCodonTable_ok 71 (by decide)

/-! ## 4. `AminoName` -/

/-- Accepted bytes: those whose upper-case form is a symbol of `AminoAcids`;
the answer does not depend on case; code and name are non-empty. -/
theorem aminoName_spec {tbl : List (UInt8 × Bytes × Bytes)} {aminoAcids : Bytes}
    (h : aminoTableOK tbl aminoAcids = true) (b : UInt8) :
    ((aminoName tbl b).isSome = true ↔ upperAZ b ∈ aminoAcids)
    ∧ aminoName tbl b = aminoName tbl (upperAZ b)
    ∧ ∀ r, aminoName tbl b = some r → r.1 ≠ [] ∧ r.2 ≠ [] := by
  have hb := aminoTableOK_byte h b
  refine ⟨by rw [hb.1]; simp, hb.2, fun r hr => ?_⟩
  have hne : (tbl.all fun e => !e.2.1.isEmpty && !e.2.2.isEmpty) = true := by
    simp only [aminoTableOK, Bool.and_eq_true] at h; exact h.1.2
  simpa using List.all_eq_true.mp hne _ (aminoName_some_mem hr)

/-- "A letter of `AminoAcids` in either case": every symbol is accepted, so is
the lower-case form of every letter symbol, and nothing else is. -/
theorem aminoName_accepts {tbl : List (UInt8 × Bytes × Bytes)} {aminoAcids : Bytes}
    (h : aminoTableOK tbl aminoAcids = true) :
    (∀ c ∈ aminoAcids, (aminoName tbl c).isSome = true
        ∧ (isUpper c = true → (aminoName tbl (c + 32)).isSome = true))
    ∧ ∀ b, (aminoName tbl b).isSome = true →
        b ∈ aminoAcids ∨ (97 ≤ b ∧ b ≤ 122 ∧ b - 32 ∈ aminoAcids) := by
  have hall : ∀ c ∈ aminoAcids, (isUpper c || c == 42) = true := by
    simp only [aminoTableOK, Bool.and_eq_true] at h
    exact List.all_eq_true.mp h.2
  constructor
  · intro c hc
    constructor
    · rw [(aminoName_spec h c).1, upperAZ_of_upper_or_star c (hall c hc)]; exact hc
    · intro hu
      rw [(aminoName_spec h (c + 32)).1, upperAZ_lower c hu]; exact hc
  · intro b hb
    rw [(aminoName_spec h b).1] at hb
    rcases upperAZ_cases b with he | ⟨h1, h2, he⟩
    · left; rwa [he] at hb
    · right; rw [he] at hb; exact ⟨h1, h2, hb⟩

/-- 'm' and 'M' give ("Met", "Methionine"); 'J' and '+' are rejected; '*' is accepted. -/
example : aminoName exAminoTable 109 = aminoName exAminoTable 77
    ∧ aminoName exAminoTable 77 = some ([77, 101, 116], [77, 101, 116, 104, 105, 111, 110, 105, 110, 101])
    ∧ aminoName exAminoTable 74 = none ∧ aminoName exAminoTable 43 = none
    ∧ (aminoName exAminoTable 42).isSome = true := by decide +kernel

end Bio.Sequtil

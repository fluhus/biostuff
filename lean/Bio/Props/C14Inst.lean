/-
  C14 for the tables regenerated from /repo: the accepted codon triples (all
  256^3 triples were tried) are exactly the 512 case variants of the 64 codons
  and map to NCBI translation table 1; the amino-acid name table.
-/
import Bio.Props.C14
import Bio.Generated.Tables
namespace Bio.Sequtil

theorem generated_codonTable_ok : codonTableOK Generated.codonTable = true := by decide +kernel

theorem generated_aminoTable_ok : aminoTableOK Generated.aminoTable Generated.aminoAcids = true :=
  aminoTableOK_of_fast (by decide +kernel)

theorem generated_codon_spec (a b c : UInt8) : codon Generated.codonTable a b c = stdCodon a b c :=
  codon_spec generated_codonTable_ok a b c

theorem generated_frames_total (seq : Bytes) (hs : ∀ b ∈ seq, isDNA b = true) :
    (frames Generated.codonTable seq).isSome = true :=
  frames_total generated_codonTable_ok seq hs

example : (∀ b ∈ ([97] : Bytes), isDNA b = true) := by decide

end Bio.Sequtil

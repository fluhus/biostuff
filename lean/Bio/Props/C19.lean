/-
  C19 — formats/newick/traverse.go: `PreOrder` / `PostOrder` (the explicit
  stack machine `trav`, run with fuel `2 * size + 1`) visit every node exactly
  once, in classic recursive pre- or post-order with children in order, and a
  consumer that returns `false` is never called again.
-/
import Bio.Lemmas.Traverse
namespace Bio.Newick

/-! ## 1. The consumer version (general statement) -/

/-- With any consumer `f`, the nodes handed over are the recursive order cut
right after the first node on which `f` returns `false`. -/
theorem traverse_log (pre : Bool) (f : Tree → Bool) (t : Tree) :
    traverse pre f t
      = takeThrough (fun x => !f x) (if pre then preRec t else postRec t) :=
  trav_start pre f t _ (by omega)

/-! ## 2. Uninterrupted run = recursive definition -/

theorem preOrder_eq (t : Tree) : preOrder t = preRec t := by
  simp [preOrder, traverse_log, takeThrough_false]

theorem postOrder_eq (t : Tree) : postOrder t = postRec t := by
  simp [postOrder, traverse_log, takeThrough_false]

/-! ## 3. Every node once; parent before (after) its descendants -/

/-- The sibling list as a list of trees. -/
def Forest.toList : Forest → List Tree
  | .nil => []
  | .cons n d k r => ⟨n, d, k⟩ :: Forest.toList r

theorem Forest.toList_eq_forestList (k : Forest) : Forest.toList k = GoRt.forestList k := by
  induction k with
  | nil => rfl
  | cons n d kk r _ ih => simp [Forest.toList, GoRt.forestList, ih]

/-- Pre-order: the node, then the pre-orders of its children, in order. -/
theorem preOrder_unfold (t : Tree) :
    preOrder t = t :: (Forest.toList t.kids).flatMap preOrder := by
  have h : (preOrder : Tree → List Tree) = preRec := funext preOrder_eq
  rw [h, Forest.toList_eq_forestList]; exact preRec_kidsOf t

/-- Post-order: the post-orders of the children, in order, then the node. -/
theorem postOrder_unfold (t : Tree) :
    postOrder t = (Forest.toList t.kids).flatMap postOrder ++ [t] := by
  have h : (postOrder : Tree → List Tree) = postRec := funext postOrder_eq
  rw [h, Forest.toList_eq_forestList]; exact postRec_kidsOf t

theorem preOrder_length (t : Tree) : (preOrder t).length = t.size := by
  rw [preOrder_eq, preRec_length]

theorem postOrder_length (t : Tree) : (postOrder t).length = t.size := by
  rw [postOrder_eq, postRec_length]

theorem preOrder_head (t : Tree) : (preOrder t).head? = some t := by
  rw [preOrder_eq]; rfl

theorem postOrder_last (t : Tree) : (postOrder t).getLast? = some t := by
  rw [postOrder_eq, postRec, List.getLast?_concat]

/-- Both orders hand out the same nodes the same number of times. -/
theorem preOrder_perm_postOrder (t : Tree) : (preOrder t).Perm (postOrder t) := by
  rw [preOrder_eq, postOrder_eq]
  exact preRec_perm_postRec t

/-- Summary: both iterations hand out exactly `size` nodes, the same nodes the
same number of times, the root first (pre) resp. last (post). -/
theorem each_once (t : Tree) :
    (preOrder t).length = t.size ∧ (postOrder t).length = t.size
      ∧ (preOrder t).Perm (postOrder t)
      ∧ (preOrder t).head? = some t ∧ (postOrder t).getLast? = some t :=
  ⟨preOrder_length t, postOrder_length t, preOrder_perm_postOrder t, preOrder_head t,
    postOrder_last t⟩

/-! ## Concrete instances -/

/-- `(( c, d ) a, b) r` -/
def exTree19 : Tree :=
  ⟨[114], none,
    .cons [97] none (.cons [99] none .nil (.cons [100] none .nil .nil))
      (.cons [98] none .nil .nil)⟩

example : (preOrder exTree19).map (·.name) = [[114], [97], [99], [100], [98]] := by decide +kernel
example : (postOrder exTree19).map (·.name) = [[99], [100], [97], [98], [114]] := by decide +kernel
example : exTree19.size = 5 := by decide +kernel
/-- A consumer that stops at node `c` sees `r a c` (pre) and just `c` (post). -/
example : (traverse true (fun x => x.name != [99]) exTree19).map (·.name)
    = [[114], [97], [99]] := by decide +kernel
example : (traverse false (fun x => x.name != [99]) exTree19).map (·.name) = [[99]] := by decide +kernel
example : (traverse false (fun x => x.name != [97]) exTree19).map (·.name)
    = [[99], [100], [97]] := by decide +kernel

end Bio.Newick

/-
  C02 for the Go SOURCE TEXT: `(*reader).read` of formats/fastq/fastq.go, as translated on every run
  into `Bio.Generated.GoSrc.fastq_read` (four `Scanner.Scan()` calls over the remaining tokens),
  iterated the way formats/fastq/iter.go does, computes the hand-written model `Fastq.fromLines` for
  EVERY token sequence and both endings — hence, on the `bufio.ScanLines` tokens of an input, the
  model decoder `Fastq.decodeSrc`, and the write → read round trip of `Bio.Props.C02` holds for the
  translated reader.  Guarded by the translator's `<f>_Found` flag (see `Bio.Lemmas.GoSrc`).
-/
import Bio.Lemmas.GoSrcReaders
import Bio.Props.C02
namespace Bio.Props.C02Go
open Bio Bio.GoRt Bio.Generated Bio.GoSrcLemmas

/-- every translator flag this file depends on; the non-vacuity examples below are stated as
`allFound = false ∨ …` so that a source the translator no longer recognises is not an alarm -/
def allFound : Bool := GoSrc.fastq_read_Found

/-- `(*reader).iter` of formats/fastq/iter.go over the translated `read`:
`for { fq, err := r.read(); if err != nil { if err != io.EOF { yield(nil, err) }; break }; yield(fq, nil) }`,
at most `fuel` calls.  It has no consumer and no panic result, which is all `go_decode` needs; the
translated closure `GoSrc.fastq_iter` with its consumer is the subject of `C18Go`. -/
def goDecode : Nat → Ending → List Bytes → List (Item Fastq.Fq)
  | 0, _, _ => []
  | fuel + 1, e, ls =>
    match GoSrc.fastq_read ls e with
    | none => [.err]                                               -- a panic (never: `go_read_total`)
    | some ((_, GoErr.eof), _) => []                               -- `break`
    | some ((_, GoErr.other), _) => [.err]                         -- `yield(nil, err); break`
    | some ((none, GoErr.nil), _) => [.err]                        -- `(nil, nil)` (never: `go_read`)
    | some ((some (n, s, q), GoErr.nil), rest) => .ok ⟨n, s, q⟩ :: goDecode fuel e rest   -- `yield(fq, nil)`

/-- One call of the translated `read`, on every token sequence:
* no tokens: `io.EOF` at a clean end of input, an error if the scanner failed;
* `'@'name, seq, '+'…, quals` with `len(quals) = len(seq)`: the record, and the tokens after it;
* anything else: no record and an error other than `io.EOF` (the tokens left unread are
  `(fastqStep e ls).2`: everything after the last token scanned). -/
theorem go_read : GoSrc.fastq_read_Found = true → ∀ (e : Ending),
    GoSrc.fastq_read [] e = some ((none, if e = .eof then GoErr.eof else GoErr.other), [])
    ∧ (∀ (name sq pl ql : Bytes) (rest : List Bytes), ql.length = sq.length →
        GoSrc.fastq_read ((64 :: name) :: sq :: (43 :: pl) :: ql :: rest) e
          = some ((some (name, sq, ql), GoErr.nil), rest))
    ∧ (∀ ls : List Bytes, ls ≠ [] →
        (¬ ∃ name sq pl ql rest, ls = (64 :: name) :: sq :: (43 :: pl) :: ql :: rest ∧ ql.length = sq.length) →
        GoSrc.fastq_read ls e = some ((none, GoErr.other), (fastqStep e ls).2)) :=
  fun hF e => ⟨fastq_read_nil hF e, fun name sq pl ql rest h => fastq_read_ok hF e name sq pl ql rest h,
    fun ls hne hbad => fastq_read_err hF e ls hne hbad⟩

/-- The translated `read` never panics. -/
theorem go_read_total : GoSrc.fastq_read_Found = true →
    ∀ (ls : List Bytes) (e : Ending), (GoSrc.fastq_read ls e).isSome = true :=
  fun hF ls e => by rw [fastq_read_spec hF]; rfl

example : allFound = false ∨ (GoSrc.fastq_read_Found = true) := by decide
-- "@r", "AC", "+x", "II", "@s": a record, one token left; a short quality line; a missing '@';
-- a group cut after the '+' line (clean end and failing scanner alike)
set_option synthInstance.maxSize 1024 in
example : allFound = false ∨ (
    GoSrc.fastq_read [[64, 114], [65, 67], [43, 120], [73, 73], [64, 115]] .eof
      = some ((some ([114], [65, 67], [73, 73]), GoErr.nil), [[64, 115]])
    ∧ GoSrc.fastq_read [[64, 114], [65, 67], [43], [73], [64, 115]] .eof = some ((none, GoErr.other), [[64, 115]])
    ∧ GoSrc.fastq_read [[114], [65, 67]] .eof = some ((none, GoErr.other), [[65, 67]])) := by decide +kernel
set_option synthInstance.maxSize 1024 in
example : allFound = false ∨ (
    GoSrc.fastq_read [[64, 114], [65, 67], [43]] .eof = some ((none, GoErr.other), [])
    ∧ GoSrc.fastq_read [[64, 114], [65, 67], [43]] .fail = some ((none, GoErr.other), [])
    ∧ GoSrc.fastq_read [] .eof = some ((none, GoErr.eof), [])
    ∧ GoSrc.fastq_read [] .fail = some ((none, GoErr.other), [])) := by decide +kernel

/-- The iterator over the translated reader IS the model's record reader: every token sequence,
both endings. -/
theorem go_decode : GoSrc.fastq_read_Found = true →
    ∀ (e : Ending) (ls : List Bytes), goDecode (ls.length + 1) e ls = Fastq.fromLines e ls := by
  intro hF e ls
  suffices h : ∀ (fuel : Nat) (ls : List Bytes), ls.length < fuel → goDecode fuel e ls = Fastq.fromLines e ls from
    h _ ls (Nat.lt_succ_self _)
  intro fuel
  induction fuel with
  | zero => intro ls hls; omega
  | succ fuel ih =>
    intro ls hls
    obtain ⟨r, err, ls', hr, hm⟩ := fastq_read_step hF e ls
    rw [goDecode, hr]
    cases err with
    | nil => obtain ⟨fq, hfq, hi, hlt⟩ := hm; cases hfq; rw [hi, ← ih ls' (by omega)]
    | eof => exact hm.symm
    | other => exact hm.symm

/-- … so on the `bufio.ScanLines` tokens of an input it is the model decoder. -/
theorem go_decode_src : GoSrc.fastq_read_Found = true →
    ∀ (e : Ending) (x : Bytes),
      goDecode ((scanLines x).length + 1) e (scanLines x) = Fastq.decodeSrc e x :=
  fun hF e x => go_decode hF e (scanLines x)

example : allFound = false ∨ (GoSrc.fastq_read_Found = true) := by decide
-- two records; a failing scanner adds an error; a bad '+' line stops the iteration
example : allFound = false ∨ (
    goDecode 9 .eof [[64, 114], [65, 67], [43], [73, 73], [64], [], [43, 64], []]
      = [.ok ⟨[114], [65, 67], [73, 73]⟩, .ok ⟨[], [], []⟩]
    ∧ goDecode 9 .fail [[64, 114], [65, 67], [43], [73, 73], [64], [], [43, 64], []]
      = [.ok ⟨[114], [65, 67], [73, 73]⟩, .ok ⟨[], [], []⟩, .err]
    ∧ goDecode 9 .eof [[64, 114], [65, 67], [45], [73, 73], [64], [], [43], []]
      = [.err]) := by decide +kernel

/-- Write then read with the translated reader returns the records: every record count, every
length, every content in the domain of C02. -/
theorem go_roundtrip : GoSrc.fastq_read_Found = true →
    ∀ (rs : List Fastq.Fq), (∀ r ∈ rs, Fastq.WF r) →
      goDecode ((scanLines (Fastq.encodeAll rs)).length + 1) .eof (scanLines (Fastq.encodeAll rs))
        = rs.map Item.ok := by
  intro hF rs h
  rw [go_decode_src hF]
  exact Fastq.roundtrip rs h

/-- Non-vacuity: the flag and records in the domain (names with spaces / `'@'` / `'+'`, a quality
line starting with `'+'` and one starting with `'@'`, an empty read). -/
example : allFound = false ∨ (GoSrc.fastq_read_Found = true ∧
    ∀ r ∈ ([⟨[114, 32, 49], [65, 67, 71, 84], [43, 64, 73, 73]⟩, ⟨[], [], []⟩,
            ⟨[64, 43], [78], [64]⟩] : List Fastq.Fq), Fastq.WF r) := by decide

end Bio.Props.C02Go

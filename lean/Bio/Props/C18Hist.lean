/-
  C18 for a consumer that may KEEP STATE — "when the consumer stops ranging at
  ANY position, the iterator makes no further call to it, and what was seen before
  is a prefix of the uninterrupted run" — for the hand-written models.

  `Bio.Props.C18` / `Bio.Props.C18Readers` prove `log f = takeThrough (!f ·) full`
  for a PURE consumer `f : α → Bool` (a function of the current item only).  Such
  a consumer cannot say "stop at the 2nd item" when the first two items are equal.
  `Bio/Model/IterReadersH.lean` transcribes the SAME Go loops once more with a
  HISTORY consumer `h : List α → Bool`, asked about the list of all items handed
  to it so far (the current one last).  Proved here, for every reader, every
  input, both endings of the byte source and EVERY history consumer:

      log with consumer h  =  takeThroughH h [] (items of an uninterrupted run)

  where the items of the uninterrupted run are the item lists of the
  decoder models (`X.decodeSrc`), and for the three explicit-stack iterators
  (newick `traverse`, trie `ForEach`, sequtil `CanonicalSubsequences`) the lists
  of `Bio.Props.C18`.  Corollaries for each: (a) the log is a prefix of the
  uninterrupted run, (b) every answer but the last was `true`, (c) an item after
  which the consumer said stop is the last one, (d) BRIDGE: with the stateless
  consumer `lastH f` the history model equals the pure model of `Bio/Model/IterReaders.lean` — which is
  the one the driver executes against the Go code.
-/
import Bio.Lemmas.IterH
import Bio.Props.C18Readers

namespace Bio.Props.C18Hist
open Bio Bio.Iter Bio.IterH Bio.GoRt Bio.GoSrcLemmas

/-! ## 0. `takeThroughH`, and the generic form of the corollaries

`takeThroughH h acc xs` (`Bio/Model/GoRt.lean`): the items of `xs` handed over,
after `acc` already was, until `h` first says stop (that item included);
`lastH f` judges the last item of the history by `f`. -/

/-- For ANY iterator with the history law for `L`: (a) ∧ (b) ∧ (c). -/
theorem law_early_stop {α : Type} (it : SeqH α) (L : List α) (hl : TakeThroughLawH it L)
    (h : List α → Bool) :
    it h <+: L
    ∧ (∀ i, i + 1 < (it h).length → h ((it h).take (i + 1)) = true)
    ∧ (∀ i, i < (it h).length → h ((it h).take (i + 1)) = false → i + 1 = (it h).length) := by
  rw [hl h]
  exact ⟨takeThroughH_prefix h L, takeThroughH_go_on h L, takeThroughH_stop h L⟩

/-- (d) for ANY pair of iterators with the history law resp. the pure law for the same `L`. -/
theorem law_bridge {α : Type} (it : SeqH α) (it0 : Seq α) (L : List α)
    (hl : TakeThroughLawH it L) (hl0 : TakeThroughLaw it0 L) (f : α → Bool) :
    it (lastH f) = it0 f := by
  rw [hl, hl0, takeThroughH_lastH]

/-- A consumer that never stops sees the whole run. -/
theorem law_all {α : Type} (it : SeqH α) (L : List α) (hl : TakeThroughLawH it L) :
    it (fun _ => true) = L := by
  rw [hl]; exact takeThroughH_true L []

-- instances of the hypotheses: the law itself, and an answer `false` inside the log
example : TakeThroughLawH (fun h => takeThroughH h [] [7, 7, 7, 7]) [7, 7, 7, 7] := fun _ => rfl
example : TakeThroughLaw (fun f => takeThrough (fun x => !f x) [7, 7, 7, 7]) [7, 7, 7, 7] :=
  fun _ => rfl
example : (fun h => takeThroughH h [] [7, 7, 7, 7]) (fun l : List Nat => l.length < 2) = [7, 7] := by
  decide
example : (1 : Nat) < ([7, 7] : List Nat).length
    ∧ (fun l : List Nat => decide (l.length < 2)) (([7, 7] : List Nat).take (1 + 1)) = false := by
  decide

/-! ## 1. The readers: `XH … h = takeThroughH h [] (X.decodeSrc …)` -/

/-- fasta `newReader(r).iter()`: the log with the history consumer `h`. -/
theorem fastaIterH_log (e : Ending) (x : Bytes) (h : List (Item Fasta.Fa) → Bool) :
    fastaIterH e x h = takeThroughH h [] (Fasta.decodeSrc e x) :=
  fastaIterH_law e x h

/-- (a) prefix of the uninterrupted run; (b) every answer but the last was `true`;
(c) an item after which the consumer said stop is the last one handed over. -/
theorem fastaIterH_early_stop (e : Ending) (x : Bytes) (h : List (Item Fasta.Fa) → Bool) :
    fastaIterH e x h <+: Fasta.decodeSrc e x
    ∧ (∀ i, i + 1 < (fastaIterH e x h).length → h ((fastaIterH e x h).take (i + 1)) = true)
    ∧ (∀ i, i < (fastaIterH e x h).length → h ((fastaIterH e x h).take (i + 1)) = false →
        i + 1 = (fastaIterH e x h).length) :=
  law_early_stop _ _ (fastaIterH_law e x) h

/-- (d) with a consumer without state the history model IS the pure model. -/
theorem fastaIterH_bridge (e : Ending) (x : Bytes) (f : Item Fasta.Fa → Bool) :
    fastaIterH e x (lastH f) = fastaIter e x f :=
  law_bridge _ _ _ (fastaIterH_law e x) (fastaIter_law e x) f

/-- `fasta.Reader`: the log with the history consumer `h`. -/
theorem fastaReaderH_log (e : Ending) (x : Bytes) (h : List (Item Fasta.Fa) → Bool) :
    fastaReaderH e x h = takeThroughH h [] (Fasta.decodeSrc e x) :=
  fastaReaderH_law e x h

/-- (a) prefix of the uninterrupted run; (b) every answer but the last was `true`;
(c) an item after which the consumer said stop is the last one handed over. -/
theorem fastaReaderH_early_stop (e : Ending) (x : Bytes) (h : List (Item Fasta.Fa) → Bool) :
    fastaReaderH e x h <+: Fasta.decodeSrc e x
    ∧ (∀ i, i + 1 < (fastaReaderH e x h).length → h ((fastaReaderH e x h).take (i + 1)) = true)
    ∧ (∀ i, i < (fastaReaderH e x h).length → h ((fastaReaderH e x h).take (i + 1)) = false →
        i + 1 = (fastaReaderH e x h).length) :=
  law_early_stop _ _ (fastaReaderH_law e x) h

/-- (d) with a consumer without state the history model IS the pure model. -/
theorem fastaReaderH_bridge (e : Ending) (x : Bytes) (f : Item Fasta.Fa → Bool) :
    fastaReaderH e x (lastH f) = fastaReader e x f :=
  law_bridge _ _ _ (fastaReaderH_law e x) (readerFasta_log e x) f

/-- fastq `newReader(r).iter()`: the log with the history consumer `h`. -/
theorem fastqIterH_log (e : Ending) (x : Bytes) (h : List (Item Fastq.Fq) → Bool) :
    fastqIterH e x h = takeThroughH h [] (Fastq.decodeSrc e x) :=
  fastqIterH_law e x h

/-- (a) prefix of the uninterrupted run; (b) every answer but the last was `true`;
(c) an item after which the consumer said stop is the last one handed over. -/
theorem fastqIterH_early_stop (e : Ending) (x : Bytes) (h : List (Item Fastq.Fq) → Bool) :
    fastqIterH e x h <+: Fastq.decodeSrc e x
    ∧ (∀ i, i + 1 < (fastqIterH e x h).length → h ((fastqIterH e x h).take (i + 1)) = true)
    ∧ (∀ i, i < (fastqIterH e x h).length → h ((fastqIterH e x h).take (i + 1)) = false →
        i + 1 = (fastqIterH e x h).length) :=
  law_early_stop _ _ (fastqIterH_law e x) h

/-- (d) with a consumer without state the history model IS the pure model. -/
theorem fastqIterH_bridge (e : Ending) (x : Bytes) (f : Item Fastq.Fq → Bool) :
    fastqIterH e x (lastH f) = fastqIter e x f :=
  law_bridge _ _ _ (fastqIterH_law e x) (fastqIter_law e x) f

/-- `fastq.Reader`: the log with the history consumer `h`. -/
theorem fastqReaderH_log (e : Ending) (x : Bytes) (h : List (Item Fastq.Fq) → Bool) :
    fastqReaderH e x h = takeThroughH h [] (Fastq.decodeSrc e x) :=
  fastqReaderH_law e x h

/-- (a) prefix of the uninterrupted run; (b) every answer but the last was `true`;
(c) an item after which the consumer said stop is the last one handed over. -/
theorem fastqReaderH_early_stop (e : Ending) (x : Bytes) (h : List (Item Fastq.Fq) → Bool) :
    fastqReaderH e x h <+: Fastq.decodeSrc e x
    ∧ (∀ i, i + 1 < (fastqReaderH e x h).length → h ((fastqReaderH e x h).take (i + 1)) = true)
    ∧ (∀ i, i < (fastqReaderH e x h).length → h ((fastqReaderH e x h).take (i + 1)) = false →
        i + 1 = (fastqReaderH e x h).length) :=
  law_early_stop _ _ (fastqReaderH_law e x) h

/-- (d) with a consumer without state the history model IS the pure model. -/
theorem fastqReaderH_bridge (e : Ending) (x : Bytes) (f : Item Fastq.Fq → Bool) :
    fastqReaderH e x (lastH f) = fastqReader e x f :=
  law_bridge _ _ _ (fastqReaderH_law e x) (readerFastq_log e x) f

/-- `sam.ReaderHeader`: a line that does not parse is an ordinary item: the log with the history consumer `h`. -/
theorem samReaderHeaderH_log (pf : Bytes → Option Bytes) (e : Ending) (x : Bytes) (h : List (Item Sam.Entry) → Bool) :
    samReaderHeaderH pf e x h = takeThroughH h [] (Sam.decodeHeaderSrc pf e x) :=
  samReaderHeaderH_law pf e x h

/-- (a) prefix of the uninterrupted run; (b) every answer but the last was `true`;
(c) an item after which the consumer said stop is the last one handed over. -/
theorem samReaderHeaderH_early_stop (pf : Bytes → Option Bytes) (e : Ending) (x : Bytes) (h : List (Item Sam.Entry) → Bool) :
    samReaderHeaderH pf e x h <+: Sam.decodeHeaderSrc pf e x
    ∧ (∀ i, i + 1 < (samReaderHeaderH pf e x h).length → h ((samReaderHeaderH pf e x h).take (i + 1)) = true)
    ∧ (∀ i, i < (samReaderHeaderH pf e x h).length → h ((samReaderHeaderH pf e x h).take (i + 1)) = false →
        i + 1 = (samReaderHeaderH pf e x h).length) :=
  law_early_stop _ _ (samReaderHeaderH_law pf e x) h

/-- (d) with a consumer without state the history model IS the pure model. -/
theorem samReaderHeaderH_bridge (pf : Bytes → Option Bytes) (e : Ending) (x : Bytes) (f : Item Sam.Entry → Bool) :
    samReaderHeaderH pf e x (lastH f) = samReaderHeader pf e x f :=
  law_bridge _ _ _ (samReaderHeaderH_law pf e x) (readerHeaderSam_log pf e x) f

/-- `sam.Reader`: `h` is the consumer of `Reader`; its history holds what `Reader` yielded — no headers: the log with the history consumer `h`. -/
theorem samReaderH_log (pf : Bytes → Option Bytes) (e : Ending) (x : Bytes) (h : List (Item Sam.Sam) → Bool) :
    samReaderH pf e x h = takeThroughH h [] (Sam.decodeSrc pf e x) :=
  samReaderH_law pf e x h

/-- (a) prefix of the uninterrupted run; (b) every answer but the last was `true`;
(c) an item after which the consumer said stop is the last one handed over. -/
theorem samReaderH_early_stop (pf : Bytes → Option Bytes) (e : Ending) (x : Bytes) (h : List (Item Sam.Sam) → Bool) :
    samReaderH pf e x h <+: Sam.decodeSrc pf e x
    ∧ (∀ i, i + 1 < (samReaderH pf e x h).length → h ((samReaderH pf e x h).take (i + 1)) = true)
    ∧ (∀ i, i < (samReaderH pf e x h).length → h ((samReaderH pf e x h).take (i + 1)) = false →
        i + 1 = (samReaderH pf e x h).length) :=
  law_early_stop _ _ (samReaderH_law pf e x) h

/-- (d) with a consumer without state the history model IS the pure model. -/
theorem samReaderH_bridge (pf : Bytes → Option Bytes) (e : Ending) (x : Bytes) (f : Item Sam.Sam → Bool) :
    samReaderH pf e x (lastH f) = samReader pf e x f :=
  law_bridge _ _ _ (samReaderH_law pf e x) (readerSam_log pf e x) f

/-- `bed.Reader`: the log with the history consumer `h`. -/
theorem bedReaderH_log (e : Ending) (x : Bytes) (h : List (Item Bed.Bed) → Bool) :
    bedReaderH e x h = takeThroughH h [] (Bed.decodeSrc e x) :=
  bedReaderH_law e x h

/-- (a) prefix of the uninterrupted run; (b) every answer but the last was `true`;
(c) an item after which the consumer said stop is the last one handed over. -/
theorem bedReaderH_early_stop (e : Ending) (x : Bytes) (h : List (Item Bed.Bed) → Bool) :
    bedReaderH e x h <+: Bed.decodeSrc e x
    ∧ (∀ i, i + 1 < (bedReaderH e x h).length → h ((bedReaderH e x h).take (i + 1)) = true)
    ∧ (∀ i, i < (bedReaderH e x h).length → h ((bedReaderH e x h).take (i + 1)) = false →
        i + 1 = (bedReaderH e x h).length) :=
  law_early_stop _ _ (bedReaderH_law e x) h

/-- (d) with a consumer without state the history model IS the pure model. -/
theorem bedReaderH_bridge (e : Ending) (x : Bytes) (f : Item Bed.Bed → Bool) :
    bedReaderH e x (lastH f) = bedReader e x f :=
  law_bridge _ _ _ (bedReaderH_law e x) (readerBed_log e x) f

/-- `newick.Reader`: the log with the history consumer `h`. -/
theorem newickReaderH_log (pd : Bytes → Option Newick.Dist) (e : Ending) (x : Bytes) (h : List (Item Newick.Tree) → Bool) :
    newickReaderH pd e x h = takeThroughH h [] (Newick.decodeSrc pd e x) :=
  newickReaderH_law pd e x h

/-- (a) prefix of the uninterrupted run; (b) every answer but the last was `true`;
(c) an item after which the consumer said stop is the last one handed over. -/
theorem newickReaderH_early_stop (pd : Bytes → Option Newick.Dist) (e : Ending) (x : Bytes) (h : List (Item Newick.Tree) → Bool) :
    newickReaderH pd e x h <+: Newick.decodeSrc pd e x
    ∧ (∀ i, i + 1 < (newickReaderH pd e x h).length → h ((newickReaderH pd e x h).take (i + 1)) = true)
    ∧ (∀ i, i < (newickReaderH pd e x h).length → h ((newickReaderH pd e x h).take (i + 1)) = false →
        i + 1 = (newickReaderH pd e x h).length) :=
  law_early_stop _ _ (newickReaderH_law pd e x) h

/-- (d) with a consumer without state the history model IS the pure model. -/
theorem newickReaderH_bridge (pd : Bytes → Option Newick.Dist) (e : Ending) (x : Bytes) (f : Item Newick.Tree → Bool) :
    newickReaderH pd e x (lastH f) = newickReader pd e x f :=
  law_bridge _ _ _ (newickReaderH_law pd e x) (readerNewick_log pd e x) f

/-! ### The `File` functions (`none` = the path cannot be opened) -/

/-- `fasta.File`. -/
theorem fastaFileH_log (o : Option Input) (h : List (Item Fasta.Fa) → Bool) :
    fastaFileH o h = takeThroughH h [] (match o with | none => [.err] | some i => Fasta.decodeSrc i.1 i.2) :=
  fastaFileH_law _ h

theorem fastaFileH_early_stop (o : Option Input) (h : List (Item Fasta.Fa) → Bool) :
    fastaFileH o h <+: (match o with | none => [.err] | some i => Fasta.decodeSrc i.1 i.2)
    ∧ (∀ i, i + 1 < (fastaFileH o h).length → h ((fastaFileH o h).take (i + 1)) = true)
    ∧ (∀ i, i < (fastaFileH o h).length → h ((fastaFileH o h).take (i + 1)) = false →
        i + 1 = (fastaFileH o h).length) :=
  law_early_stop _ _ (fastaFileH_law _) h

theorem fastaFileH_bridge (o : Option Input) (f : Item Fasta.Fa → Bool) :
    fastaFileH o (lastH f) = fastaFile o f :=
  law_bridge _ _ _ (fastaFileH_law _) (fileFasta_log _) f

/-- `fastq.File`. -/
theorem fastqFileH_log (o : Option Input) (h : List (Item Fastq.Fq) → Bool) :
    fastqFileH o h = takeThroughH h [] (match o with | none => [.err] | some i => Fastq.decodeSrc i.1 i.2) :=
  fastqFileH_law _ h

theorem fastqFileH_early_stop (o : Option Input) (h : List (Item Fastq.Fq) → Bool) :
    fastqFileH o h <+: (match o with | none => [.err] | some i => Fastq.decodeSrc i.1 i.2)
    ∧ (∀ i, i + 1 < (fastqFileH o h).length → h ((fastqFileH o h).take (i + 1)) = true)
    ∧ (∀ i, i < (fastqFileH o h).length → h ((fastqFileH o h).take (i + 1)) = false →
        i + 1 = (fastqFileH o h).length) :=
  law_early_stop _ _ (fastqFileH_law _) h

theorem fastqFileH_bridge (o : Option Input) (f : Item Fastq.Fq → Bool) :
    fastqFileH o (lastH f) = fastqFile o f :=
  law_bridge _ _ _ (fastqFileH_law _) (fileFastq_log _) f

/-- `sam.File`. -/
theorem samFileH_log (pf : Bytes → Option Bytes) (o : Option Input) (h : List (Item Sam.Sam) → Bool) :
    samFileH pf o h = takeThroughH h [] (match o with | none => [.err] | some i => Sam.decodeSrc pf i.1 i.2) :=
  samFileH_law pf _ h

theorem samFileH_early_stop (pf : Bytes → Option Bytes) (o : Option Input) (h : List (Item Sam.Sam) → Bool) :
    samFileH pf o h <+: (match o with | none => [.err] | some i => Sam.decodeSrc pf i.1 i.2)
    ∧ (∀ i, i + 1 < (samFileH pf o h).length → h ((samFileH pf o h).take (i + 1)) = true)
    ∧ (∀ i, i < (samFileH pf o h).length → h ((samFileH pf o h).take (i + 1)) = false →
        i + 1 = (samFileH pf o h).length) :=
  law_early_stop _ _ (samFileH_law pf _) h

theorem samFileH_bridge (pf : Bytes → Option Bytes) (o : Option Input) (f : Item Sam.Sam → Bool) :
    samFileH pf o (lastH f) = samFile pf o f :=
  law_bridge _ _ _ (samFileH_law pf _) (fileSam_log pf _) f

/-- `sam.FileHeader`. -/
theorem samFileHeaderH_log (pf : Bytes → Option Bytes) (o : Option Input) (h : List (Item Sam.Entry) → Bool) :
    samFileHeaderH pf o h = takeThroughH h [] (match o with | none => [.err] | some i => Sam.decodeHeaderSrc pf i.1 i.2) :=
  samFileHeaderH_law pf _ h

theorem samFileHeaderH_early_stop (pf : Bytes → Option Bytes) (o : Option Input) (h : List (Item Sam.Entry) → Bool) :
    samFileHeaderH pf o h <+: (match o with | none => [.err] | some i => Sam.decodeHeaderSrc pf i.1 i.2)
    ∧ (∀ i, i + 1 < (samFileHeaderH pf o h).length → h ((samFileHeaderH pf o h).take (i + 1)) = true)
    ∧ (∀ i, i < (samFileHeaderH pf o h).length → h ((samFileHeaderH pf o h).take (i + 1)) = false →
        i + 1 = (samFileHeaderH pf o h).length) :=
  law_early_stop _ _ (samFileHeaderH_law pf _) h

theorem samFileHeaderH_bridge (pf : Bytes → Option Bytes) (o : Option Input) (f : Item Sam.Entry → Bool) :
    samFileHeaderH pf o (lastH f) = samFileHeader pf o f :=
  law_bridge _ _ _ (samFileHeaderH_law pf _) (fileHeaderSam_log pf _) f

/-- `bed.File`. -/
theorem bedFileH_log (o : Option Input) (h : List (Item Bed.Bed) → Bool) :
    bedFileH o h = takeThroughH h [] (match o with | none => [.err] | some i => Bed.decodeSrc i.1 i.2) :=
  bedFileH_law _ h

theorem bedFileH_early_stop (o : Option Input) (h : List (Item Bed.Bed) → Bool) :
    bedFileH o h <+: (match o with | none => [.err] | some i => Bed.decodeSrc i.1 i.2)
    ∧ (∀ i, i + 1 < (bedFileH o h).length → h ((bedFileH o h).take (i + 1)) = true)
    ∧ (∀ i, i < (bedFileH o h).length → h ((bedFileH o h).take (i + 1)) = false →
        i + 1 = (bedFileH o h).length) :=
  law_early_stop _ _ (bedFileH_law _) h

theorem bedFileH_bridge (o : Option Input) (f : Item Bed.Bed → Bool) :
    bedFileH o (lastH f) = bedFile o f :=
  law_bridge _ _ _ (bedFileH_law _) (fileBed_log _) f

/-- `newick.File`. -/
theorem newickFileH_log (pd : Bytes → Option Newick.Dist) (o : Option Input) (h : List (Item Newick.Tree) → Bool) :
    newickFileH pd o h = takeThroughH h [] (match o with | none => [.err] | some i => Newick.decodeSrc pd i.1 i.2) :=
  newickFileH_law pd _ h

theorem newickFileH_early_stop (pd : Bytes → Option Newick.Dist) (o : Option Input) (h : List (Item Newick.Tree) → Bool) :
    newickFileH pd o h <+: (match o with | none => [.err] | some i => Newick.decodeSrc pd i.1 i.2)
    ∧ (∀ i, i + 1 < (newickFileH pd o h).length → h ((newickFileH pd o h).take (i + 1)) = true)
    ∧ (∀ i, i < (newickFileH pd o h).length → h ((newickFileH pd o h).take (i + 1)) = false →
        i + 1 = (newickFileH pd o h).length) :=
  law_early_stop _ _ (newickFileH_law pd _) h

theorem newickFileH_bridge (pd : Bytes → Option Newick.Dist) (o : Option Input) (f : Item Newick.Tree → Bool) :
    newickFileH pd o (lastH f) = newickFile pd o f :=
  law_bridge _ _ _ (newickFileH_law pd _) (fileNewick_log pd _) f

/-! ## 2. The wrappers -/

/-- For ANY inner iterator: `for x, err := range inner { if !yield(x, err) { break } }`
calls `inner` with the outer consumer itself — the inner history IS the outer
history (`true` stands in for the empty history, about which no iterator asks). -/
theorem wrapH_transparent {α : Type} (inner : SeqH α) (h : List α → Bool) :
    wrapH inner h = inner (fun l => if l = [] then true else h l) :=
  wrapH_apply inner h

theorem wrapH_log {α : Type} (inner : SeqH α) (L : List α) (hl : TakeThroughLawH inner L)
    (h : List α → Bool) : wrapH inner h = takeThroughH h [] L :=
  wrapH_law inner L hl h

/-- A loop body that, per inner item, either `continue`s without a callback
(`g x = none`) or does `if !yield(y) { break }` (`g x = some y`), around an inner
iterator with the history law for `L`: history law for `L.filterMap g` — the
outer consumer's history holds only what the wrapper yielded. -/
theorem wrapFilterMapH_log {α β : Type} (g : α → Option β) (inner : SeqH α) (L : List α)
    (hl : TakeThroughLawH inner L) (h : List β → Bool) :
    wrapFilterMapH g inner h = takeThroughH h [] (L.filterMap g) :=
  wrapFilterMapH_law g inner L hl h

-- keep the even numbers, halved; "stop at the 2nd item": the inner iterator is stopped at 4
example :
    wrapFilterMapH (fun n : Nat => if n % 2 = 0 then some (n / 2) else none)
      (fun h => takeThroughH h [] [1, 2, 3, 4, 5, 6]) (fun l => l.length < 2) = [1, 2] := by
  decide

/-- The SAM wrapper over ANY inner iterator with the history law. -/
theorem samWrapH_log (inner : SeqH (Item Sam.Entry)) (L : List (Item Sam.Entry))
    (hl : TakeThroughLawH inner L) (h : List (Item Sam.Sam) → Bool) :
    samWrapH inner h = takeThroughH h [] (Sam.dropHeaders L) :=
  samWrapH_law inner L hl h

/-- `sam.Reader` as the loop around `sam.ReaderHeader`: the consumer that
`ReaderHeader` is called with (the loop body) is asked about histories WITH the
headers, and answers what the consumer `h` of `Reader` answers on that history
without them (`true` after a header: `continue`); what `Reader` hands to `h` is
the `ReaderHeader` log without the headers. -/
theorem samReaderH_over_header (pf : Bytes → Option Bytes) (e : Ending) (x : Bytes)
    (h : List (Item Sam.Sam) → Bool) :
    samReaderH pf e x h
        = Sam.dropHeaders (samReaderHeaderH pf e x (fun l => (runBody (samBodyH h) l).2))
    ∧ (∀ (l : List (Item Sam.Entry)) (t : Bytes),
        (runBody (samBodyH h) (l ++ [.ok (.hdr t)])).2 = true)
    ∧ (∀ (l : List (Item Sam.Entry)) (r : Sam.Sam),
        (runBody (samBodyH h) (l ++ [.ok (.sam r)])).2 = h (Sam.dropHeaders l ++ [.ok r]))
    ∧ (∀ (l : List (Item Sam.Entry)),
        (runBody (samBodyH h) (l ++ [.err])).2 = h (Sam.dropHeaders l ++ [.err])) := by
  refine ⟨?_, ?_, ?_, ?_⟩
  · rw [samReaderH, samWrapH, rangeOverH, samBodyH_eq, runBody_filterMap_fst, dropHeaders_eq]
  · intro l t; rw [samBodyH_eq, runBody_filterMap_snd]; rfl
  · intro l r; rw [samBodyH_eq, runBody_filterMap_snd, dropHeaders_eq]; rfl
  · intro l; rw [samBodyH_eq, runBody_filterMap_snd, dropHeaders_eq]; rfl

/-- `File` on a path that cannot be opened: one error item whatever the consumer answers. -/
theorem fileH_unopened {ρ : Type} (h : List (Item ρ) → Bool) :
    fileH (none : Option (SeqH (Item ρ))) h = [.err] := fileH_none h

/-- `File` on an opened file is the `Reader` on it (for a reader with the law). -/
theorem fileH_opened {ρ : Type} (inner : SeqH (Item ρ)) (L : List (Item ρ))
    (hl : TakeThroughLawH inner L) (h : List (Item ρ) → Bool) :
    fileH (some inner) h = inner h := by
  rw [hl h]; exact wrapH_law inner L hl h

/-- The answer to `yield(nil, err)` is never looked at (fasta/fastq `iter`, bed /
newick `Reader`): consumers that agree on every history ending in a record get the
same log.  Over any source. -/
theorem err_verdict_ignored {ρ σ : Type} (S : Source ρ σ) (h g : List (Item ρ) → Bool)
    (hg : ∀ l a, h (l ++ [.ok a]) = g (l ++ [.ok a])) (acc : List (Item ρ)) (s : σ) :
    iterLoopH S h acc s = iterLoopH S g acc s ∧ readerLoopH S h acc s = readerLoopH S g acc s :=
  ⟨iterLoopH_congr S h g hg acc s, by
    rw [readerLoopH_eq_iterLoopH, readerLoopH_eq_iterLoopH]; exact iterLoopH_congr S h g hg acc s⟩

example : ∀ (l : List (Item Nat)) (a : Nat),
    (fun l : List (Item Nat) => l.getLast? != some .err) (l ++ [.ok a])
      = (fun _ => true) (l ++ [.ok a]) := by
  intro l a; simp

/-! ## 3. The explicit-stack iterators -/

/-- newick `traverse(pre)`: the nodes handed over are the recursive pre- or post-order
(= the uninterrupted run of `Newick.traverse`, C19), cut by the history consumer. -/
theorem traverseH_log (pre : Bool) (h : List Newick.Tree → Bool) (t : Newick.Tree) :
    traverseH pre h t = takeThroughH h [] (if pre then Newick.preRec t else Newick.postRec t)
    ∧ traverseH pre h t = takeThroughH h [] (Newick.traverse pre (fun _ => true) t)
    ∧ traverseH pre h t
        = takeThroughH h [] (if pre then Newick.preOrder t else Newick.postOrder t) := by
  have h1 := IterH.traverseH_log pre h t
  refine ⟨h1, ?_, ?_⟩
  · rw [h1, Newick.traverse_log]; exact congrArg _ (takeThrough_false _).symm
  · rw [h1]; cases pre <;> simp [Newick.preOrder_eq, Newick.postOrder_eq]

theorem traverseH_early_stop (pre : Bool) (h : List Newick.Tree → Bool) (t : Newick.Tree) :
    traverseH pre h t <+: (if pre then Newick.preOrder t else Newick.postOrder t)
    ∧ (∀ i, i + 1 < (traverseH pre h t).length → h ((traverseH pre h t).take (i + 1)) = true)
    ∧ (∀ i, i < (traverseH pre h t).length → h ((traverseH pre h t).take (i + 1)) = false →
        i + 1 = (traverseH pre h t).length) :=
  law_early_stop (fun h => traverseH pre h t) _ (fun h => (traverseH_log pre h t).2.2) h

theorem traverseH_bridge (pre : Bool) (f : Newick.Tree → Bool) (t : Newick.Tree) :
    traverseH pre (lastH f) t = Newick.traverse pre f t := by
  rw [(traverseH_log pre _ t).1, takeThroughH_lastH, Newick.traverse_log]

/-- The machine itself, for every fuel and every stack (no well-formedness needed):
the history machine logs the history take-through of the pure machine's
uninterrupted log. -/
theorem travH_log (pre : Bool) (h : List Newick.Tree → Bool) (fuel : Nat)
    (s : List (Newick.Tree × Nat)) (acc : List Newick.Tree) :
    travH pre h fuel s acc = takeThroughH h acc (Newick.trav pre (fun _ => true) fuel s) :=
  IterH.travH_log pre h fuel s acc

/-- trie `ForEach`: the leaf paths in edge order, cut by the history consumer. -/
theorem forEachLogH_log (h : List Bytes → Bool) (t : Trie.T) :
    forEachLogH h t = takeThroughH h [] (Trie.leaves t)
    ∧ forEachLogH h t = takeThroughH h [] (Trie.members t) := by
  have h1 := IterH.forEachLogH_log h t
  exact ⟨h1, by rw [h1, Trie.members_eq_leaves]⟩

theorem forEachLogH_early_stop (h : List Bytes → Bool) (t : Trie.T) :
    forEachLogH h t <+: Trie.members t
    ∧ (∀ i, i + 1 < (forEachLogH h t).length → h ((forEachLogH h t).take (i + 1)) = true)
    ∧ (∀ i, i < (forEachLogH h t).length → h ((forEachLogH h t).take (i + 1)) = false →
        i + 1 = (forEachLogH h t).length) :=
  law_early_stop (fun h => forEachLogH h t) _ (fun h => (forEachLogH_log h t).2) h

theorem forEachLogH_bridge (f : Bytes → Bool) (t : Trie.T) :
    forEachLogH (lastH f) t = Trie.forEachLog f t := by
  rw [(forEachLogH_log _ t).1, takeThroughH_lastH, Trie.forEachLog_eq]

theorem eachLoopH_log (h : List Bytes → Bool) (fuel : Nat) (s : List (Bool × Trie.T))
    (cur : Bytes) (acc : List Bytes) :
    eachLoopH h fuel s cur acc = takeThroughH h acc (Trie.eachLoop (fun _ => true) fuel s cur) :=
  IterH.eachLoopH_log h fuel s cur acc

/-- sequtil `CanonicalSubsequences`, the yield loop. -/
theorem canonLoopH_log (h : List Bytes → Bool) (seq rc : Bytes) (k i n : Nat) (acc : List Bytes) :
    canonLoopH h seq rc k i n acc
        = takeThroughH h acc ((List.range n).map fun j => Sequtil.canonItem seq rc k (i + j))
    ∧ canonLoopH h seq rc k i n acc
        = takeThroughH h acc (Sequtil.canonLoop (fun _ => true) seq rc k i n) :=
  ⟨by rw [IterH.canonLoopH_log, Sequtil.canonLoop_eq]; exact congrArg _ (takeThrough_false _),
    IterH.canonLoopH_log h seq rc k n i acc⟩

theorem canonLoopH_early_stop (h : List Bytes → Bool) (seq rc : Bytes) (k i n : Nat) :
    canonLoopH h seq rc k i n [] <+: Sequtil.canonLoop (fun _ => true) seq rc k i n
    ∧ (∀ j, j + 1 < (canonLoopH h seq rc k i n []).length →
        h ((canonLoopH h seq rc k i n []).take (j + 1)) = true)
    ∧ (∀ j, j < (canonLoopH h seq rc k i n []).length →
        h ((canonLoopH h seq rc k i n []).take (j + 1)) = false →
        j + 1 = (canonLoopH h seq rc k i n []).length) :=
  law_early_stop (fun h => canonLoopH h seq rc k i n []) _
    (fun h => (canonLoopH_log h seq rc k i n []).2) h

theorem canonLoopH_bridge (f : Bytes → Bool) (seq rc : Bytes) (k i n : Nat) :
    canonLoopH (lastH f) seq rc k i n [] = Sequtil.canonLoop f seq rc k i n := by
  rw [(canonLoopH_log _ seq rc k i n []).1, takeThroughH_lastH, Sequtil.canonLoop_eq]

/-- `CanonicalSubsequences` as a whole: it panics (`none`) exactly when the
uninterrupted run does; else the log is the uninterrupted item list cut by `h`. -/
theorem canonicalLogH_log (tbl : List UInt8) (h : List Bytes → Bool) (seq : Bytes) (k : Nat) :
    canonicalLogH tbl h seq k = (Sequtil.canonical tbl seq k).map (takeThroughH h []) := by
  unfold canonicalLogH Sequtil.canonical Sequtil.canonicalLog
  cases Sequtil.revComp tbl [] seq with
  | none => rfl
  | some rc => simp [(canonLoopH_log h seq rc k 0 _ []).2]

theorem canonicalLogH_early_stop (tbl : List UInt8) (h : List Bytes → Bool) (seq : Bytes) (k : Nat) :
    (canonicalLogH tbl h seq k = none ∧ Sequtil.canonical tbl seq k = none)
    ∨ ∃ L full, canonicalLogH tbl h seq k = some L ∧ Sequtil.canonical tbl seq k = some full
        ∧ L <+: full
        ∧ (∀ i, i + 1 < L.length → h (L.take (i + 1)) = true)
        ∧ (∀ i, i < L.length → h (L.take (i + 1)) = false → i + 1 = L.length) := by
  rw [canonicalLogH_log]
  cases Sequtil.canonical tbl seq k with
  | none => exact .inl ⟨rfl, rfl⟩
  | some full =>
    exact .inr ⟨_, full, rfl, rfl, takeThroughH_prefix h full, takeThroughH_go_on h full,
      takeThroughH_stop h full⟩

theorem canonicalLogH_bridge (tbl : List UInt8) (f : Bytes → Bool) (seq : Bytes) (k : Nat) :
    canonicalLogH tbl (lastH f) seq k = Sequtil.canonicalLog tbl f seq k := by
  rw [canonicalLogH_log, Sequtil.canonicalLog_eq]
  cases Sequtil.canonical tbl seq k with
  | none => rfl
  | some full => simp [takeThroughH_lastH]


/-! ## 4. Concrete runs: a consumer WITH state on inputs whose items are IDENTICAL

"Stop at the second item whatever it is" is `fun l => l.length < 2`.  On inputs
whose items are all equal no consumer without state can do that: it stops at the
first item or at none. -/

/-- ">a\nA\n>a\nA\n>a\nA\n" — three identical records. -/
def exFasta3 : Bytes := [62, 97, 10, 65, 10, 62, 97, 10, 65, 10, 62, 97, 10, 65, 10]

example : Fasta.decodeSrc .eof exFasta3 = [.ok ⟨[97], [65]⟩, .ok ⟨[97], [65]⟩, .ok ⟨[97], [65]⟩] := by
  decide +kernel
example : fastaIterH .eof exFasta3 (fun l => l.length < 2) = [.ok ⟨[97], [65]⟩, .ok ⟨[97], [65]⟩] := by
  decide +kernel
example : fastaReaderH .eof exFasta3 (fun l => l.length < 2)
    = [.ok ⟨[97], [65]⟩, .ok ⟨[97], [65]⟩] := by decide +kernel
example : fastaFileH (some (.eof, exFasta3)) (fun l => l.length < 2)
    = [.ok ⟨[97], [65]⟩, .ok ⟨[97], [65]⟩] := by decide +kernel
example : fastaFileH none (fun _ => false) = [.err] := by decide
-- whatever a consumer without state answers on the one record value: one item or all three
example : ∀ b : Bool,
    fastaReader .eof exFasta3 (fun it => if it = .ok ⟨[97], [65]⟩ then b else true)
      = if b then [.ok ⟨[97], [65]⟩, .ok ⟨[97], [65]⟩, .ok ⟨[97], [65]⟩] else [.ok ⟨[97], [65]⟩] := by
  decide +kernel
-- an instance of the hypotheses of (b) and (c) in `fastaReaderH_early_stop`
example : 0 + 1 < (fastaReaderH .eof exFasta3 (fun l => l.length < 2)).length := by decide +kernel
example : 1 < (fastaReaderH .eof exFasta3 (fun l => l.length < 2)).length
    ∧ (fun l : List (Item Fasta.Fa) => decide (l.length < 2))
        ((fastaReaderH .eof exFasta3 (fun l => l.length < 2)).take (1 + 1)) = false := by
  decide +kernel
-- a failing source: after the second record the error is handed over without asking
example : fastaReaderH .fail exFasta3 (fun _ => true)
    = [.ok ⟨[97], [65]⟩, .ok ⟨[97], [65]⟩, .err] := by decide +kernel
example : fastaReaderH .fail exFasta3 (fun l => l.length < 3)
    = [.ok ⟨[97], [65]⟩, .ok ⟨[97], [65]⟩, .err] := by decide +kernel
-- the bridge on a concrete consumer
example : fastaReaderH .eof exFasta3 (lastH fun _ => false) = fastaReader .eof exFasta3 (fun _ => false) := by
  decide +kernel

/-- "@r\nA\n+\nI\n" three times. -/
def exFastq3 : Bytes :=
  [64, 114, 10, 65, 10, 43, 10, 73, 10, 64, 114, 10, 65, 10, 43, 10, 73, 10,
   64, 114, 10, 65, 10, 43, 10, 73, 10]

example : (Fastq.decodeSrc .eof exFastq3).length = 3 := by decide +kernel
example : fastqIterH .eof exFastq3 (fun l => l.length < 2)
    = [.ok ⟨[114], [65], [73]⟩, .ok ⟨[114], [65], [73]⟩] := by decide +kernel
example : fastqReaderH .eof exFastq3 (fun l => l.length < 2)
    = [.ok ⟨[114], [65], [73]⟩, .ok ⟨[114], [65], [73]⟩] := by decide +kernel
example : fastqFileH (some (.eof, exFastq3)) (fun l => l.length < 2)
    = [.ok ⟨[114], [65], [73]⟩, .ok ⟨[114], [65], [73]⟩] := by decide +kernel

/-- "a\t1\t2\n" three times. -/
def exBed3 : Bytes :=
  [97, 9, 49, 9, 50, 10, 97, 9, 49, 9, 50, 10, 97, 9, 49, 9, 50, 10]

example : (Bed.decodeSrc .eof exBed3).length = 3 := by decide +kernel
example : bedReaderH .eof exBed3 (fun l => l.length < 2) = (Bed.decodeSrc .eof exBed3).take 2 := by
  decide +kernel
example : (bedReaderH .eof exBed3 (fun l => l.length < 2)).length = 2 := by decide +kernel
example : (Bed.decodeSrc .eof exBed3)[0]? = (Bed.decodeSrc .eof exBed3)[1]? := by decide +kernel
example : (bedFileH (some (.eof, exBed3)) (fun l => l.length < 2)).length = 2 := by decide +kernel

/-- "a;a;a;" — three identical one-node trees. -/
def exNewick3 : Bytes := [97, 59, 97, 59, 97, 59]

example : (Newick.decodeSrc Newick.pdEx .eof exNewick3).length = 3 := by decide +kernel
example : (Newick.decodeSrc Newick.pdEx .eof exNewick3)[0]?
    = (Newick.decodeSrc Newick.pdEx .eof exNewick3)[1]? := by decide +kernel
example : newickReaderH Newick.pdEx .eof exNewick3 (fun l => l.length < 2)
    = (Newick.decodeSrc Newick.pdEx .eof exNewick3).take 2 := by decide +kernel
example : (newickReaderH Newick.pdEx .eof exNewick3 (fun l => l.length < 2)).length = 2 := by
  decide +kernel
example : (newickFileH Newick.pdEx (some (.eof, exNewick3)) (fun l => l.length < 2)).length = 2 := by
  decide +kernel

/-- "@HD\nr1\t0\t*\t0\t0\t*\t*\t0\t0\t*\t*\n" followed by the same record line twice more:
a header and three identical records. -/
def exSam3 : Bytes :=
  [64, 72, 68, 10,
   114, 49, 9, 48, 9, 42, 9, 48, 9, 48, 9, 42, 9, 42, 9, 48, 9, 48, 9, 42, 9, 42, 10,
   114, 49, 9, 48, 9, 42, 9, 48, 9, 48, 9, 42, 9, 42, 9, 48, 9, 48, 9, 42, 9, 42, 10,
   114, 49, 9, 48, 9, 42, 9, 48, 9, 48, 9, 42, 9, 42, 9, 48, 9, 48, 9, 42, 9, 42, 10]

example : Sam.decodeHeaderSrc noFloat .eof exSam3
    = [.ok (.hdr [64, 72, 68]), .ok (.sam exR1), .ok (.sam exR1), .ok (.sam exR1)] := by
  decide +kernel
-- `ReaderHeader`: the second item is the first record
example : samReaderHeaderH noFloat .eof exSam3 (fun l => l.length < 2)
    = [.ok (.hdr [64, 72, 68]), .ok (.sam exR1)] := by decide +kernel
-- `Reader`: the header is not part of the consumer's history — the second item is the SECOND record
example : samReaderH noFloat .eof exSam3 (fun l => l.length < 2) = [.ok exR1, .ok exR1] := by
  decide +kernel
-- … for which `ReaderHeader` was run up to its third item
example : samReaderHeaderH noFloat .eof exSam3 (fun l => (runBody (samBodyH (fun l => l.length < 2)) l).2)
    = [.ok (.hdr [64, 72, 68]), .ok (.sam exR1), .ok (.sam exR1)] := by decide +kernel
example : samFileH noFloat (some (.eof, exSam3)) (fun l => l.length < 2) = [.ok exR1, .ok exR1] := by
  decide +kernel
example : samFileHeaderH noFloat (some (.eof, exSam3)) (fun l => l.length < 3)
    = [.ok (.hdr [64, 72, 68]), .ok (.sam exR1), .ok (.sam exR1)] := by decide +kernel
example : samFileH noFloat none (fun _ => false) = [.err] := by decide
-- two lines that do not parse are two equal `.err` items in the middle: stop at the second
example : samReaderH noFloat .eof [98, 97, 100, 10, 98, 97, 100, 10, 98, 97, 100, 10] (fun l => l.length < 2)
    = [.err, .err] := by decide +kernel

/-- "(a,a,a)r" — a root with three equal leaves. -/
def exLeaf : Newick.Tree := ⟨[97], none, .nil⟩
def exTree3 : Newick.Tree :=
  ⟨[114], none, .cons [97] none .nil (.cons [97] none .nil (.cons [97] none .nil .nil))⟩

example : Newick.postOrder exTree3 = [exLeaf, exLeaf, exLeaf, exTree3] := by decide
example : traverseH false (fun l => l.length < 2) exTree3 = [exLeaf, exLeaf] := by decide
example : Newick.preOrder exTree3 = [exTree3, exLeaf, exLeaf, exLeaf] := by decide
example : traverseH true (fun l => l.length < 3) exTree3 = [exTree3, exLeaf, exLeaf] := by decide
example : traverseH true (fun _ => true) exTree3 = Newick.preOrder exTree3 := by decide
-- a consumer without state on the leaf value: one leaf or all of them
example : ∀ b : Bool, Newick.traverse false (fun n => if n = exLeaf then b else true) exTree3
    = if b then [exLeaf, exLeaf, exLeaf, exTree3] else [exLeaf] := by decide
example : 1 < (traverseH false (fun l => l.length < 2) exTree3).length
    ∧ (fun l : List Newick.Tree => decide (l.length < 2))
        ((traverseH false (fun l => l.length < 2) exTree3).take (1 + 1)) = false := by decide

-- the trie holding "ab", "ac", "d" (its members are distinct by construction): stop at the 2nd
example : forEachLogH (fun l => l.length < 2) Trie.exTrie = [[97, 98], [97, 99]] := by decide
example : forEachLogH (fun _ => true) Trie.exTrie = Trie.members Trie.exTrie := by decide
example : forEachLogH (fun _ => false) Trie.exTrie = [[97, 98]] := by decide

-- "AAAA", k = 2 (reverse complement "TTTT"): three times "AA"
example : Sequtil.canonical Sequtil.exTbl [65, 65, 65, 65] 2 = some [[65, 65], [65, 65], [65, 65]] := by
  decide +kernel
example : canonicalLogH Sequtil.exTbl (fun l => l.length < 2) [65, 65, 65, 65] 2
    = some [[65, 65], [65, 65]] := by decide +kernel
example : canonLoopH (fun l => l.length < 2) [65, 65, 65, 65] [84, 84, 84, 84] 2 0 3 []
    = [[65, 65], [65, 65]] := by decide
example : ∀ b : Bool,
    Sequtil.canonicalLog Sequtil.exTbl (fun s => if s = [65, 65] then b else true) [65, 65, 65, 65] 2
      = if b then some [[65, 65], [65, 65], [65, 65]] else some [[65, 65]] := by decide +kernel
example : canonicalLogH Sequtil.exTbl (fun _ => true) [65, 66] 1 = none := by decide +kernel

end Bio.Props.C18Hist

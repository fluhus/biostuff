/-
  C04 (BED), writer half, for the Go SOURCE TEXT of `(*BED).Write` (formats/bed/bed.go), as translated
  on every run into `Bio.Generated.GoSrc.bed_Write` over the abstract writer `Bio.GoRt.Wr` (`room` =
  bytes it still accepts, `out` = bytes accepted so far; one `fmt.Fprintf` = one `wrWrite`).
  `goBedWrite b w` is the translated `Write` on the fields of the model record `b` (`ItemRGB [3]byte`
  as the 3-element list).

  Guarded by the translator's `bed_Write_Found` flag (see `Bio.Lemmas.GoSrc`).
-/
import Bio.Lemmas.GoSrcBed
import Bio.Props.C04
namespace Bio.Props.C04Go
open Bio Bio.GoRt Bio.Generated Bio.GoSrcLemmas

/-! ## 1. The translated `Write` is the sequence of `Write` calls -/

/-- On ANY writer: the calls `bedWriteCalls b` in order, stopping at the first failing one
(`wrWriteAll`); the error returned is the writer's. -/
theorem go_bed_write_calls : GoSrc.bed_Write_Found = true → ∀ (b : Bed.Bed) (w : Wr),
    3 ≤ b.n → b.n ≤ 12 →
    goBedWrite b w = some ((wrWriteAll w (bedWriteCalls b)).2, (wrWriteAll w (bedWriteCalls b)).1) :=
  fun hF b w h3 h12 => bed_Write_eq hF b w h3 h12

/-- A field count outside `3…12`: an error and NOTHING written (the writer is untouched). -/
theorem go_bed_write_bad_n : GoSrc.bed_Write_Found = true → ∀ (b : Bed.Bed) (w : Wr),
    (b.n < 3 ∨ b.n > 12) → goBedWrite b w = some (GoErr.other, w) :=
  fun hF b w h => bed_Write_bad_n hF b w h

/-- The calls, concatenated, are the model's text; the model refuses exactly the field counts the
Go code refuses.  (No translator flag needed: a statement about the model and `bedWriteCalls`.) -/
theorem bedWriteCalls_flatten : ∀ (b : Bed.Bed),
    (3 ≤ b.n → b.n ≤ 12 → Bed.encode b = some (bedWriteCalls b).flatten)
    ∧ ((b.n < 3 ∨ b.n > 12) → Bed.encode b = none) :=
  fun b => ⟨bedWriteCalls_flatten_eq b, bed_encode_none b⟩

/-- The translated `Write` never panics (the `[3]byte` array has its three elements). -/
theorem go_bed_no_panic : GoSrc.bed_Write_Found = true → ∀ (b : Bed.Bed) (w : Wr),
    goBedWrite b w ≠ none := by
  intro hF b w
  by_cases h : b.n < 3 ∨ b.n > 12
  · rw [bed_Write_bad_n hF b w h]; simp
  · rw [bed_Write_eq hF b w (by omega) (by omega)]; simp

/-- It succeeds or fails exactly as the model says: an error without a single byte written iff the
model's `encode` refuses the record. -/
theorem go_bed_write_refuses_iff : GoSrc.bed_Write_Found = true → ∀ (b : Bed.Bed),
    (Bed.encode b = none ↔ ∀ w, goBedWrite b w = some (GoErr.other, w)) := by
  intro hF b
  constructor
  · intro he w
    by_cases h : b.n < 3 ∨ b.n > 12
    · exact bed_Write_bad_n hF b w h
    · rw [bedWriteCalls_flatten_eq b (by omega) (by omega)] at he; cases he
  · intro hw
    by_cases h : b.n < 3 ∨ b.n > 12
    · exact bed_encode_none b h
    · have h1 := bed_Write_fault hF b _ (bedWriteCalls_flatten_eq b (by omega) (by omega))
        (bedWriteCalls b).flatten.length []
      rw [hw] at h1
      simp at h1

example : 3 ≤ Bed.ex12.n ∧ Bed.ex12.n ≤ 12 ∧ Bed.ex12.blockSizes.length = 2
    ∧ Bed.ex12.blockStarts.length = 2 := by decide +kernel
example : ({ Bed.ex12 with n := 13 } : Bed.Bed).n < 3 ∨ ({ Bed.ex12 with n := 13 } : Bed.Bed).n > 12 := by decide +kernel
example : ({ Bed.ex12 with n := -4 } : Bed.Bed).n < 3 ∨ ({ Bed.ex12 with n := -4 } : Bed.Bed).n > 12 := by decide +kernel

/-- The fifteen calls for `ex12` (12 fields, two blocks): `chr1 -5 maxInt64` together, then
`\t"a"\0\xFF# `, `\tminInt64`, `\t-`, `\t0`, `\t-1`, `\t255,0,7`, `\t2`, then `\t`, `10`, `,-20`, then
`\t`, `0`, `,300`, then the newline. -/
example : bedWriteCalls Bed.ex12 =
    [[99, 104, 114, 49, 9, 45, 53, 9, 57, 50, 50, 51, 51, 55, 50, 48, 51, 54, 56, 53, 52, 55, 55, 53, 56, 48, 55],
     [9, 34, 97, 34, 0, 255, 35, 32],
     [9, 45, 57, 50, 50, 51, 51, 55, 50, 48, 51, 54, 56, 53, 52, 55, 55, 53, 56, 48, 56],
     [9, 45], [9, 48], [9, 45, 49], [9, 50, 53, 53, 44, 48, 44, 55], [9, 50],
     [9], [49, 48], [44, 45, 50, 48], [9], [48], [44, 51, 48, 48], [10]] := by decide +kernel
/-- three fields: one call and the newline; eleven fields: no call for the starts -/
example : (bedWriteCalls Bed.ex3).length = 2 ∧ (bedWriteCalls Bed.ex11).length = 12
    ∧ (bedWriteCalls Bed.ex10).length = 9 := by decide +kernel

/-- the translator found the method -/
example : GoSrc.bed_Write_Found = false ∨ GoSrc.bed_Write_Found = true := by decide +kernel

/-- The translated code itself, run on `ex12`: enough room (after a byte already written); a field
count of 13 or 2: an error, the writer untouched. -/
example : GoSrc.bed_Write_Found = false ∨ (
    goBedWrite Bed.ex12 ⟨100, [7]⟩ = some (GoErr.nil, ⟨13,
      [7, 99, 104, 114, 49, 9, 45, 53, 9, 57, 50, 50, 51, 51, 55, 50, 48, 51, 54, 56, 53, 52, 55, 55, 53, 56, 48,
       55, 9, 34, 97, 34, 0, 255, 35, 32, 9, 45, 57, 50, 50, 51, 51, 55, 50, 48, 51, 54, 56, 53, 52, 55, 55, 53, 56,
       48, 56, 9, 45, 9, 48, 9, 45, 49, 9, 50, 53, 53, 44, 48, 44, 55, 9, 50, 9, 49, 48, 44, 45, 50, 48, 9, 48, 44,
       51, 48, 48, 10]⟩)
    ∧ goBedWrite { Bed.ex12 with n := 13 } ⟨200, [1]⟩ = some (GoErr.other, ⟨200, [1]⟩)
    ∧ goBedWrite { Bed.ex12 with n := 2 } ⟨200, [1]⟩ = some (GoErr.other, ⟨200, [1]⟩)
    ∧ goBedWrite Bed.ex3 ⟨200, []⟩ = some (GoErr.nil, ⟨176,
      [9, 45, 53, 9, 57, 50, 50, 51, 51, 55, 50, 48, 51, 54, 56, 53, 52, 55, 55, 53, 56, 48, 55, 10]⟩)) := by
  decide +kernel

/-! ## 2. The destination starts failing after `k` bytes -/

/-- The exact result on a writer that has already accepted `o` and accepts `k` more bytes: the
error value, the room left and the bytes accepted. -/
theorem go_bed_write_exact : GoSrc.bed_Write_Found = true → ∀ (b : Bed.Bed) (enc : Bytes),
    Bed.encode b = some enc → ∀ (k : Nat) (o : Bytes),
    goBedWrite b ⟨k, o⟩
      = some (if enc.length ≤ k then GoErr.nil else GoErr.other,
          ⟨k - (enc.take k).length, o ++ enc.take k⟩) :=
  fun hF b enc he k o => bed_Write_fault hF b enc he k o

/-- With enough room: no error, the output is exactly the model's text. -/
theorem go_bed_write_bytes : GoSrc.bed_Write_Found = true → ∀ (b : Bed.Bed) (enc : Bytes),
    Bed.encode b = some enc → ∀ (k : Nat) (o : Bytes), enc.length ≤ k →
    goBedWrite b ⟨k, o⟩ = some (GoErr.nil, ⟨k - enc.length, o ++ enc⟩) := by
  intro hF b enc he k o h
  rw [bed_Write_fault hF b enc he k o]
  simp only [h, if_true, List.take_of_length_le h]

/-- A writer that fails after `k` bytes, `k` less than the text: `Write` returns a non-nil error and
exactly the first `k` bytes of the text were written. -/
theorem go_bed_write_fault : GoSrc.bed_Write_Found = true → ∀ (b : Bed.Bed) (enc : Bytes),
    Bed.encode b = some enc → ∀ (k : Nat) (o : Bytes), k < enc.length →
    goBedWrite b ⟨k, o⟩ = some (GoErr.other, ⟨0, o ++ enc.take k⟩) := by
  intro hF b enc he k o h
  rw [bed_Write_fault hF b enc he k o]
  have h1 : ¬ enc.length ≤ k := by omega
  have h2 : k - (enc.take k).length = 0 := by simp only [List.length_take]; omega
  simp only [h1, if_false, h2]

/-- The form of `C07Go.go_fasta_write_fault`: an error iff `k < len(text)`; the bytes accepted are
the first `k` bytes of the text. -/
theorem go_bed_write_fault_iff : GoSrc.bed_Write_Found = true → ∀ (b : Bed.Bed) (enc : Bytes),
    Bed.encode b = some enc → ∀ (k : Nat),
    ∃ err w', goBedWrite b ⟨k, []⟩ = some (err, w')
      ∧ (err ≠ GoErr.nil ↔ k < enc.length) ∧ w'.out = enc.take k := by
  intro hF b enc he k
  refine ⟨_, _, bed_Write_fault hF b enc he k [], ?_, by simp⟩
  by_cases h : enc.length ≤ k
  · simp only [h, if_true]; constructor
    · intro h'; exact absurd rfl h'
    · intro h'; omega
  · simp only [h, if_false]; constructor
    · intro _; omega
    · intro _ h'; cases h'

/-- the text of `ex12` has 87 bytes -/
example : (Bed.encode Bed.ex12).map List.length = some 87 := by decide +kernel
example : ∃ enc, Bed.encode Bed.ex12 = some enc ∧ enc.length ≤ 100 ∧ 75 < enc.length :=
  ⟨_, rfl, by decide +kernel, by decide +kernel⟩
/-- Room for 75 bytes: the calls up to the TAB before the block sizes fit, the call `10` is cut
after its first byte and no further call is made; room for 80: cut exactly between two calls. -/
example : GoSrc.bed_Write_Found = false ∨ (
    goBedWrite Bed.ex12 ⟨75, []⟩ = some (GoErr.other, ⟨0,
      [99, 104, 114, 49, 9, 45, 53, 9, 57, 50, 50, 51, 51, 55, 50, 48, 51, 54, 56, 53, 52, 55, 55, 53, 56, 48, 55,
       9, 34, 97, 34, 0, 255, 35, 32, 9, 45, 57, 50, 50, 51, 51, 55, 50, 48, 51, 54, 56, 53, 52, 55, 55, 53, 56, 48,
       56, 9, 45, 9, 48, 9, 45, 49, 9, 50, 53, 53, 44, 48, 44, 55, 9, 50, 9, 49]⟩)
    ∧ (goBedWrite Bed.ex12 ⟨80, []⟩).map (fun p => (p.1, p.2.room, p.2.out.drop 72))
        = some (GoErr.other, 0, [50, 9, 49, 48, 44, 45, 50, 48])
    ∧ (goBedWrite Bed.ex12 ⟨86, []⟩).map (fun p => (p.1, p.2.room, p.2.out.length)) = some (GoErr.other, 0, 86)
    ∧ (goBedWrite Bed.ex12 ⟨87, []⟩).map (fun p => (p.1, p.2.room, p.2.out.length)) = some (GoErr.nil, 0, 87)
    ∧ (goBedWrite Bed.ex12 ⟨0, []⟩) = some (GoErr.other, ⟨0, []⟩)) := by
  decide +kernel

/-! ## 3. With enough room: the round trip through the model reader -/

/-- Writing records one after the other (`bedWriteAll`: `b.Write(w)` for each record, stop at the
first error) into a writer with enough room gives the concatenation of the model's texts. -/
theorem go_bed_write_all : GoSrc.bed_Write_Found = true → ∀ (bs : List Bed.Bed),
    (∀ b ∈ bs, 3 ≤ b.n ∧ b.n ≤ 12) → ∀ (k : Nat) (o : Bytes), (bedEncodeAll bs).length ≤ k →
    bedWriteAll bs ⟨k, o⟩ = some (GoErr.nil, ⟨k - (bedEncodeAll bs).length, o ++ bedEncodeAll bs⟩) :=
  fun hF bs hn k o h => bedWriteAll_ok hF bs hn k o h

/-- C04 with the writer at source level: what the translated `Write` puts on a large enough writer,
for records well-formed with `N` fields (`Bed.WF` of `Bio.Lemmas.Bed`), is decoded by the model reader
to the records written, restricted to their first `N` fields. -/
theorem go_bed_write_read : GoSrc.bed_Write_Found = true → ∀ (N : Nat) (bs : List Bed.Bed),
    (∀ b ∈ bs, Bed.WF N b) → ∀ (k : Nat), (bedEncodeAll bs).length ≤ k →
    ∃ w', bedWriteAll bs ⟨k, []⟩ = some (GoErr.nil, w')
      ∧ Bed.decode w'.out = bs.map (fun b => Item.ok (Bed.truncate N b)) := by
  intro hF N bs h k hk
  refine ⟨_, bedWriteAll_ok hF bs (fun b hb => (h b hb).n_range) k [] hk, ?_⟩
  simp only [List.nil_append]
  exact Bed.file_roundtrip_encode N bs h

/-- One record: the translated `Write` leaves the model's text on the writer, and the model reader
reads it back as the record (its first `N` fields). -/
theorem go_bed_write_read_one : GoSrc.bed_Write_Found = true → ∀ (N : Nat) (b : Bed.Bed), Bed.WF N b →
    ∀ (k : Nat), ((Bed.encode b).getD []).length ≤ k →
    ∃ w', goBedWrite b ⟨k, []⟩ = some (GoErr.nil, w') ∧ Bed.encode b = some w'.out
      ∧ Bed.decode w'.out = [Item.ok (Bed.truncate N b)] := by
  intro hF N b h k hk
  obtain ⟨enc, he⟩ : ∃ enc, Bed.encode b = some enc :=
    ⟨_, bedWriteCalls_flatten_eq b h.n_range.1 h.n_range.2⟩
  rw [he] at hk
  refine ⟨_, go_bed_write_bytes hF b enc he k [] hk, by rw [he, List.nil_append], ?_⟩
  have := Bed.file_roundtrip_encode N [b] (by simpa using h)
  simpa [he] using this

/-- Non-vacuity: the flag; records in the domain of C04 (12 fields with two blocks, odd bytes and
extreme integers; the same record with empty name and no blocks) and a writer large enough. -/
example : GoSrc.bed_Write_Found = false ∨ (GoSrc.bed_Write_Found = true
    ∧ (∀ b ∈ [Bed.ex12, { Bed.ex12 with name := [], blockCount := 0, blockSizes := [], blockStarts := [] }],
        Bed.WF 12 b)
    ∧ Bed.WF 3 Bed.ex3 ∧ Bed.WF 11 Bed.ex11) := by decide +kernel
example : (bedEncodeAll [Bed.ex12, { Bed.ex12 with name := [], blockCount := 0, blockSizes := [], blockStarts := [] }]).length
    ≤ 200 := by decide +kernel
example : ((Bed.encode Bed.ex12).getD []).length ≤ 100 := by decide +kernel
/-- for 12 fields nothing is cut: the record itself comes back -/
example : Bed.truncate 12 Bed.ex12 = Bed.ex12 := by decide +kernel
/-- two records through the translated `Write`; the second call sequence stops in the second record
when the room runs out -/
example : GoSrc.bed_Write_Found = false ∨ (
    (bedWriteAll [Bed.ex3, Bed.ex12] ⟨200, []⟩).map (fun p => (p.1, p.2.room, p.2.out.take 30))
      = some (GoErr.nil, 89, [9, 45, 53, 9, 57, 50, 50, 51, 51, 55, 50, 48, 51, 54, 56, 53, 52, 55, 55, 53, 56, 48, 55,
          10, 99, 104, 114, 49, 9, 45])
    ∧ (bedWriteAll [Bed.ex3, Bed.ex12] ⟨30, []⟩).map (fun p => (p.1, p.2.room, p.2.out.length))
      = some (GoErr.other, 0, 30)
    ∧ (bedWriteAll [{ Bed.ex3 with n := 0 }, Bed.ex12] ⟨30, []⟩) = some (GoErr.other, ⟨30, []⟩)) := by
  decide +kernel
/-- what the translated `Write` wrote for `ex12`, decoded by the model reader -/
example : GoSrc.bed_Write_Found = false ∨
    (goBedWrite Bed.ex12 ⟨100, []⟩).map (fun p => Bed.decode p.2.out) = some [Item.ok Bed.ex12] := by
  decide +kernel

end Bio.Props.C04Go

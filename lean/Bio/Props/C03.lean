/-
  Property C03: formats/sam record and file round trips, one record per line,
  local line errors, fault prefix.

  The float codec `pf` (assumed `FormatFloat ∘ ParseFloat`) is a parameter; the only
  assumption about it sits inside `WF`: an `F t` tag of the record satisfies
  `pf t = some t` (its token is canonical).

  The vocabulary (`textOK`, `lineOK`, `nameOK`, `WFVal`, `WF`, `hdrOK`, `plainLine`, `lfFile`, `crlfFile`) is
  defined in `Bio/Lemmas/Sam.lean` and `Bio/Lemmas/Codec.lean`.
-/
import Bio.Lemmas.Sam
namespace Bio.Sam
open Bio

/-! ## Example data used by the non-vacuity checks -/

/-- Accepts exactly the canonical token `1.5e+00`. -/
def exPf : Bytes → Option Bytes :=
  fun t => if t = [49, 46, 53, 101, 43, 48, 48] then some t else none

/-- A record with double quotes, 0x00, 0xFF, an empty field, negative and extreme ints, and
one tag of each of the five types (the `Z` value contains colons and a double quote). -/
def exSam : Sam :=
  { qname := [114, 34, 49], flag := 99, rname := [], pos := -5, mapq := 60,
    cigar := [42], rnext := [61], pnext := 0, tlen := 9223372036854775807,
    seq := [65, 0, 255], qual := [34, 33, 34],
    tags := [([65, 65], .A 34), ([78, 77], .I (-3)),
             ([88, 70], .F [49, 46, 53, 101, 43, 48, 48]),
             ([88, 72], .H [0, 255, 16]), ([88, 90], .Z [58, 34, 58, 32])] }

/-- A second record: empty qname, no tags. -/
def exSam2 : Sam :=
  { qname := [], flag := 0, rname := [42], pos := 0, mapq := 255, cigar := [42], rnext := [42],
    pnext := -9223372036854775808, tlen := 0, seq := [42], qual := [34], tags := [] }

def exHs : List Bytes := [[64, 72, 68, 9, 86, 78, 58, 49], [64]]
def exRs : List Sam := [exSam, exSam2, exSam]

theorem exSam_WF : WF exPf exSam := by decide +kernel
theorem exSam2_WF : WF exPf exSam2 := by decide +kernel
theorem exHs_ok : ∀ h ∈ exHs, hdrOK h := by decide +kernel
theorem exRs_ok : ∀ s ∈ exRs, WF exPf s := by decide +kernel

/-! ## 1. Record round trip -/

theorem record_roundtrip (pf : Bytes → Option Bytes) (s : Sam) (h : WF pf s) :
    parseLine pf (splitOn TAB (encodeLine s)) = some s := by
  rw [splitOn_encodeLine pf h]; exact parseLine_fields pf h

example : WF exPf exSam := exSam_WF
example : parseLine exPf (splitOn TAB (encodeLine exSam)) = some exSam :=
  record_roundtrip _ _ exSam_WF

/-! ## 2. One record per line, sorted tags, write calls -/

theorem one_line (pf : Bytes → Option Bytes) (s : Sam) (h : WF pf s) :
    (10 : UInt8) ∉ encodeLine s ∧ (13 : UInt8) ∉ encodeLine s ∧
    encode s = encodeLine s ++ [10] ∧ encodeLine s ≠ [] :=
  have hl := encodeLine_textOK_or_tab pf h
  ⟨fun hm => (hl _ hm).1 rfl, fun hm => (hl _ hm).2 rfl, rfl, encodeLine_ne_nil s⟩

example : WF exPf exSam2 := exSam2_WF

theorem tags_sorted (s : Sam) :
    List.Pairwise (fun a b => bytesLe a b = true) (tagsToText s.tags) :=
  sortBytes_sorted _

theorem writeCalls_flatten (s : Sam) : (writeCalls s).flatten = encode s :=
  writeCalls_flatten' s

/-! ## 3. File round trip -/

theorem file_roundtrip (pf : Bytes → Option Bytes) (hs : List Bytes) (rs : List Sam)
    (hh : ∀ h ∈ hs, hdrOK h) (hr : ∀ s ∈ rs, WF pf s) :
    decodeHeader pf ((hs ++ rs.map encodeLine).map (· ++ [10])).flatten =
      hs.map (fun h => Item.ok (Entry.hdr h)) ++ rs.map (fun s => Item.ok (Entry.sam s)) ∧
    decode pf ((hs ++ rs.map encodeLine).map (· ++ [10])).flatten = rs.map Item.ok := by
  have e : decodeHeader pf ((hs ++ rs.map encodeLine).map (· ++ [10])).flatten =
      hs.map (fun h => Item.ok (Entry.hdr h)) ++ rs.map (fun s => Item.ok (Entry.sam s)) := by
    rw [← itemsOfLines_samLines pf hs rs hh hr]
    exact decodeHeader_lfFile pf _ (samLines_plain pf hs rs hh hr)
  refine ⟨e, ?_⟩
  rw [decode_eq, e, dropHeaders_samItems]

example : (∀ h ∈ exHs, hdrOK h) ∧ (∀ s ∈ exRs, WF exPf s) := ⟨exHs_ok, exRs_ok⟩

/-- CRLF variant: every line terminated by CR LF. -/
theorem file_roundtrip_crlf (pf : Bytes → Option Bytes) (hs : List Bytes) (rs : List Sam)
    (hh : ∀ h ∈ hs, hdrOK h) (hr : ∀ s ∈ rs, WF pf s) :
    decodeHeader pf ((hs ++ rs.map encodeLine).map (· ++ [13, 10])).flatten =
      hs.map (fun h => Item.ok (Entry.hdr h)) ++ rs.map (fun s => Item.ok (Entry.sam s)) ∧
    decode pf ((hs ++ rs.map encodeLine).map (· ++ [13, 10])).flatten = rs.map Item.ok := by
  have e : decodeHeader pf ((hs ++ rs.map encodeLine).map (· ++ [13, 10])).flatten =
      hs.map (fun h => Item.ok (Entry.hdr h)) ++ rs.map (fun s => Item.ok (Entry.sam s)) := by
    rw [← itemsOfLines_samLines pf hs rs hh hr]
    exact decodeHeader_crlfFile pf _ (fun l hl => (samLines_plain pf hs rs hh hr l hl).1)
  refine ⟨e, ?_⟩
  rw [decode_eq, e, dropHeaders_samItems]

/-- Missing final newline: the last record `r` is not LF-terminated. -/
theorem file_roundtrip_no_final_newline (pf : Bytes → Option Bytes) (hs : List Bytes)
    (rs : List Sam) (r : Sam)
    (hh : ∀ h ∈ hs, hdrOK h) (hr : ∀ s ∈ rs, WF pf s) (hlast : WF pf r) :
    decodeHeader pf (((hs ++ rs.map encodeLine).map (· ++ [10])).flatten ++ encodeLine r) =
      hs.map (fun h => Item.ok (Entry.hdr h)) ++
        (rs ++ [r]).map (fun s => Item.ok (Entry.sam s)) ∧
    decode pf (((hs ++ rs.map encodeLine).map (· ++ [10])).flatten ++ encodeLine r) =
      (rs ++ [r]).map Item.ok := by
  have hr' : ∀ s ∈ rs ++ [r], WF pf s := by
    intro s hs'
    rcases List.mem_append.1 hs' with h | h
    · exact hr s h
    · simp at h; subst h; exact hlast
  have e : decodeHeader pf (((hs ++ rs.map encodeLine).map (· ++ [10])).flatten ++ encodeLine r) =
      hs.map (fun h => Item.ok (Entry.hdr h)) ++
        (rs ++ [r]).map (fun s => Item.ok (Entry.sam s)) := by
    rw [← itemsOfLines_samLines pf hs (rs ++ [r]) hh hr']
    have := decodeHeader_lfFile_last pf (hs ++ rs.map encodeLine) (encodeLine r)
      (samLines_plain pf hs rs hh hr) (encodeLine_ne_nil r) (encodeLine_plain pf hlast)
    have e2 : hs ++ List.map encodeLine (rs ++ [r]) = hs ++ rs.map encodeLine ++ [encodeLine r] := by
      simp
    rw [e2]
    exact this
  refine ⟨e, ?_⟩
  rw [decode_eq, e, dropHeaders_samItems]

example : (∀ h ∈ exHs, hdrOK h) ∧ (∀ s ∈ exRs, WF exPf s) ∧ WF exPf exSam2 :=
  ⟨exHs_ok, exRs_ok, exSam2_WF⟩

/-! ## 4. A bad line yields exactly one error item, in place -/

theorem line_error_local (pf : Bytes → Option Bytes) (pre post : List Bytes) (l' : Bytes)
    (hpre : ∀ l ∈ pre, plainLine l) (hpost : ∀ l ∈ post, plainLine l)
    (hl : plainLine l') (hne : l' ≠ []) (h64 : l'.head? ≠ some 64)
    (hbad : parseLine pf (splitOn TAB l') = none) :
    decodeHeader pf (lfFile (pre ++ [l'] ++ post)) =
      decodeHeader pf (lfFile pre) ++ [Item.err] ++ decodeHeader pf (lfFile post) ∧
    decode pf (lfFile (pre ++ [l'] ++ post)) =
      decode pf (lfFile pre) ++ [Item.err] ++ decode pf (lfFile post) := by
  have hall := plainLine_mid hpre hpost hl
  have e : decodeHeader pf (lfFile (pre ++ [l'] ++ post)) =
      decodeHeader pf (lfFile pre) ++ [Item.err] ++ decodeHeader pf (lfFile post) := by
    rw [decodeHeader_lfFile pf _ hall, decodeHeader_lfFile pf _ hpre,
      decodeHeader_lfFile pf _ hpost, itemsOfLines_append, itemsOfLines_append,
      itemsOfLines_cons pf hne, lineItem_bad pf h64 hbad, itemsOfLines_nil]
  refine ⟨e, ?_⟩
  rw [decode_eq, e, dropHeaders_append, dropHeaders_append]
  rfl

example : lfFile [[97], [98, 99]] = [97, 10, 98, 99, 10] := by decide +kernel

/-- Non-vacuity: surrounding lines include a header, an empty line, another bad line and a
good record; the bad line has three fields. -/
example :
    let pre : List Bytes := [[64, 72, 68], [], [120, 9, 121]]
    let post : List Bytes := [[], [34, 34]]
    let l' : Bytes := [97, 34, 9, 98, 9, 99]
    (∀ l ∈ pre, plainLine l) ∧ (∀ l ∈ post, plainLine l) ∧ plainLine l' ∧ l' ≠ [] ∧
    l'.head? ≠ some 64 ∧ parseLine exPf (splitOn TAB l') = none := by decide +kernel

example : plainLine (encodeLine exSam) := encodeLine_plain exPf exSam_WF

/-- Corruption kind 1: fewer than 11 fields. -/
theorem corrupt_too_few_fields (pf : Bytes → Option Bytes) (fs : List Bytes)
    (h : fs.length < 11) : parseLine pf fs = none :=
  parseLine_too_few pf fs h

example : (splitOn TAB [97, 9, 98, 9, 9, 99]).length < 11 := by decide +kernel

/-- Corruption kind 2: one of the five integer fields (indices 1, 3, 4, 7, 8) is not accepted
by `atoi`. -/
theorem corrupt_bad_int (pf : Bytes → Option Bytes) (fs : List Bytes)
    (h : ∃ i ∈ [1, 3, 4, 7, 8], ∃ f, fs[i]? = some f ∧ atoi f = none) :
    parseLine pf fs = none :=
  parseLine_bad_int pf fs h

example : ∃ i ∈ [1, 3, 4, 7, 8], ∃ f,
    ([[113], [48], [42], [49], [49, 120], [42], [42], [48], [48], [42], [42]] : List Bytes)[i]?
      = some f ∧ atoi f = none :=
  ⟨4, by decide, [49, 120], by decide, by decide⟩

/-- What "non-numeric" means concretely: a byte that is neither a digit nor a sign, or the
empty string, makes `atoi` fail. -/
theorem atoi_nonnumeric (s : Bytes)
    (h : s = [] ∨ ∃ b ∈ s, isDigit b = false ∧ b ≠ 43 ∧ b ≠ 45) : atoi s = none := by
  rcases h with h | h
  · subst h; exact atoi_nil
  · exact atoi_none_of_nondigit h

example : ∃ b ∈ ([49, 120] : Bytes), isDigit b = false ∧ b ≠ 43 ∧ b ≠ 45 := by decide +kernel

/-- Corruption kind 3: a tag field with fewer than two colons. -/
theorem corrupt_tag_few_colons (pf : Bytes → Option Bytes) (fs : List Bytes) (f : Bytes)
    (hf : f ∈ fs.drop 11) (hc : f.count 58 < 2) : parseLine pf fs = none :=
  parseLine_none_of_tag pf fs hf (parseTag_none_of_splitTag (splitTag_none_of_count hc))

example : ([78, 77, 58, 105, 49] : Bytes) ∈
    ([[113], [48], [42], [49], [49], [42], [42], [48], [48], [42], [42],
      [78, 77, 58, 105, 49]] : List Bytes).drop 11 ∧
    ([78, 77, 58, 105, 49] : Bytes).count 58 < 2 := by decide +kernel

/-- Corruption kind 4: a tag `name:ty:val` whose value its type rejects (`A` with length ≠ 1,
`i` rejected by `atoi`, `H` of odd length), or whose type is unknown. -/
theorem corrupt_tag_bad_value (pf : Bytes → Option Bytes) (fs : List Bytes)
    (name ty val : Bytes)
    (hf : name ++ 58 :: (ty ++ 58 :: val) ∈ fs.drop 11)
    (hn : (58 : UInt8) ∉ name) (ht : (58 : UInt8) ∉ ty)
    (hbad : (ty = [65] ∧ val.length ≠ 1) ∨ (ty = [105] ∧ atoi val = none) ∨
            (ty = [72] ∧ val.length % 2 = 1) ∨
            ty ∉ [[65], [105], [102], [90], [72], [66]]) :
    parseLine pf fs = none := by
  apply parseLine_none_of_tag pf fs hf
  apply parseTag_bad_value pf val hn ht
  rcases hbad with ⟨rfl, h⟩ | ⟨rfl, h⟩ | ⟨rfl, h⟩ | h
  · exact parseTagVal_A_bad pf h
  · exact parseTagVal_i_bad pf h
  · exact parseTagVal_H_bad pf h
  · exact parseTagVal_unknown pf val h

/-- Non-vacuity for each disjunct of `hbad` (`XX:A:ab`, `XX:i:1x`, `XX:H:abc`, `XX:q:1`). -/
example :
    (([65] : Bytes) = [65] ∧ ([97, 98] : Bytes).length ≠ 1) ∧
    (([105] : Bytes) = [105] ∧ atoi [49, 120] = none) ∧
    (([72] : Bytes) = [72] ∧ ([97, 98, 99] : Bytes).length % 2 = 1) ∧
    (([113] : Bytes) ∉ ([[65], [105], [102], [90], [72], [66]] : List Bytes)) ∧
    ([88, 88] : Bytes) ++ 58 :: (([113] : Bytes) ++ 58 :: [49]) ∈
      ([[113], [48], [42], [49], [49], [42], [42], [48], [48], [42], [42],
        [88, 88, 58, 113, 58, 49]] : List Bytes).drop 11 ∧
    (58 : UInt8) ∉ ([88, 88] : Bytes) ∧ (58 : UInt8) ∉ ([113] : Bytes) := by decide +kernel

/-! ## 5. Read fault: a prefix of the fault-free items, then one error, nothing else -/

/-- General form, for any file of LF-terminated plain lines. -/
theorem fault_prefix_lines (pf : Bytes → Option Bytes) (ls : List Bytes)
    (h : ∀ l ∈ ls, plainLine l) (k : Nat) :
    (∃ n, decodeHeaderSrc pf .fail ((lfFile ls).take k) =
      (decodeHeader pf (lfFile ls)).take n ++ [Item.err]) ∧
    (∃ n, decodeSrc pf .fail ((lfFile ls).take k) =
      (decode pf (lfFile ls)).take n ++ [Item.err]) := by
  obtain ⟨n, hn⟩ := decodeHeaderSrc_fail_take pf ls h k
  obtain ⟨m, hm⟩ := itemsOfLines_take pf ls n
  have e : decodeHeaderSrc pf .fail ((lfFile ls).take k) =
      (decodeHeader pf (lfFile ls)).take m ++ [Item.err] := by
    rw [hn, hm, decodeHeader_lfFile pf ls h]
  refine ⟨⟨m, e⟩, ?_⟩
  obtain ⟨j, hj⟩ := dropHeaders_take (decodeHeader pf (lfFile ls)) m
  refine ⟨j, ?_⟩
  show dropHeaders (decodeHeaderSrc pf .fail ((lfFile ls).take k)) = _
  rw [e, dropHeaders_append, hj]
  rfl

theorem fault_prefix (pf : Bytes → Option Bytes) (hs : List Bytes) (rs : List Sam)
    (hh : ∀ h ∈ hs, hdrOK h) (hr : ∀ s ∈ rs, WF pf s) (k : Nat) :
    (∃ n, decodeHeaderSrc pf .fail
        (((hs ++ rs.map encodeLine).map (· ++ [10])).flatten.take k) =
      (decodeHeader pf ((hs ++ rs.map encodeLine).map (· ++ [10])).flatten).take n
        ++ [Item.err]) ∧
    (∃ n, decodeSrc pf .fail
        (((hs ++ rs.map encodeLine).map (· ++ [10])).flatten.take k) =
      (decode pf ((hs ++ rs.map encodeLine).map (· ++ [10])).flatten).take n
        ++ [Item.err]) :=
  fault_prefix_lines pf _ (samLines_plain pf hs rs hh hr) k

example : (∀ h ∈ exHs, hdrOK h) ∧ (∀ s ∈ exRs, WF exPf s) := ⟨exHs_ok, exRs_ok⟩
example : ∀ l ∈ ([[64, 72, 68], [], [120, 9, 121]] : List Bytes), plainLine l := by decide +kernel

end Bio.Sam

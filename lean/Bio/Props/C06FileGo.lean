/-
  C06 / C07 / C11 / C18, FILE level, for the Go SOURCE TEXT of the four `File` wrappers —
  `bed.File` (formats/bed/iter.go), `sam.File`, `sam.FileHeader` (formats/sam/iter.go), `newick.File`
  (formats/newick/newick.go) — as translated on every run, statement by statement, into
  `Bio.Generated.GoSrc.bed_File`, `sam_File`, `sam_FileHeader`, `newick_File`:

      func File(file string) iter.Seq2[*T, error] {
        return func(yield func(*T, error) bool) {
          f, err := aio.Open(file)
          if err != nil { yield(nil, err); return }
          defer f.Close()
          for x, err := range Reader(f) { if !yield(x, err) { break } }
        }
      }

  `o` below stands for `aio.Open` — a PARAMETER `name ↦ (reader state, error)`: the opened (possibly
  decompressed) file as an abstract `bufio.Reader` (`BufRd`; `ByteRd` for newick), or an error; NOTHING is
  assumed about it.  `defer f.Close()` is not modelled.  The `for … range Reader(f)` loop is Go
  range-over-func: the translation runs the translated inner iterator (`bed_Reader`, `sam_Reader`,
  `sam_ReaderHeader`, `newick_Reader` — the last also threads the `Node` heap) with the loop body as its
  HISTORY consumer, tests for the Go run-time panic "range function continued iteration after function for
  loop body returned false" (`none`), and returns the log the body built.  In the vocabulary of
  `Bio.Lemmas.GoSrcFile` (namespace `FileW`): the body is `fwd yield` (`log ↦ log ++ [item]`, continue iff
  `yield` says so), the replay of an inner history is `SamRd.runG (fwd yield)`, the consumer handed to the
  inner iterator is `fwdC yield = fun h => (runG (fwd yield) h).2`.

  For EACH of the four functions, for ARBITRARY library parameters (`strconv.*`, `hex.DecodeString`), an
  ARBITRARY `aio.Open`, every file name and EVERY history consumer:

  1. `go_*_file_open_error` (C07): `aio.Open` failed — the result is exactly ONE item `(nil, that error)`
     (for newick with the heap untouched), whatever the consumer answers, for any fuel.
  2. `go_*_file_eq_reader` (C06): `aio.Open` succeeded — `File file = Reader (the opened stream)`, as
     functions of the consumer (for newick: same log AND same final heap).  Fuel as for the inner
     theorems: `text lines + 1` of the opened stream (`len + 1` for newick), so at most
     `len(remaining bytes) + 1`.
  3. `go_*_file_no_panic` (C11 / C18): with that fuel the result is never `none`; and through the nested
     layers: the inner iterator returns a history `inner` under the loop body, the run-time-panic test
     `!(run inner.dropLast).2` FAILS, the replay gives back `inner`, and that is what `File` returns.
     For `FileHeader` also for ANY fuel (`go_sam_fileHeader_no_runtime_panic`): `none` only if
     `ReaderHeader` itself ran out of fuel.
     `go_*_file_early_stop` (C18, nested `File → Reader → …` layers): the log `L` is a prefix of the log
     `I'` of the consumer that never stops (which, when the file opened, is `Reader`'s uninterrupted log);
     the consumer answered `true` on every proper prefix; an item it declined is the LAST; a consumer that
     first declines at item `k + 1` of `I'` gets exactly `k + 1` items; "at most `k` items" gets
     `I'.take k`.  These hold in BOTH cases (opened / not opened): no hypothesis on `aio.Open`.
  4. Concrete runs (`decide +kernel`): a toy `aio.Open` that knows one name.

  Remarks:
  * (2) is stated with the fuel bound of the inner theorems.  (For every fuel it would need, for each
    inner iterator, "the result depends on the consumer only through its answers on the iterator's own
    log", which is proved for `ReaderHeader` (`SamRd.rhSpec_go_on`) and for the fasta / fastq `iter`
    (`FileW2.iterSpec_go_on`, stated in `C06File2Go`); with too little fuel both sides are `none`/no claim.)
  * (3) early stop, "a consumer declining at the k-th item sees exactly k": stated, as in
    `C04IterGo.go_bed_reader_early_stop`, for an item that EXISTS in the uninterrupted run
    (`k < I'.length`); when the file did not open `I'` is the single error item, about which the consumer
    is not asked — the clauses hold trivially (a consumer "declining" it still sees exactly that one item).
  * newick (2)/(3): the heap IS covered — `newick_File = newick_Reader` as pairs `(log, final heap)`
    (`FileW.readsDone_fwdC`: the `read()` calls made under the loop body are those made under `yield`).

  Guarded by the translator's `_Found` flags (see `Bio.Lemmas.GoSrc`).
-/
import Bio.Lemmas.GoSrcFile
import Bio.Props.C04IterGo
import Bio.Props.C05IterGo
import Bio.Props.C03ReaderGo
set_option linter.unusedVariables false -- the `hF` of the flag idiom (Lemmas/GoSrc.lean)
namespace Bio.Props.C06FileGo
open Bio Bio.GoRt Bio.Generated Bio.GoSrcLemmas Bio.GoSrcLemmas.FileW
open Bio.GoSrcLemmas.SamRd (runG OItem)

/-- every translator flag this file depends on; the non-vacuity examples below are stated as
`allFound = false ∨ …` so that a source the translator no longer recognises is not an alarm -/
def allFound : Bool :=
  GoSrc.bed_File_Found && GoSrc.sam_File_Found && GoSrc.sam_FileHeader_Found && GoSrc.newick_File_Found
    && C04IterGo.allFound && C03ReaderGo.allFound && C05IterGo.allFound

/-! ## 0. The loop body, spelled out; the generic fact -/

/-- the forwarding body; the replay `runG` of an inner history through it (what follows an item on which
the body answered `false` is ignored); the consumer handed to the inner iterator -/
example {α : Type} (y : List α → Bool) (log l : List α) (item x : α) :
    fwd y log item = (log ++ [item], y (log ++ [item]))
    ∧ runG (fwd y) [] = ([], true)
    ∧ runG (fwd y) (l ++ [x])
        = (if (runG (fwd y) l).2 = true then fwd y (runG (fwd y) l).1 x else runG (fwd y) l)
    ∧ fwdC y l = (runG (fwd y) l).2 :=
  ⟨rfl, rfl, SamRd.runG_concat _ _ _, rfl⟩

/-- THE GENERIC FACT behind (2): the forwarding range-over-func loop is the identity on iterators that
respect their consumer.  If the inner history `L` has the take-through discipline for the consumer
`fwdC y` (the iterator went on only after a `true`), then the run-time-panic test fails, the replay gives
back `L` itself, and the OUTER consumer `y` said `true` on every proper prefix of `L`; and cutting an item
list by `fwdC y` is cutting it by `y`. -/
theorem go_file_forwarding {α : Type} (y : List α → Bool) :
    (∀ L : List α, (∀ j, j + 1 < L.length → fwdC y (L.take (j + 1)) = true) →
      (runG (fwd y) L.dropLast).2 = true ∧ (runG (fwd y) L).1 = L
      ∧ (∀ j, j + 1 < L.length → y (L.take (j + 1)) = true))
    ∧ (∀ xs : List α, takeThroughH (fwdC y) [] xs = takeThroughH y [] xs) :=
  ⟨fun L h => ⟨(fwd_replay y L h).1, (fwd_replay y L h).2.1, (fwd_replay y L h).2.2.1⟩,
    takeThroughH_fwdC y⟩

/-! ## 1. bed.File -/

/-- C07: the path cannot be opened — exactly ONE item, `(nil, err)`, the consumer's verdict ignored; for
ARBITRARY parameters, consumer and fuel. -/
theorem go_bed_file_open_error : GoSrc.bed_File_Found = true →
    ∀ (o : Bytes → BufRd × GoErr) (f : Bytes → Int × GoErr) (g : Bytes → Int → Int → Int × GoErr)
      (fuel : Nat) (file : Bytes) (yield : List BedIt.GoItem → Bool), (o file).2 ≠ GoErr.nil →
    GoSrc.bed_File o f g fuel file yield = some [(none, (o file).2)] := by
  intro hFl o f g fuel file yield ho
  rw [bed_File_spec hFl, if_pos ho]

/-- C06, THE MAIN THEOREM: the path opens — `File(file)` IS `Reader(f)` on the opened stream, for EVERY
history consumer (fuel: `text lines + 1` of the opened stream). -/
theorem go_bed_file_eq_reader : GoSrc.bed_File_Found = true → GoSrc.bed_Reader_Found = true →
    GoSrc.bed_read_Found = true → GoSrc.parseLine_Found = true →
    ∀ (o : Bytes → BufRd × GoErr) (f : Bytes → Int × GoErr) (g : Bytes → Int → Int → Int × GoErr)
      (fuel : Nat) (file : Bytes), (o file).2 = GoErr.nil →
      (textLines (o file).1.ending (o file).1.rest).length + 1 ≤ fuel →
    ∀ yield : List BedIt.GoItem → Bool,
      GoSrc.bed_File o f g fuel file yield = GoSrc.bed_Reader f g fuel (o file).1 yield :=
  fun hFl hR hF hP o f g fuel file ho hfuel yield => by
    rw [bed_File_spec hFl, if_neg (not_not_intro ho), (bed_Reader_law hR hF hP f g fuel _ hfuel).after_eq]

/-- the fuel hypothesis is satisfiable for every stream: `len(remaining bytes) + 1` always suffices -/
example (r : BufRd) : (textLines r.ending r.rest).length + 1 ≤ r.rest.length + 1 :=
  C04IterGo.go_bed_reader_fuel r.ending r.rest

/-- C11 / C18: never `none` (whether or not the path opens); and when it opens, through the layers: the
inner `Reader` returns a history under the loop body, the run-time-panic test fails on it, its replay is
itself, and it is what `File` returns. -/
theorem go_bed_file_no_panic : GoSrc.bed_File_Found = true → GoSrc.bed_Reader_Found = true →
    GoSrc.bed_read_Found = true → GoSrc.parseLine_Found = true →
    ∀ (o : Bytes → BufRd × GoErr) (f : Bytes → Int × GoErr) (g : Bytes → Int → Int → Int × GoErr)
      (fuel : Nat) (file : Bytes) (yield : List BedIt.GoItem → Bool),
      ((o file).2 = GoErr.nil → (textLines (o file).1.ending (o file).1.rest).length + 1 ≤ fuel) →
    GoSrc.bed_File o f g fuel file yield ≠ none
    ∧ ((o file).2 = GoErr.nil → ∃ inner, GoSrc.bed_Reader f g fuel (o file).1 (fwdC yield) = some inner
        ∧ (runG (fwd yield) inner.dropLast).2 = true ∧ (runG (fwd yield) inner).1 = inner
        ∧ GoSrc.bed_File o f g fuel file yield = some inner) :=
  fun hFl hR hF hP o f g fuel file yield hfuel => file_no_panic (bed_File_spec hFl o f g fuel file)
    (fun ho => bed_Reader_law hR hF hP f g fuel _ (hfuel ho)) yield

/-- C18, nested layers `File → Reader → read`, EVERY history consumer `y`, path opened or not: `File`
returns a log `L`; with the consumer that never stops it returns `I'` (when the path opened: the
uninterrupted log of `Reader` on the opened stream); (b) `L` is a prefix of `I'`; (a) `y` answered `true`
on every proper prefix history and an item after which `y` answered `false` is the last one: nothing is
handed over after the consumer declined; (c) if `y` first declines at item `k + 1` of `I'`, the log is
exactly the first `k + 1` items; if it never declines before the last item, the log is `I'`; the stateful
"at most `k` items" (`k ≥ 1`) sees `I'.take k`. -/
theorem go_bed_file_early_stop : GoSrc.bed_File_Found = true → GoSrc.bed_Reader_Found = true →
    GoSrc.bed_read_Found = true → GoSrc.parseLine_Found = true →
    ∀ (o : Bytes → BufRd × GoErr) (f : Bytes → Int × GoErr) (g : Bytes → Int → Int → Int × GoErr)
      (fuel : Nat) (file : Bytes) (y : List BedIt.GoItem → Bool),
      ((o file).2 = GoErr.nil → (textLines (o file).1.ending (o file).1.rest).length + 1 ≤ fuel) →
    ∃ L I', GoSrc.bed_File o f g fuel file y = some L
      ∧ GoSrc.bed_File o f g fuel file (fun _ => true) = some I'
      ∧ ((o file).2 = GoErr.nil → GoSrc.bed_Reader f g fuel (o file).1 (fun _ => true) = some I')
      ∧ L <+: I'
      ∧ (∀ i, i + 1 < L.length → y (L.take (i + 1)) = true)
      ∧ (∀ i, i < L.length → y (L.take (i + 1)) = false → i + 1 = L.length)
      ∧ (∀ k, k < I'.length → (∀ j, j < k → y (I'.take (j + 1)) = true) → y (I'.take (k + 1)) = false →
          L = I'.take (k + 1) ∧ L.length = k + 1)
      ∧ ((∀ j, j + 1 < I'.length → y (I'.take (j + 1)) = true) → L = I')
      ∧ (∀ k, 1 ≤ k → GoSrc.bed_File o f g fuel file (fun l => decide (l.length < k)) = some (I'.take k)) := by
  intro hFl hR hF hP o f g fuel file y hfuel
  exact (bed_File_law hFl hR hF hP o f g fuel file hfuel).early_stop _ (fun hall ho => by
    rw [← go_bed_file_eq_reader hFl hR hF hP o f g fuel file ho (hfuel ho), hall]) y

/-! ## 2. sam.File -/

/-- C07: the path cannot be opened — exactly ONE item, `(nil, err)`, the consumer's verdict ignored. -/
theorem go_sam_file_open_error : GoSrc.sam_File_Found = true →
    ∀ (h : Bytes → Bytes × GoErr) (o : Bytes → BufRd × GoErr) (f : Bytes → Int × GoErr)
      (g : Bytes → Int → Bytes × GoErr) (fuel : Nat) (file : Bytes) (yield : List OItem → Bool),
      (o file).2 ≠ GoErr.nil →
    GoSrc.sam_File h o f g fuel file yield = some [(none, (o file).2)] := by
  intro hFl h o f g fuel file yield ho
  rw [sam_File_spec hFl, if_pos ho]

/-- C06: the path opens — `File(file)` IS `Reader(f)` on the opened stream, for EVERY history consumer. -/
theorem go_sam_file_eq_reader : GoSrc.sam_File_Found = true → GoSrc.sam_Reader_Found = true →
    GoSrc.sam_ReaderHeader_Found = true → GoSrc.sam_parseLine_Found = true → GoSrc.parseInts_Found = true →
    GoSrc.parseTags_Found = true → GoSrc.splitTag_Found = true →
    ∀ (h : Bytes → Bytes × GoErr) (o : Bytes → BufRd × GoErr) (f : Bytes → Int × GoErr)
      (g : Bytes → Int → Bytes × GoErr) (fuel : Nat) (file : Bytes), (o file).2 = GoErr.nil →
      (textLines (o file).1.ending (o file).1.rest).length + 1 ≤ fuel →
    ∀ yield : List OItem → Bool,
      GoSrc.sam_File h o f g fuel file yield = GoSrc.sam_Reader h f g fuel (o file).1 yield :=
  fun hFl hRd hR hF hI hT hS h o f g fuel file ho hfuel yield =>
    by rw [sam_File_spec hFl, if_neg (not_not_intro ho),
      (sam_Reader_law hRd hR hF hI hT hS h f g fuel _ hfuel).after_eq]

/-- C11 / C18: never `none`; when the path opens, through the THREE layers `File → Reader → ReaderHeader`:
the inner `Reader` (itself a range-over-func loop over `ReaderHeader`, whose own run-time-panic test fails:
`C03ReaderGo.go_sam_reader_no_runtime_panic`) returns a history under the loop body of `File`, the
run-time-panic test of `File` fails on it, its replay is itself, and it is what `File` returns. -/
theorem go_sam_file_no_panic : GoSrc.sam_File_Found = true → GoSrc.sam_Reader_Found = true →
    GoSrc.sam_ReaderHeader_Found = true → GoSrc.sam_parseLine_Found = true → GoSrc.parseInts_Found = true →
    GoSrc.parseTags_Found = true → GoSrc.splitTag_Found = true →
    ∀ (h : Bytes → Bytes × GoErr) (o : Bytes → BufRd × GoErr) (f : Bytes → Int × GoErr)
      (g : Bytes → Int → Bytes × GoErr) (fuel : Nat) (file : Bytes) (yield : List OItem → Bool),
      ((o file).2 = GoErr.nil → (textLines (o file).1.ending (o file).1.rest).length + 1 ≤ fuel) →
    GoSrc.sam_File h o f g fuel file yield ≠ none
    ∧ ((o file).2 = GoErr.nil → ∃ inner, GoSrc.sam_Reader h f g fuel (o file).1 (fwdC yield) = some inner
        ∧ (runG (fwd yield) inner.dropLast).2 = true ∧ (runG (fwd yield) inner).1 = inner
        ∧ GoSrc.sam_File h o f g fuel file yield = some inner) :=
  fun hFl hRd hR hF hI hT hS h o f g fuel file yield hfuel => file_no_panic
    (sam_File_spec hFl h o f g fuel file) (fun ho => sam_Reader_law hRd hR hF hI hT hS h f g fuel _ (hfuel ho)) yield

/-- C18, nested layers `File → Reader → ReaderHeader`, EVERY history consumer `y`, path opened or not
(clauses as in `go_bed_file_early_stop`). -/
theorem go_sam_file_early_stop : GoSrc.sam_File_Found = true → GoSrc.sam_Reader_Found = true →
    GoSrc.sam_ReaderHeader_Found = true → GoSrc.sam_parseLine_Found = true → GoSrc.parseInts_Found = true →
    GoSrc.parseTags_Found = true → GoSrc.splitTag_Found = true →
    ∀ (h : Bytes → Bytes × GoErr) (o : Bytes → BufRd × GoErr) (f : Bytes → Int × GoErr)
      (g : Bytes → Int → Bytes × GoErr) (fuel : Nat) (file : Bytes) (y : List OItem → Bool),
      ((o file).2 = GoErr.nil → (textLines (o file).1.ending (o file).1.rest).length + 1 ≤ fuel) →
    ∃ L I', GoSrc.sam_File h o f g fuel file y = some L
      ∧ GoSrc.sam_File h o f g fuel file (fun _ => true) = some I'
      ∧ ((o file).2 = GoErr.nil → GoSrc.sam_Reader h f g fuel (o file).1 (fun _ => true) = some I')
      ∧ L <+: I'
      ∧ (∀ i, i + 1 < L.length → y (L.take (i + 1)) = true)
      ∧ (∀ i, i < L.length → y (L.take (i + 1)) = false → i + 1 = L.length)
      ∧ (∀ k, k < I'.length → (∀ j, j < k → y (I'.take (j + 1)) = true) → y (I'.take (k + 1)) = false →
          L = I'.take (k + 1) ∧ L.length = k + 1)
      ∧ ((∀ j, j + 1 < I'.length → y (I'.take (j + 1)) = true) → L = I')
      ∧ (∀ k, 1 ≤ k → GoSrc.sam_File h o f g fuel file (fun l => decide (l.length < k)) = some (I'.take k)) := by
  intro hFl hRd hR hF hI hT hS h o f g fuel file y hfuel
  exact (sam_File_law hFl hRd hR hF hI hT hS h o f g fuel file hfuel).early_stop _ (fun hall ho => by
    rw [← go_sam_file_eq_reader hFl hRd hR hF hI hT hS h o f g fuel file ho (hfuel ho), hall]) y

/-! ## 3. sam.FileHeader -/

/-- C07: the path cannot be opened — exactly ONE item, `(SAMOrHeader{}, err)`, the verdict ignored. -/
theorem go_sam_fileHeader_open_error : GoSrc.sam_FileHeader_Found = true →
    ∀ (h : Bytes → Bytes × GoErr) (o : Bytes → BufRd × GoErr) (f : Bytes → Int × GoErr)
      (g : Bytes → Int → Bytes × GoErr) (fuel : Nat) (file : Bytes) (yield : List SamIt.GoItem → Bool),
      (o file).2 ≠ GoErr.nil →
    GoSrc.sam_FileHeader h o f g fuel file yield = some [((none, none), (o file).2)] := by
  intro hFl h o f g fuel file yield ho
  rw [sam_FileHeader_spec hFl, if_pos ho]

/-- C06: the path opens — `FileHeader(file)` IS `ReaderHeader(f)` on the opened stream. -/
theorem go_sam_fileHeader_eq_reader : GoSrc.sam_FileHeader_Found = true →
    GoSrc.sam_ReaderHeader_Found = true → GoSrc.sam_parseLine_Found = true → GoSrc.parseInts_Found = true →
    GoSrc.parseTags_Found = true → GoSrc.splitTag_Found = true →
    ∀ (h : Bytes → Bytes × GoErr) (o : Bytes → BufRd × GoErr) (f : Bytes → Int × GoErr)
      (g : Bytes → Int → Bytes × GoErr) (fuel : Nat) (file : Bytes), (o file).2 = GoErr.nil →
      (textLines (o file).1.ending (o file).1.rest).length + 1 ≤ fuel →
    ∀ yield : List SamIt.GoItem → Bool,
      GoSrc.sam_FileHeader h o f g fuel file yield = GoSrc.sam_ReaderHeader h f g fuel (o file).1 yield :=
  fun hFl hR hF hI hT hS h o f g fuel file ho hfuel yield =>
    by rw [sam_FileHeader_spec hFl, if_neg (not_not_intro ho),
      (sam_ReaderHeader_law hR hF hI hT hS h f g fuel _ hfuel).after_eq]

/-- For ANY fuel, reader and consumer (the path opened): whenever the inner `ReaderHeader`, run with the
loop body as its consumer, returns a history, the run-time-panic test fails and `FileHeader` returns that
very history; so `FileHeader` is `none` ONLY when `ReaderHeader` itself is (out of fuel).  (The generic
lemma `FileW.fwd_replay` on the take-through discipline of `ReaderHeader`, `SamRd.rhSpec_go_on`.) -/
theorem go_sam_fileHeader_no_runtime_panic : GoSrc.sam_FileHeader_Found = true →
    GoSrc.sam_ReaderHeader_Found = true → GoSrc.sam_parseLine_Found = true → GoSrc.parseInts_Found = true →
    GoSrc.parseTags_Found = true → GoSrc.splitTag_Found = true →
    ∀ (h : Bytes → Bytes × GoErr) (o : Bytes → BufRd × GoErr) (f : Bytes → Int × GoErr)
      (g : Bytes → Int → Bytes × GoErr) (fuel : Nat) (file : Bytes) (yield : List SamIt.GoItem → Bool),
      (o file).2 = GoErr.nil →
    (∀ inner, GoSrc.sam_ReaderHeader h f g fuel (o file).1 (fwdC yield) = some inner →
      (runG (fwd yield) inner.dropLast).2 = true
      ∧ GoSrc.sam_FileHeader h o f g fuel file yield = some inner)
    ∧ (GoSrc.sam_FileHeader h o f g fuel file yield = none
        ↔ GoSrc.sam_ReaderHeader h f g fuel (o file).1 (fwdC yield) = none) := by
  intro hFl hR hF hI hT hS h o f g fuel file yield ho
  have key := fun inner hin => sam_FileHeader_some hFl hR hF hI hT hS h o f g fuel file yield ho inner hin
  refine ⟨key, ?_⟩
  cases hin : GoSrc.sam_ReaderHeader h f g fuel (o file).1 (fwdC yield) with
  | none =>
    rw [sam_FileHeader_spec hFl, if_neg (by simpa using ho), hin]
    exact ⟨fun _ => rfl, fun _ => rfl⟩
  | some inner => rw [(key inner hin).2]

/-- C11 / C18: with `text lines + 1` fuel never `none`; through the layers as in `go_bed_file_no_panic`. -/
theorem go_sam_fileHeader_no_panic : GoSrc.sam_FileHeader_Found = true →
    GoSrc.sam_ReaderHeader_Found = true → GoSrc.sam_parseLine_Found = true → GoSrc.parseInts_Found = true →
    GoSrc.parseTags_Found = true → GoSrc.splitTag_Found = true →
    ∀ (h : Bytes → Bytes × GoErr) (o : Bytes → BufRd × GoErr) (f : Bytes → Int × GoErr)
      (g : Bytes → Int → Bytes × GoErr) (fuel : Nat) (file : Bytes) (yield : List SamIt.GoItem → Bool),
      ((o file).2 = GoErr.nil → (textLines (o file).1.ending (o file).1.rest).length + 1 ≤ fuel) →
    GoSrc.sam_FileHeader h o f g fuel file yield ≠ none
    ∧ ((o file).2 = GoErr.nil → ∃ inner,
        GoSrc.sam_ReaderHeader h f g fuel (o file).1 (fwdC yield) = some inner
        ∧ (runG (fwd yield) inner.dropLast).2 = true ∧ (runG (fwd yield) inner).1 = inner
        ∧ GoSrc.sam_FileHeader h o f g fuel file yield = some inner) :=
  fun hFl hR hF hI hT hS h o f g fuel file yield hfuel => file_no_panic
    (sam_FileHeader_spec hFl h o f g fuel file)
    (fun ho => sam_ReaderHeader_law hR hF hI hT hS h f g fuel _ (hfuel ho)) yield

/-- C18, nested layers `FileHeader → ReaderHeader`, EVERY history consumer `y`, path opened or not
(clauses as in `go_bed_file_early_stop`). -/
theorem go_sam_fileHeader_early_stop : GoSrc.sam_FileHeader_Found = true →
    GoSrc.sam_ReaderHeader_Found = true → GoSrc.sam_parseLine_Found = true → GoSrc.parseInts_Found = true →
    GoSrc.parseTags_Found = true → GoSrc.splitTag_Found = true →
    ∀ (h : Bytes → Bytes × GoErr) (o : Bytes → BufRd × GoErr) (f : Bytes → Int × GoErr)
      (g : Bytes → Int → Bytes × GoErr) (fuel : Nat) (file : Bytes) (y : List SamIt.GoItem → Bool),
      ((o file).2 = GoErr.nil → (textLines (o file).1.ending (o file).1.rest).length + 1 ≤ fuel) →
    ∃ L I', GoSrc.sam_FileHeader h o f g fuel file y = some L
      ∧ GoSrc.sam_FileHeader h o f g fuel file (fun _ => true) = some I'
      ∧ ((o file).2 = GoErr.nil → GoSrc.sam_ReaderHeader h f g fuel (o file).1 (fun _ => true) = some I')
      ∧ L <+: I'
      ∧ (∀ i, i + 1 < L.length → y (L.take (i + 1)) = true)
      ∧ (∀ i, i < L.length → y (L.take (i + 1)) = false → i + 1 = L.length)
      ∧ (∀ k, k < I'.length → (∀ j, j < k → y (I'.take (j + 1)) = true) → y (I'.take (k + 1)) = false →
          L = I'.take (k + 1) ∧ L.length = k + 1)
      ∧ ((∀ j, j + 1 < I'.length → y (I'.take (j + 1)) = true) → L = I')
      ∧ (∀ k, 1 ≤ k →
          GoSrc.sam_FileHeader h o f g fuel file (fun l => decide (l.length < k)) = some (I'.take k)) := by
  intro hFl hR hF hI hT hS h o f g fuel file y hfuel
  exact (sam_FileHeader_law hFl hR hF hI hT hS h o f g fuel file hfuel).early_stop _ (fun hall ho => by
    rw [← go_sam_fileHeader_eq_reader hFl hR hF hI hT hS h o f g fuel file ho (hfuel ho), hall]) y

/-! ## 4. newick.File (the `Node` heap is threaded through) -/

/-- C07: the path cannot be opened — exactly ONE item, `(nil, err)`, the consumer's verdict ignored, and
the heap is untouched (nothing was allocated). -/
theorem go_newick_file_open_error : GoSrc.newick_File_Found = true →
    ∀ (o : Bytes → ByteRd × GoErr) (pf : NwkRd.PF) (fuel : Nat) (heap : NwkRd.Heap) (file : Bytes)
      (yield : List NwkIt.GoItem → Bool), (o file).2 ≠ GoErr.nil →
    GoSrc.newick_File o pf fuel heap file yield = some ([(-1, (o file).2)], heap) := by
  intro hFl o pf fuel heap file yield ho
  rw [newick_File_spec hFl, if_pos ho]

/-- C06: the path opens — `File(file)` IS `Reader(f)` on the opened stream, for EVERY history consumer:
the same log AND the same final heap (the same `read()` calls were made: no allocation more, none less). -/
theorem go_newick_file_eq_reader : GoSrc.newick_File_Found = true → GoSrc.newick_Reader_Found = true →
    GoSrc.newick_read_Found = true → GoSrc.newick_nextToken_Found = true →
    GoSrc.nameFromText_Found = true → GoSrc.quoted_Found = true →
    ∀ (o : Bytes → ByteRd × GoErr) (pf : NwkRd.PF) (fuel : Nat) (heap : NwkRd.Heap) (file : Bytes),
      (o file).2 = GoErr.nil → (o file).1.rest.length + 1 ≤ fuel →
    ∀ yield : List NwkIt.GoItem → Bool,
      GoSrc.newick_File o pf fuel heap file yield = GoSrc.newick_Reader pf fuel heap (o file).1 yield :=
  fun hFl hF hR hT hN hQ o pf fuel heap file ho hfuel yield =>
    newick_File_raw hFl hF hR hT hN hQ o pf fuel heap file yield ho hfuel

/-- C11 / C18: never `none`; when the path opens, through the layers: the inner `Reader` returns a history
and a heap under the loop body, the run-time-panic test fails, the replay of the history is itself, and
`File` returns that history with that heap. -/
theorem go_newick_file_no_panic : GoSrc.newick_File_Found = true → GoSrc.newick_Reader_Found = true →
    GoSrc.newick_read_Found = true → GoSrc.newick_nextToken_Found = true →
    GoSrc.nameFromText_Found = true → GoSrc.quoted_Found = true →
    ∀ (o : Bytes → ByteRd × GoErr) (pf : NwkRd.PF) (fuel : Nat) (heap : NwkRd.Heap) (file : Bytes)
      (yield : List NwkIt.GoItem → Bool),
      ((o file).2 = GoErr.nil → (o file).1.rest.length + 1 ≤ fuel) →
    GoSrc.newick_File o pf fuel heap file yield ≠ none
    ∧ ((o file).2 = GoErr.nil → ∃ inner heap',
        GoSrc.newick_Reader pf fuel heap (o file).1 (fwdC yield) = some (inner, heap')
        ∧ (runG (fwd yield) inner.dropLast).2 = true ∧ (runG (fwd yield) inner).1 = inner
        ∧ GoSrc.newick_File o pf fuel heap file yield = some (inner, heap')) := by
  intro hFl hF hR hT hN hQ o pf fuel heap file yield hfuel
  refine ⟨by rw [newick_File_log hFl hF hR hT hN hQ o pf fuel heap file yield hfuel]; simp, fun ho => ?_⟩
  have h1 := (C05IterGo.go_newick_reader_log hF hR hT hN hQ pf heap (o file).1 (fwdC yield) fuel (hfuel ho)).1
  have h2 := (C05IterGo.go_newick_reader_log hF hR hT hN hQ pf heap (o file).1 yield fuel (hfuel ho)).1
  obtain ⟨a, b, c⟩ := after_layers yield (NwkIt.goItems pf fuel heap (o file).1)
  refine ⟨_, _, h1, a, b, ?_⟩
  rw [go_newick_file_eq_reader hFl hF hR hT hN hQ o pf fuel heap file ho (hfuel ho), h2, c,
    readsDone_fwdC yield _ [] rfl]

/-- C18, nested layers `File → Reader → read`, EVERY history consumer `y`, path opened or not: the clauses
of `go_bed_file_early_stop` about the logs; and the heap `H` handed back is the initial heap with cells
appended (cells that existed before are never written); when the consumer stops early the heap is that of
`Reader` on the opened stream under the same consumer (`go_newick_file_eq_reader`), i.e. the trees not
asked for are never allocated (`C05IterGo.go_newick_reader_heap`, `go_newick_reader_stop_at`). -/
theorem go_newick_file_early_stop : GoSrc.newick_File_Found = true → GoSrc.newick_Reader_Found = true →
    GoSrc.newick_read_Found = true → GoSrc.newick_nextToken_Found = true →
    GoSrc.nameFromText_Found = true → GoSrc.quoted_Found = true →
    ∀ (o : Bytes → ByteRd × GoErr) (pf : NwkRd.PF) (fuel : Nat) (heap : NwkRd.Heap) (file : Bytes)
      (y : List NwkIt.GoItem → Bool),
      ((o file).2 = GoErr.nil → (o file).1.rest.length + 1 ≤ fuel) →
    ∃ L H I' H', GoSrc.newick_File o pf fuel heap file y = some (L, H)
      ∧ GoSrc.newick_File o pf fuel heap file (fun _ => true) = some (I', H')
      ∧ ((o file).2 = GoErr.nil → GoSrc.newick_Reader pf fuel heap (o file).1 (fun _ => true) = some (I', H'))
      ∧ L <+: I'
      ∧ (∀ i, i + 1 < L.length → y (L.take (i + 1)) = true)
      ∧ (∀ i, i < L.length → y (L.take (i + 1)) = false → i + 1 = L.length)
      ∧ (∀ k, k < I'.length → (∀ j, j < k → y (I'.take (j + 1)) = true) → y (I'.take (k + 1)) = false →
          L = I'.take (k + 1) ∧ L.length = k + 1)
      ∧ ((∀ j, j + 1 < I'.length → y (I'.take (j + 1)) = true) → L = I')
      ∧ (∀ k, 1 ≤ k →
          (GoSrc.newick_File o pf fuel heap file (fun l => decide (l.length < k))).map (·.1) = some (I'.take k))
      ∧ (∃ ext, H = heap ++ ext) := by
  intro hFl hF hR hT hN hQ o pf fuel heap file y hfuel
  have hl := fun y => newick_File_log hFl hF hR hT hN hQ o pf fuel heap file y hfuel
  obtain ⟨h0, h1, h2, h3, h4, h5, h6⟩ := takeThroughH_early_stop y (newickFileItems o pf fuel heap file)
  have hall : GoSrc.newick_File o pf fuel heap file (fun _ => true)
      = some (newickFileItems o pf fuel heap file, newickFileHeap o pf fuel heap file (fun _ => true)) := by
    rw [hl, h0]
  refine ⟨_, _, _, _, hl y, hall, fun ho => ?_, h1, h2, h3, h4, h5,
    fun k hk => by rw [hl, h6 k hk]; rfl, ?_⟩
  · rw [← go_newick_file_eq_reader hFl hF hR hT hN hQ o pf fuel heap file ho (hfuel ho), hall]
  · by_cases ho : (o file).2 = GoErr.nil
    · obtain ⟨log, heap', D, hrun, _, _, _, hext, _⟩ :=
        C05IterGo.go_newick_reader_heap hF hR hT hN hQ pf heap (o file).1 y fuel (hfuel ho)
      have := hl y
      rw [go_newick_file_eq_reader hFl hF hR hT hN hQ o pf fuel heap file ho (hfuel ho), hrun] at this
      simp only [Option.some.injEq, Prod.mk.injEq] at this
      rw [← this.2]; exact hext
    · exact ⟨[], by simp [newickFileHeap, ho]⟩

/-! ## 5. Concrete runs of the translated closures -/

/-- the flags -/
example : allFound = false ∨ (GoSrc.bed_File_Found = true ∧ GoSrc.sam_File_Found = true
    ∧ GoSrc.sam_FileHeader_Found = true ∧ GoSrc.newick_File_Found = true ∧ C04IterGo.allFound = true
    ∧ C03ReaderGo.allFound = true ∧ C05IterGo.allFound = true) := by decide

/-- `a.bed`, `a.sam`, `a.nwk`, `x` -/
def nameBed : Bytes := [97, 46, 98, 101, 100]
def nameSam : Bytes := [97, 46, 115, 97, 109]
def nameNwk : Bytes := [97, 46, 110, 119, 107]
def nameX : Bytes := [120]

/-- a toy `aio.Open`: `a.bed` opens on the two-record text `C04IterGo.exIn2`; `a.sam` on the same text
but the source FAILS after it; any other name cannot be opened -/
def openBed (name : Bytes) : BufRd × GoErr :=
  if name = nameBed then (⟨C04IterGo.exIn2, .eof⟩, GoErr.nil)
  else if name = nameSam then (⟨C04IterGo.exIn2, .fail⟩, GoErr.nil)
  else (⟨[], .eof⟩, GoErr.other)

/-- the hypotheses of (1) and (2)–(3) on it -/
example : (openBed nameX).2 ≠ GoErr.nil ∧ (openBed nameBed).2 = GoErr.nil
    ∧ (textLines (openBed nameBed).1.ending (openBed nameBed).1.rest).length + 1 ≤ 3
    ∧ ((openBed nameX).2 = GoErr.nil →
        (textLines (openBed nameX).1.ending (openBed nameX).1.rest).length + 1 ≤ 0) := by
  decide +kernel

set_option synthInstance.maxSize 4096 in
/-- `bed.File("a.bed")` read completely: the two records — what `Reader` returns on the opened stream;
stopped after one item (a consumer that always declines; the stateful "at most one item"); the inner
`Reader` under the loop body handed over ONE item too; `"x"` cannot be opened: ONE error item, whatever the
consumer answers, even without fuel; a stream that fails after the two records: a final error item -/
example : allFound = false ∨ (
    GoSrc.bed_File openBed BedRd.atoiP BedRd.puP 3 nameBed (fun _ => true) = some [C04IterGo.r1, C04IterGo.r2]
    ∧ GoSrc.bed_Reader BedRd.atoiP BedRd.puP 3 (openBed nameBed).1 (fun _ => true)
      = some [C04IterGo.r1, C04IterGo.r2]
    ∧ GoSrc.bed_File openBed BedRd.atoiP BedRd.puP 3 nameBed (fun _ => false) = some [C04IterGo.r1]
    ∧ GoSrc.bed_File openBed BedRd.atoiP BedRd.puP 3 nameBed (fun l => decide (l.length < 1))
      = some [C04IterGo.r1]
    ∧ GoSrc.bed_Reader BedRd.atoiP BedRd.puP 3 (openBed nameBed).1 (fwdC (fun _ => false))
      = some [C04IterGo.r1]
    ∧ GoSrc.bed_File openBed BedRd.atoiP BedRd.puP 3 nameBed (fun l => decide (l.length < 2))
      = some [C04IterGo.r1, C04IterGo.r2]
    ∧ GoSrc.bed_File openBed BedRd.atoiP BedRd.puP 0 nameX (fun _ => false) = some [(none, GoErr.other)]
    ∧ GoSrc.bed_File openBed BedRd.atoiP BedRd.puP 0 nameX (fun _ => true) = some [(none, GoErr.other)]
    ∧ GoSrc.bed_File openBed BedRd.atoiP BedRd.puP 3 nameSam (fun _ => true)
      = some [C04IterGo.r1, C04IterGo.r2, (none, GoErr.other)]
    -- too little fuel for the inner loop: `none` (no claim)
    ∧ GoSrc.bed_File openBed BedRd.atoiP BedRd.puP 2 nameBed (fun _ => true) = none) := by
  decide +kernel

/-- an instance of the hypotheses of clause (c) of `go_bed_file_early_stop` with `k = 1`: go on at item 1,
decline at item 2 -/
example : (fun l : List BedIt.GoItem => decide (l.length < 2)) ([C04IterGo.r1, C04IterGo.r2].take 1) = true
    ∧ (fun l : List BedIt.GoItem => decide (l.length < 2)) ([C04IterGo.r1, C04IterGo.r2].take 2) = false := by
  decide

/-- a toy `aio.Open` for SAM: `a.sam` opens on `C03ReaderGo.exTwo` (one header line, two records) -/
def openSam (name : Bytes) : BufRd × GoErr :=
  if name = nameSam then (⟨C03ReaderGo.exTwo, .eof⟩, GoErr.nil) else (⟨[], .eof⟩, GoErr.eof)

example : (openSam nameX).2 ≠ GoErr.nil ∧ (openSam nameSam).2 = GoErr.nil
    ∧ (textLines (openSam nameSam).1.ending (openSam nameSam).1.rest).length + 1 ≤ 4 := by
  decide +kernel

set_option synthInstance.maxSize 4096 in
/-- `sam.File("a.sam")`: the two records (the header dropped by `Reader`); stopped after one; `"x"` cannot
be opened: ONE error item carrying the error of `aio.Open` (here, absurdly, `io.EOF`: it is still
reported), the verdict ignored -/
example : allFound = false ∨ (
    GoSrc.sam_File SamP.hexP openSam BedRd.atoiP (SamP.pfP Sam.exPf) 4 nameSam (fun _ => true)
      = some [(some C03ReaderGo.t1, GoErr.nil), (some C03ReaderGo.t2, GoErr.nil)]
    ∧ GoSrc.sam_File SamP.hexP openSam BedRd.atoiP (SamP.pfP Sam.exPf) 4 nameSam (fun l => decide (l.length < 1))
      = some [(some C03ReaderGo.t1, GoErr.nil)]
    ∧ GoSrc.sam_File SamP.hexP openSam BedRd.atoiP (SamP.pfP Sam.exPf) 4 nameSam (fun _ => false)
      = some [(some C03ReaderGo.t1, GoErr.nil)]
    ∧ GoSrc.sam_File SamP.hexP openSam BedRd.atoiP (SamP.pfP Sam.exPf) 0 nameX (fun _ => false)
      = some [(none, GoErr.eof)]
    ∧ GoSrc.sam_File SamP.hexP openSam BedRd.atoiP (SamP.pfP Sam.exPf) 0 nameX (fun _ => true)
      = some [(none, GoErr.eof)]) := by
  decide +kernel

set_option synthInstance.maxSize 4096 in
/-- `sam.FileHeader("a.sam")`: the header line and the two records; stopped after the header line; after
the first record; `"x"`: ONE error item -/
example : allFound = false ∨ (
    GoSrc.sam_FileHeader SamP.hexP openSam BedRd.atoiP (SamP.pfP Sam.exPf) 4 nameSam (fun _ => true)
      = some [((some C03IterGo.exHd, none), GoErr.nil), ((none, some C03ReaderGo.t1), GoErr.nil),
              ((none, some C03ReaderGo.t2), GoErr.nil)]
    ∧ GoSrc.sam_FileHeader SamP.hexP openSam BedRd.atoiP (SamP.pfP Sam.exPf) 4 nameSam (fun _ => false)
      = some [((some C03IterGo.exHd, none), GoErr.nil)]
    ∧ GoSrc.sam_FileHeader SamP.hexP openSam BedRd.atoiP (SamP.pfP Sam.exPf) 4 nameSam
        (fun l => decide (l.length < 2))
      = some [((some C03IterGo.exHd, none), GoErr.nil), ((none, some C03ReaderGo.t1), GoErr.nil)]
    ∧ GoSrc.sam_FileHeader SamP.hexP openSam BedRd.atoiP (SamP.pfP Sam.exPf) 0 nameX (fun _ => false)
      = some [((none, none), GoErr.eof)]) := by
  decide +kernel

/-- a toy `aio.Open` for newick: `a.nwk` opens on `(a,b)c;(d)e;` (`C05IterGo.exIn`) -/
def openNwk (name : Bytes) : ByteRd × GoErr :=
  if name = nameNwk then (⟨none, C05IterGo.exIn, .eof⟩, GoErr.nil) else (⟨none, [], .eof⟩, GoErr.other)

example : (openNwk nameX).2 ≠ GoErr.nil ∧ (openNwk nameNwk).2 = GoErr.nil
    ∧ (openNwk nameNwk).1.rest.length + 1 ≤ 13 := by decide +kernel

set_option synthInstance.maxSize 4096 in
/-- `newick.File("a.nwk")`: two trees and the six cells allocated (the last one by the `read()` that met
`io.EOF`); stopped after the first tree: its three cells only; `"x"`: ONE error item, the heap (here one
old cell) untouched -/
example : allFound = false ∨ (
    GoSrc.newick_File openNwk C05IterGo.exPf 13 [] nameNwk (fun _ => true)
      = some ([(0, GoErr.nil), (3, GoErr.nil)],
          [([99], none, [1, 2]), ([97], none, []), ([98], none, []), ([101], none, [4]), ([100], none, []),
           ([], none, [])])
    ∧ GoSrc.newick_File openNwk C05IterGo.exPf 13 [] nameNwk (fun l => decide (l.length < 1))
      = some ([(0, GoErr.nil)], [([99], none, [1, 2]), ([97], none, []), ([98], none, [])])
    ∧ GoSrc.newick_File openNwk C05IterGo.exPf 13 [] nameNwk (fun _ => false)
      = GoSrc.newick_Reader C05IterGo.exPf 13 [] (openNwk nameNwk).1 (fun _ => false)
    ∧ GoSrc.newick_File openNwk C05IterGo.exPf 0 [([7], none, [])] nameX (fun _ => false)
      = some ([(-1, GoErr.other)], [([7], none, [])])) := by
  decide +kernel

end Bio.Props.C06FileGo

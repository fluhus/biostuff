/-
  C16 — regions/regions.go (`NewIndex` skips intervals with start ≥ end): `NewIndex(starts, ends).At(i)` is exactly the ascending list of
  the indices `x` with `starts[x] ≤ i < ends[x]`, for all inputs of equal
  length and every integer position; unequal lengths panic.
-/
import Bio.Lemmas.Regions
namespace Bio.Regions

/-- 1. `At` agrees with the brute-force scan: duplicates and nested intervals
are all reported, empty/inverted intervals never, and nothing is reported where
no interval covers `i` (including below the minimum and above the maximum). -/
theorem at_spec (starts ends : List Int) (h : starts.length = ends.length) (i : Int) :
    ∃ idx, newIndex starts ends = some idx ∧ at' idx i = covering starts ends i := by
  exact ⟨_, newIndex_eq h, at'_sweep_sorted starts ends i⟩

example : ([5, 3, 1, 3, 3] : List Int).length = ([2, 3, 4, 9, 9] : List Int).length := by decide

/-- 2. `NewIndex` panics on lists of different lengths. -/
theorem length_mismatch (starts ends : List Int) (h : starts.length ≠ ends.length) :
    newIndex starts ends = none := by
  simp [newIndex, h]

example : ([1, 2] : List Int).length ≠ ([3] : List Int).length := by decide

/-- 3. The answer is strictly ascending (hence duplicate-free). -/
theorem result_ascending (starts ends : List Int) (h : starts.length = ends.length) (i : Int) :
    ∃ idx, newIndex starts ends = some idx ∧ (at' idx i).Pairwise (· < ·) := by
  obtain ⟨idx, h1, h2⟩ := at_spec starts ends h i
  exact ⟨idx, h1, h2 ▸ pairwise_covering _ _ _⟩

/-- 4. An empty or inverted interval (`start ≥ end`) is never reported. -/
theorem empty_interval_never_reported (starts ends : List Int)
    (h : starts.length = ends.length) (i : Int) (x : Nat) (s e : Int)
    (hs : starts[x]? = some s) (he : ends[x]? = some e) (hse : s ≥ e) :
    ∃ idx, newIndex starts ends = some idx ∧ x ∉ at' idx i := by
  obtain ⟨idx, h1, h2⟩ := at_spec starts ends h i
  exact ⟨idx, h1, h2 ▸ not_mem_covering_of_ge hs he hse⟩

/-- 3 and 4 for *the* index returned by `newIndex` (it is unique, so these are
the same statements with the existential unpacked). -/
theorem result_ascending_of_some (starts ends : List Int) (i : Int) (idx : Index)
    (h : newIndex starts ends = some idx) : (at' idx i).Pairwise (· < ·) := by
  obtain ⟨idx', h1, h2⟩ := result_ascending starts ends (length_eq_of_newIndex_some h) i
  cases h.symm.trans h1
  exact h2

theorem empty_interval_never_reported_of_some (starts ends : List Int) (i : Int) (idx : Index)
    (h : newIndex starts ends = some idx) (x : Nat) (s e : Int)
    (hs : starts[x]? = some s) (he : ends[x]? = some e) (hse : s ≥ e) :
    x ∉ at' idx i := by
  obtain ⟨idx', h1, h2⟩ :=
    empty_interval_never_reported starts ends (length_eq_of_newIndex_some h) i x s e hs he hse
  cases h.symm.trans h1
  exact h2

/-- 5. The breakpoints of the index are strictly increasing in position, so
`At`'s binary search (`sort.Search`) and the model's linear scan pick the same
breakpoint. -/
theorem breakpoints_sorted (starts ends : List Int) (h : starts.length = ends.length) :
    ∃ idx, newIndex starts ends = some idx ∧ idx.Pairwise (fun a b => a.1 < b.1) := by
  exact ⟨_, newIndex_eq h, breakpoints_sorted_of_sorted _ (sorted_mergeSort_evLe _)⟩

/-- 6. Independence of the sorting algorithm: the sweep over ANY `eventLess`-sorted
arrangement of the input's events (what a correct `sort.Slice` produces) gives
the specified answers and strictly increasing breakpoints. -/
theorem at_spec_any_sort (starts ends : List Int) (i : Int) (evs : List Ev)
    (hperm : evs.Perm (eventsFrom 0 starts ends))
    (hsorted : evs.Pairwise (fun a b => evLe a b = true)) :
    at' (sweep evs (firstPos evs) []) i = covering starts ends i ∧
      (sweep evs (firstPos evs) []).Pairwise (fun a b => a.1 < b.1) :=
  ⟨at'_sweep_any_sorted starts ends i evs hsorted (fun _ => hperm.mem_iff),
    breakpoints_sorted_of_sorted evs hsorted⟩

/-- The hypotheses of 6 are satisfiable (by the merge sort, for every input). -/
example (starts ends : List Int) :
    ((eventsFrom 0 starts ends).mergeSort evLe).Perm (eventsFrom 0 starts ends) ∧
    ((eventsFrom 0 starts ends).mergeSort evLe).Pairwise (fun a b => evLe a b = true) :=
  ⟨List.mergeSort_perm _ _, sorted_mergeSort_evLe _⟩

/-- The order is total and antisymmetric on events, hence the sorted arrangement is unique. -/
example : ∀ a b : Ev, evLe a b = true → evLe b a = true → a = b := by
  intro a b h1 h2
  rw [evLe_iff] at h1 h2
  obtain ⟨ai, ap, as⟩ := a
  obtain ⟨bi, bp, bs⟩ := b
  simp only at h1 h2
  have h3 : ap = bp := by omega
  have h4 : as.toNat = bs.toNat := by omega
  have h5 : ai = bi := by omega
  have h6 : as = bs := by cases as <;> cases bs <;> simp_all
  subst h3; subst h5; subst h6; rfl

/-! ## Non-vacuity / concrete instances

`starts = [5,3,1,3,3]`, `ends = [2,3,4,9,9]`: interval 0 is inverted, 1 is
empty, 2 = [1,4), 3 and 4 are duplicates [3,9) nested/overlapping with 2. -/

section Examples

private def exS : List Int := [5, 3, 1, 3, 3]
private def exE : List Int := [2, 3, 4, 9, 9]

/-- The hypotheses of theorem 4 are satisfiable (index 1 is empty, index 0 inverted),
also in the `_of_some` form. -/
example : exS.length = exE.length ∧ exS[1]? = some 3 ∧ exE[1]? = some 3 ∧ (3 : Int) ≥ 3 := by
  decide
example : exS.length = exE.length ∧ exS[0]? = some 5 ∧ exE[0]? = some 2 ∧ (5 : Int) ≥ 2 := by
  decide
example : ∃ idx, newIndex exS exE = some idx :=
  ⟨_, (at_spec exS exE (by decide) 0).choose_spec.1⟩

/-- The specification itself on the sample (pure `List.range`/`filter`, so `decide` works):
below the minimum, at a start, inside the nest, after interval 2 ends, at the
last covered position, at the maximum end, above it. -/
example : covering exS exE 0 = [] := by decide
example : covering exS exE 1 = [2] := by decide
example : covering exS exE 3 = [2, 3, 4] := by decide
example : covering exS exE 4 = [3, 4] := by decide
example : covering exS exE 8 = [3, 4] := by decide
example : covering exS exE 9 = [] := by decide
example : covering exS exE 100 = [] := by decide

/-- … and the model's answers on the same sample, obtained through `at_spec`. -/
example : ∃ idx, newIndex exS exE = some idx ∧ at' idx 3 = [2, 3, 4] ∧ at' idx 0 = [] ∧
    at' idx 9 = [] := by
  have h : exS.length = exE.length := by decide
  obtain ⟨idx, h1, h2⟩ := at_spec exS exE h 3
  refine ⟨idx, h1, ?_, ?_, ?_⟩
  · rw [h2]; decide
  · obtain ⟨idx', h1', h2'⟩ := at_spec exS exE h 0
    rw [h1] at h1'; cases h1'; rw [h2']; decide
  · obtain ⟨idx', h1', h2'⟩ := at_spec exS exE h 9
    rw [h1] at h1'; cases h1'; rw [h2']; decide

/-- Direct evaluation of the model (independent of the theorems above). -/
example : newIndex [5, 3, 1, 3, 3] [2, 3, 4, 9, 9] =
    some [(1, [2]), (3, [2, 3, 4]), (4, [3, 4]), (9, [])] := by
  simp [newIndex, eventsFrom, List.mergeSort, List.MergeSort.Internal.splitInTwo, evLe, evLess,
    sweep, insertNat]

example : (List.map (at' [(1, [2]), (3, [2, 3, 4]), (4, [3, 4]), (9, [])]) [0, 1, 2, 3, 4, 8, 9, 100])
    = [[], [2], [2], [2, 3, 4], [3, 4], [3, 4], [], []] := by decide

/-- All intervals empty or inverted: nothing is ever reported. -/
example : newIndex [3, 7] [3, 2] = some [(0, [])] := by
  simp [newIndex, eventsFrom, sweep]

end Examples

end Bio.Regions

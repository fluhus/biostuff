/-
  C03 (flag part) — every SAM flag accessor and setter reads / writes exactly the
  bit the SAM specification assigns to it (0x1 … 0x800) and no other bit.

  `Bio/Generated/Flag.lean` is regenerated from /repo/formats/sam/flag.go on every
  run (constants `FlagX : BitVec 64`, getters `getX`, setters `setX`; Go's `Flag` is a
  64-bit signed `int`, `f&K > 0` is the signed comparison).  Nothing below copies
  that file's content: every proof re-checks the generated definitions (`rfl` /
  `decide` against the hand-written specification table), so a changed bit
  position, a getter testing another constant, or a setter of another shape makes
  this file fail to compile.  (A construct the translator does not recognise is
  emitted as the undefined identifier `unrecognisedShape`, which also fails here.)

  All statements are for ALL `f : BitVec 64` (2^64 values), not only `0 … 4095`.
  Generic single-bit lemmas: `Bio/Lemmas/Flag.lean`.
-/
import Bio.Generated.Flag
import Bio.Lemmas.Flag
namespace Bio.Generated.Flag

/-! ## The specification: the FLAG bit table of the SAM specification (SAMv1 §1.4), by hand -/

/-- The twelve flag names (Go accessor names of `sam.Flag`). -/
inductive Name where
  | Multiple
  | Each
  | Unmapped
  | Unmapped2
  | ReverseComplement
  | ReverseComplement2
  | First
  | Last
  | Secondary
  | NotPassing
  | Duplicate
  | Supplementary
  deriving DecidableEq, Repr

/-- SAM specification: bit index of each flag. -/
def specBit : Name → Nat
  | .Multiple => 0   -- template having multiple segments (0x1)
  | .Each => 1   -- each segment properly aligned (0x2)
  | .Unmapped => 2   -- segment unmapped (0x4)
  | .Unmapped2 => 3   -- next segment unmapped (0x8)
  | .ReverseComplement => 4   -- SEQ reverse complemented (0x10)
  | .ReverseComplement2 => 5   -- SEQ of next segment reverse complemented (0x20)
  | .First => 6   -- first segment in the template (0x40)
  | .Last => 7   -- last segment in the template (0x80)
  | .Secondary => 8   -- secondary alignment (0x100)
  | .NotPassing => 9   -- not passing filters (0x200)
  | .Duplicate => 10   -- PCR or optical duplicate (0x400)
  | .Supplementary => 11   -- supplementary alignment (0x800)

/-- SAM specification: mask value of each flag. -/
def specMask : Name → Nat
  | .Multiple => 0x1
  | .Each => 0x2
  | .Unmapped => 0x4
  | .Unmapped2 => 0x8
  | .ReverseComplement => 0x10
  | .ReverseComplement2 => 0x20
  | .First => 0x40
  | .Last => 0x80
  | .Secondary => 0x100
  | .NotPassing => 0x200
  | .Duplicate => 0x400
  | .Supplementary => 0x800

def Name.all : List Name :=
  [.Multiple, .Each, .Unmapped, .Unmapped2, .ReverseComplement, .ReverseComplement2, .First, .Last, .Secondary, .NotPassing, .Duplicate, .Supplementary]

/-- The spec table is self-consistent: mask = 2^bit, all bits below the sign bit, pairwise
distinct, and `Name.all` is complete. -/
theorem spec_table_consistent :
    (∀ n, specMask n = 2 ^ specBit n) ∧ (∀ n, specBit n < 12) ∧
    (∀ n n', specBit n = specBit n' → n = n') ∧ (∀ n, n ∈ Name.all) := by
  -- `Name.all` lists the names by bit number: the three facts about `specBit` are read off this
  have key : ∀ n, Name.all[specBit n]? = some n := by intro n; cases n <;> rfl
  exact ⟨fun n => by cases n <;> rfl, fun n => (List.getElem?_eq_some_iff.1 (key n)).1,
    fun n n' e => Option.some.inj ((key n).symm.trans (e ▸ key n')), fun n => List.mem_of_getElem? (key n)⟩

/-! ## The generated code, indexed by name -/

/-- The generated constant for a name. -/
def const : Name → F
  | .Multiple => FlagMultiple
  | .Each => FlagEach
  | .Unmapped => FlagUnmapped
  | .Unmapped2 => FlagUnmapped2
  | .ReverseComplement => FlagReverseComplement
  | .ReverseComplement2 => FlagReverseComplement2
  | .First => FlagFirst
  | .Last => FlagLast
  | .Secondary => FlagSecondary
  | .NotPassing => FlagNotPassing
  | .Duplicate => FlagDuplicate
  | .Supplementary => FlagSupplementary

/-- The generated getter for a name. -/
def getter : Name → F → Bool
  | .Multiple => getMultiple
  | .Each => getEach
  | .Unmapped => getUnmapped
  | .Unmapped2 => getUnmapped2
  | .ReverseComplement => getReverseComplement
  | .ReverseComplement2 => getReverseComplement2
  | .First => getFirst
  | .Last => getLast
  | .Secondary => getSecondary
  | .NotPassing => getNotPassing
  | .Duplicate => getDuplicate
  | .Supplementary => getSupplementary

/-- The generated setter for a name. -/
def setter : Name → F → Bool → F
  | .Multiple => setMultiple
  | .Each => setEach
  | .Unmapped => setUnmapped
  | .Unmapped2 => setUnmapped2
  | .ReverseComplement => setReverseComplement
  | .ReverseComplement2 => setReverseComplement2
  | .First => setFirst
  | .Last => setLast
  | .Secondary => setSecondary
  | .NotPassing => setNotPassing
  | .Duplicate => setDuplicate
  | .Supplementary => setSupplementary

/-- What "constant `K`, getter `get`, setter `set` implement bit `i` and nothing else" means. -/
structure BitOK (i : Nat) (K : F) (get : F → Bool) (set : F → Bool → F) : Prop where
  /-- the constant is the single-bit mask -/
  const_eq : K = 1#64 <<< i
  const_toNat : K.toNat = 2 ^ i
  /-- the getter returns bit `i` of its argument, for every 64-bit value -/
  get_eq : ∀ f : F, get f = f.getLsbD i
  /-- the setter writes `v` to bit `i` and leaves every other bit as it was -/
  set_bits : ∀ (f : F) (v : Bool) (j : Nat), (set f v).getLsbD j = if j = i then v else f.getLsbD j
  /-- reading back what was written -/
  get_set : ∀ (f : F) (v : Bool), get (set f v) = v

/-- From the generated *shape* (checked by `rfl` at each use) to `BitOK`. -/
theorem bitOK_of_shape (i : Nat) (hi : i < 63) (K : F) (get : F → Bool) (set : F → Bool → F)
    (hK : K = 1#64 <<< i)
    (hget : ∀ f, get f = decide (0 < (f &&& K).toInt))
    (hset : ∀ f v, set f v = if v then f ||| K else f &&& ~~~K) :
    BitOK i K get set := by
  subst hK
  exact
    { const_eq := rfl
      const_toNat := Bio.Flag.toNat_mask i (by omega)
      get_eq := fun f => by rw [hget, Bio.Flag.get_mask f i hi]
      set_bits := fun f v j => by rw [hset, Bio.Flag.getLsbD_set_mask f v i j (by omega)]
      get_set := fun f v => by rw [hget, hset, Bio.Flag.get_set_mask f v i hi] }

/-! ## The twelve flags, one by one (bit numbers are the specification's) -/

theorem Multiple_ok : BitOK 0 FlagMultiple getMultiple setMultiple :=
  bitOK_of_shape 0 (by decide) _ _ _ rfl (fun _ => rfl) (fun _ _ => rfl)
theorem FlagMultiple_eq : FlagMultiple = 1#64 <<< 0 ∧ FlagMultiple.toNat = 0x1 :=
  ⟨Multiple_ok.const_eq, Multiple_ok.const_toNat⟩
theorem getMultiple_eq (f : F) : getMultiple f = f.getLsbD 0 := Multiple_ok.get_eq f
theorem setMultiple_bits (f : F) (v : Bool) (j : Nat) :
    (setMultiple f v).getLsbD j = if j = 0 then v else f.getLsbD j := Multiple_ok.set_bits f v j
theorem getMultiple_setMultiple (f : F) (v : Bool) : getMultiple (setMultiple f v) = v := Multiple_ok.get_set f v

theorem Each_ok : BitOK 1 FlagEach getEach setEach :=
  bitOK_of_shape 1 (by decide) _ _ _ rfl (fun _ => rfl) (fun _ _ => rfl)
theorem FlagEach_eq : FlagEach = 1#64 <<< 1 ∧ FlagEach.toNat = 0x2 :=
  ⟨Each_ok.const_eq, Each_ok.const_toNat⟩
theorem getEach_eq (f : F) : getEach f = f.getLsbD 1 := Each_ok.get_eq f
theorem setEach_bits (f : F) (v : Bool) (j : Nat) :
    (setEach f v).getLsbD j = if j = 1 then v else f.getLsbD j := Each_ok.set_bits f v j
theorem getEach_setEach (f : F) (v : Bool) : getEach (setEach f v) = v := Each_ok.get_set f v

theorem Unmapped_ok : BitOK 2 FlagUnmapped getUnmapped setUnmapped :=
  bitOK_of_shape 2 (by decide) _ _ _ rfl (fun _ => rfl) (fun _ _ => rfl)
theorem FlagUnmapped_eq : FlagUnmapped = 1#64 <<< 2 ∧ FlagUnmapped.toNat = 0x4 :=
  ⟨Unmapped_ok.const_eq, Unmapped_ok.const_toNat⟩
theorem getUnmapped_eq (f : F) : getUnmapped f = f.getLsbD 2 := Unmapped_ok.get_eq f
theorem setUnmapped_bits (f : F) (v : Bool) (j : Nat) :
    (setUnmapped f v).getLsbD j = if j = 2 then v else f.getLsbD j := Unmapped_ok.set_bits f v j
theorem getUnmapped_setUnmapped (f : F) (v : Bool) : getUnmapped (setUnmapped f v) = v := Unmapped_ok.get_set f v

theorem Unmapped2_ok : BitOK 3 FlagUnmapped2 getUnmapped2 setUnmapped2 :=
  bitOK_of_shape 3 (by decide) _ _ _ rfl (fun _ => rfl) (fun _ _ => rfl)
theorem FlagUnmapped2_eq : FlagUnmapped2 = 1#64 <<< 3 ∧ FlagUnmapped2.toNat = 0x8 :=
  ⟨Unmapped2_ok.const_eq, Unmapped2_ok.const_toNat⟩
theorem getUnmapped2_eq (f : F) : getUnmapped2 f = f.getLsbD 3 := Unmapped2_ok.get_eq f
theorem setUnmapped2_bits (f : F) (v : Bool) (j : Nat) :
    (setUnmapped2 f v).getLsbD j = if j = 3 then v else f.getLsbD j := Unmapped2_ok.set_bits f v j
theorem getUnmapped2_setUnmapped2 (f : F) (v : Bool) : getUnmapped2 (setUnmapped2 f v) = v := Unmapped2_ok.get_set f v

theorem ReverseComplement_ok : BitOK 4 FlagReverseComplement getReverseComplement setReverseComplement :=
  bitOK_of_shape 4 (by decide) _ _ _ rfl (fun _ => rfl) (fun _ _ => rfl)
theorem FlagReverseComplement_eq : FlagReverseComplement = 1#64 <<< 4 ∧ FlagReverseComplement.toNat = 0x10 :=
  ⟨ReverseComplement_ok.const_eq, ReverseComplement_ok.const_toNat⟩
theorem getReverseComplement_eq (f : F) : getReverseComplement f = f.getLsbD 4 := ReverseComplement_ok.get_eq f
theorem setReverseComplement_bits (f : F) (v : Bool) (j : Nat) :
    (setReverseComplement f v).getLsbD j = if j = 4 then v else f.getLsbD j := ReverseComplement_ok.set_bits f v j
theorem getReverseComplement_setReverseComplement (f : F) (v : Bool) : getReverseComplement (setReverseComplement f v) = v := ReverseComplement_ok.get_set f v

theorem ReverseComplement2_ok : BitOK 5 FlagReverseComplement2 getReverseComplement2 setReverseComplement2 :=
  bitOK_of_shape 5 (by decide) _ _ _ rfl (fun _ => rfl) (fun _ _ => rfl)
theorem FlagReverseComplement2_eq : FlagReverseComplement2 = 1#64 <<< 5 ∧ FlagReverseComplement2.toNat = 0x20 :=
  ⟨ReverseComplement2_ok.const_eq, ReverseComplement2_ok.const_toNat⟩
theorem getReverseComplement2_eq (f : F) : getReverseComplement2 f = f.getLsbD 5 := ReverseComplement2_ok.get_eq f
theorem setReverseComplement2_bits (f : F) (v : Bool) (j : Nat) :
    (setReverseComplement2 f v).getLsbD j = if j = 5 then v else f.getLsbD j := ReverseComplement2_ok.set_bits f v j
theorem getReverseComplement2_setReverseComplement2 (f : F) (v : Bool) : getReverseComplement2 (setReverseComplement2 f v) = v := ReverseComplement2_ok.get_set f v

theorem First_ok : BitOK 6 FlagFirst getFirst setFirst :=
  bitOK_of_shape 6 (by decide) _ _ _ rfl (fun _ => rfl) (fun _ _ => rfl)
theorem FlagFirst_eq : FlagFirst = 1#64 <<< 6 ∧ FlagFirst.toNat = 0x40 :=
  ⟨First_ok.const_eq, First_ok.const_toNat⟩
theorem getFirst_eq (f : F) : getFirst f = f.getLsbD 6 := First_ok.get_eq f
theorem setFirst_bits (f : F) (v : Bool) (j : Nat) :
    (setFirst f v).getLsbD j = if j = 6 then v else f.getLsbD j := First_ok.set_bits f v j
theorem getFirst_setFirst (f : F) (v : Bool) : getFirst (setFirst f v) = v := First_ok.get_set f v

theorem Last_ok : BitOK 7 FlagLast getLast setLast :=
  bitOK_of_shape 7 (by decide) _ _ _ rfl (fun _ => rfl) (fun _ _ => rfl)
theorem FlagLast_eq : FlagLast = 1#64 <<< 7 ∧ FlagLast.toNat = 0x80 :=
  ⟨Last_ok.const_eq, Last_ok.const_toNat⟩
theorem getLast_eq (f : F) : getLast f = f.getLsbD 7 := Last_ok.get_eq f
theorem setLast_bits (f : F) (v : Bool) (j : Nat) :
    (setLast f v).getLsbD j = if j = 7 then v else f.getLsbD j := Last_ok.set_bits f v j
theorem getLast_setLast (f : F) (v : Bool) : getLast (setLast f v) = v := Last_ok.get_set f v

theorem Secondary_ok : BitOK 8 FlagSecondary getSecondary setSecondary :=
  bitOK_of_shape 8 (by decide) _ _ _ rfl (fun _ => rfl) (fun _ _ => rfl)
theorem FlagSecondary_eq : FlagSecondary = 1#64 <<< 8 ∧ FlagSecondary.toNat = 0x100 :=
  ⟨Secondary_ok.const_eq, Secondary_ok.const_toNat⟩
theorem getSecondary_eq (f : F) : getSecondary f = f.getLsbD 8 := Secondary_ok.get_eq f
theorem setSecondary_bits (f : F) (v : Bool) (j : Nat) :
    (setSecondary f v).getLsbD j = if j = 8 then v else f.getLsbD j := Secondary_ok.set_bits f v j
theorem getSecondary_setSecondary (f : F) (v : Bool) : getSecondary (setSecondary f v) = v := Secondary_ok.get_set f v

theorem NotPassing_ok : BitOK 9 FlagNotPassing getNotPassing setNotPassing :=
  bitOK_of_shape 9 (by decide) _ _ _ rfl (fun _ => rfl) (fun _ _ => rfl)
theorem FlagNotPassing_eq : FlagNotPassing = 1#64 <<< 9 ∧ FlagNotPassing.toNat = 0x200 :=
  ⟨NotPassing_ok.const_eq, NotPassing_ok.const_toNat⟩
theorem getNotPassing_eq (f : F) : getNotPassing f = f.getLsbD 9 := NotPassing_ok.get_eq f
theorem setNotPassing_bits (f : F) (v : Bool) (j : Nat) :
    (setNotPassing f v).getLsbD j = if j = 9 then v else f.getLsbD j := NotPassing_ok.set_bits f v j
theorem getNotPassing_setNotPassing (f : F) (v : Bool) : getNotPassing (setNotPassing f v) = v := NotPassing_ok.get_set f v

theorem Duplicate_ok : BitOK 10 FlagDuplicate getDuplicate setDuplicate :=
  bitOK_of_shape 10 (by decide) _ _ _ rfl (fun _ => rfl) (fun _ _ => rfl)
theorem FlagDuplicate_eq : FlagDuplicate = 1#64 <<< 10 ∧ FlagDuplicate.toNat = 0x400 :=
  ⟨Duplicate_ok.const_eq, Duplicate_ok.const_toNat⟩
theorem getDuplicate_eq (f : F) : getDuplicate f = f.getLsbD 10 := Duplicate_ok.get_eq f
theorem setDuplicate_bits (f : F) (v : Bool) (j : Nat) :
    (setDuplicate f v).getLsbD j = if j = 10 then v else f.getLsbD j := Duplicate_ok.set_bits f v j
theorem getDuplicate_setDuplicate (f : F) (v : Bool) : getDuplicate (setDuplicate f v) = v := Duplicate_ok.get_set f v

theorem Supplementary_ok : BitOK 11 FlagSupplementary getSupplementary setSupplementary :=
  bitOK_of_shape 11 (by decide) _ _ _ rfl (fun _ => rfl) (fun _ _ => rfl)
theorem FlagSupplementary_eq : FlagSupplementary = 1#64 <<< 11 ∧ FlagSupplementary.toNat = 0x800 :=
  ⟨Supplementary_ok.const_eq, Supplementary_ok.const_toNat⟩
theorem getSupplementary_eq (f : F) : getSupplementary f = f.getLsbD 11 := Supplementary_ok.get_eq f
theorem setSupplementary_bits (f : F) (v : Bool) (j : Nat) :
    (setSupplementary f v).getLsbD j = if j = 11 then v else f.getLsbD j := Supplementary_ok.set_bits f v j
theorem getSupplementary_setSupplementary (f : F) (v : Bool) : getSupplementary (setSupplementary f v) = v := Supplementary_ok.get_set f v

/-! ## The bundled statement (audit this one) -/

/-- For every flag name: the generated constant is `1 <<< specBit` (value `specMask`,
i.e. 0x1 … 0x800), the generated getter returns exactly bit `specBit` of ANY 64-bit
flag value, and the generated setter changes bit `specBit` to the given value and no
other bit. -/
theorem flag_table_ok (n : Name) :
    BitOK (specBit n) (const n) (getter n) (setter n) ∧ (const n).toNat = specMask n := by
  cases n
  · exact ⟨Multiple_ok, Multiple_ok.const_toNat⟩
  · exact ⟨Each_ok, Each_ok.const_toNat⟩
  · exact ⟨Unmapped_ok, Unmapped_ok.const_toNat⟩
  · exact ⟨Unmapped2_ok, Unmapped2_ok.const_toNat⟩
  · exact ⟨ReverseComplement_ok, ReverseComplement_ok.const_toNat⟩
  · exact ⟨ReverseComplement2_ok, ReverseComplement2_ok.const_toNat⟩
  · exact ⟨First_ok, First_ok.const_toNat⟩
  · exact ⟨Last_ok, Last_ok.const_toNat⟩
  · exact ⟨Secondary_ok, Secondary_ok.const_toNat⟩
  · exact ⟨NotPassing_ok, NotPassing_ok.const_toNat⟩
  · exact ⟨Duplicate_ok, Duplicate_ok.const_toNat⟩
  · exact ⟨Supplementary_ok, Supplementary_ok.const_toNat⟩

/-- The same, unfolded into plain statements about all names, flags, values and bits. -/
theorem flag_table_ok' :
    (∀ n, const n = 1#64 <<< specBit n ∧ (const n).toNat = specMask n) ∧
    (∀ n (f : F), getter n f = f.getLsbD (specBit n)) ∧
    (∀ n (f : F) (v : Bool) (j : Nat),
      (setter n f v).getLsbD j = if j = specBit n then v else f.getLsbD j) ∧
    (∀ n (f : F) (v : Bool), getter n (setter n f v) = v) :=
  ⟨fun n => ⟨(flag_table_ok n).1.const_eq, (flag_table_ok n).2⟩,
   fun n => (flag_table_ok n).1.get_eq,
   fun n => (flag_table_ok n).1.set_bits,
   fun n => (flag_table_ok n).1.get_set⟩

/-! ## Consequences: independence of the twelve flags -/

/-- A setter does not disturb any other getter. -/
theorem getter_setter_other (n n' : Name) (h : n ≠ n') (f : F) (v : Bool) :
    getter n' (setter n f v) = getter n' f := by
  rw [(flag_table_ok n').1.get_eq, (flag_table_ok n').1.get_eq, (flag_table_ok n).1.set_bits]
  have : specBit n' ≠ specBit n := fun e => h (spec_table_consistent.2.2.1 _ _ e).symm
  simp [this]

/-- The setter's result is *the* value with that bit table (as a 64-bit value). -/
theorem setter_unique (n : Name) (f g : F) (v : Bool)
    (hg : ∀ j, g.getLsbD j = if j = specBit n then v else f.getLsbD j) : setter n f v = g := by
  apply BitVec.eq_of_getLsbD_eq
  intro j _
  rw [(flag_table_ok n).1.set_bits, hg]

/-- Setting a flag to the value it already has changes nothing. -/
theorem setter_idem (n : Name) (f : F) : setter n f (getter n f) = f := by
  apply setter_unique
  intro j
  by_cases h : j = specBit n
  · subst h; simp [(flag_table_ok n).1.get_eq]
  · simp [h]

/-- Go identifier stem of each name (by hand). -/
def goName : Name → String
  | .Multiple => "Multiple"
  | .Each => "Each"
  | .Unmapped => "Unmapped"
  | .Unmapped2 => "Unmapped2"
  | .ReverseComplement => "ReverseComplement"
  | .ReverseComplement2 => "ReverseComplement2"
  | .First => "First"
  | .Last => "Last"
  | .Secondary => "Secondary"
  | .NotPassing => "NotPassing"
  | .Duplicate => "Duplicate"
  | .Supplementary => "Supplementary"

/-- The translator saw exactly these twelve constants / accessors / setters in flag.go
(twelve of each, and each expected identifier among them; so no accessor in the source is
left unaccounted for by the table above). -/
theorem flag_names_exact :
    constNames.length = 12 ∧ getterNames.length = 12 ∧ setterNames.length = 12 ∧
    (∀ n ∈ Name.all, ("Flag" ++ goName n) ∈ constNames) ∧
    (∀ n ∈ Name.all, goName n ∈ getterNames) ∧
    (∀ n ∈ Name.all, ("Set" ++ goName n) ∈ setterNames) := by
  decide +kernel

/-! ## Non-vacuity: concrete values -/

example : getFirst 0x40#64 = true := by decide +kernel
example : getFirst 0x80#64 = false := by decide +kernel
example : getLast 0x80#64 = true := by decide +kernel
example : getMultiple 0xfff#64 = true ∧ getMultiple 0xffe#64 = false := by decide +kernel
example : getSupplementary 0x800#64 = true ∧ getSupplementary 0x7ff#64 = false := by decide +kernel
/-- A value outside `0 … 4095`, with the sign bit set: getters still read their own bit. -/
example : getDuplicate 0x8000000000000400#64 = true ∧ getDuplicate 0x8000000000000000#64 = false := by
  decide +kernel
example : setSecondary 0#64 true = 0x100#64 := by decide +kernel
example : setSecondary 0xfff#64 false = 0xeff#64 := by decide +kernel
example : setUnmapped 0xffffffffffffffff#64 false = 0xfffffffffffffffb#64 := by decide +kernel
example : [FlagMultiple, FlagEach, FlagUnmapped, FlagUnmapped2, FlagReverseComplement,
    FlagReverseComplement2, FlagFirst, FlagLast, FlagSecondary, FlagNotPassing, FlagDuplicate,
    FlagSupplementary].map BitVec.toNat
    = [0x1, 0x2, 0x4, 0x8, 0x10, 0x20, 0x40, 0x80, 0x100, 0x200, 0x400, 0x800] := by decide +kernel
example : Name.First ≠ Name.Last := by decide +kernel

end Bio.Generated.Flag

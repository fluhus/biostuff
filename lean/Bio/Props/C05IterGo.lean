/-
  C05 / C07 / C11 / C18 (newick), ITERATOR level, for the Go SOURCE TEXT of `Reader`
  (formats/newick/newick.go), as translated on every run, statement by statement, into
  `Bio.Generated.GoSrc.newick_Reader`:

      newick_Reader pf fuel heap r yield : Option (log × heap')

  `pf` stands for `strconv.ParseFloat` (a PARAMETER: arbitrary unless `PFModel pf pd` / `PFNoEof pf` is
  assumed, as in `Bio.Props.C05ReadGo`); `heap` is the list of all `Node` cells allocated so far (a
  `*Node` is an index, `nil` is `-1`); `r` the byte source (bytes, then `io.EOF` or a read error);
  `yield` a HISTORY consumer (asked about all `(pointer, error)` pairs handed to it so far, the current
  one last; NOT asked about the error item, whose verdict the Go code ignores); the result is the LOG of
  the pairs handed over and the FINAL heap; `fuel` bounds the `for { }` loop and every loop of the
  translated `read()` / `nextToken()` it calls (`none` = out of fuel or a panic).

  Vocabulary (`Bio.Lemmas.GoSrcNewickIter`, namespace `NwkIt`):
  `reads pf fuel heap r` = the results of the successive `read()` calls of the UNINTERRUPTED run (each on
  the heap, reader and buffer the previous one handed back, the first result whose error is not `nil` is
  the last: `go_newick_reads` states this chain without reference to the definition);
  `goItems pf fuel heap r = itemsOf (reads …)` = what `Reader` hands over for them — `(p, nil)` for a
  tree, one final `(nil, err)` for an error other than `io.EOF`, nothing for `io.EOF`;
  `readsDone y [] R` = the calls made under the consumer `y`; `lastHeap heap D` = the heap the last call
  of `D` handed back; `absItem H (p, err)` = the item read back in the heap `H` (`absT`, as in C05ReadGo).

  1. `go_newick_reader_log` (+ `go_newick_reader_heap`): with `len(input) + 1` fuel the closure returns
     `(takeThroughH y [] (goItems …), heap after exactly the calls made)`; if the consumer declined a
     tree, the last call made is the one that read it (no further `read()`, no further allocation).
  2. `go_newick_reader_trees`: under `PFModel pf pd` every `(p, nil)` of the log REPRESENTS (`RepT`, hence
     `absT`), in the FINAL heap, the tree at the same position of the hand model's `Newick.decodeSrc`; an
     error item sits where the model's error item sits; the log read back is a prefix of the model's list.
  3. `go_newick_reader_all` / `go_newick_reader_all_trees`: the consumer that never stops.
  4. `go_newick_reader_early_stop`, `go_newick_reader_stop_at` (C18, EVERY history consumer).
  5. `go_newick_reader_error_last`, `go_newick_reader_fail_error` (C07).
  6. `go_newick_reader_no_panic` (C11).
  7. `go_newick_reader_roundtrip`: the translated `MarshalText`, then the translated `Reader`.

  Where the hypotheses come from (each with its counterexample below, as `example`s):
  * (5): "with ending `.fail` and the always-true consumer the log ends with an error item" does not hold for
    an arbitrary `ParseFloat`: with a `ParseFloat` whose error is `io.EOF` (`pfEofEx` of C05ReadGo; not a
    behaviour of the real one) `read()` on `a:x;` returns that `io.EOF` and `Reader` stops silently with an
    EMPTY log although the source would have failed later.  Hence `PFNoEof pf` in
    `go_newick_reader_fail_error`; the statement without it is the `Prop`
    `go_newick_reader_fail_error_full`.  For the same reason (3)/(7)'s "the log read back IS the model's
    list" carries the hypothesis of `C05ReadGo.go_decode`/`go_decode_ok` (`ParseFloat` never errs with
    `io.EOF` where `pd` rejects, or the model's list has no error item); the PREFIX statement of (2) needs
    neither.
  * (2): a consumer of ABSTRACT histories (trees) cannot be expressed at this level: the translated
    consumer sees pointers and has no heap.  The statement is therefore about an arbitrary pointer-level
    consumer, and reads the log back afterwards, in the final heap.
  * the fuel bound `len(input) + 1` is sufficient, and sharp for some inputs only (see the examples).

  Guarded by the translator's `_Found` flags (see `Bio.Lemmas.GoSrc`).
-/
import Bio.Lemmas.GoSrcNewickIter
import Bio.Props.C05ReadGo
import Bio.Props.C05RoundGo
import Bio.Props.C18Hist
import Bio.Lemmas.CrossNewick
namespace Bio.Props.C05IterGo
open Bio Bio.GoRt Bio.Generated Bio.GoSrcLemmas Bio.GoSrcLemmas.NwkRd Bio.GoSrcLemmas.NwkIt
  Bio.GoSrcLemmas.NwkWr

/-- every translator flag this file depends on; the non-vacuity examples below are stated as
`allFound = false ∨ …` so that a source the translator no longer recognises is not an alarm -/
def allFound : Bool :=
  GoSrc.newick_Reader_Found && GoSrc.newick_read_Found && GoSrc.newick_nextToken_Found
    && GoSrc.nameFromText_Found && GoSrc.quoted_Found && GoSrc.Node_MarshalText_Found
    && GoSrc.Node_newick_Found && GoSrc.nameToText_Found

/-! ## 0. The calls of the uninterrupted run -/

/-- `reads pf fuel heap r`, without reference to its definition: it is not empty; its first element is
what `read()` returns on the initial heap, the source `r` and the empty buffer; each next element is what
`read()` returns on the heap, reader and buffer of the previous one; exactly the elements before the
last have error `nil` (so: the run goes on after a tree and ends at the first `io.EOF` or error); and
`goItems` maps `resItem` over it, dropping the `io.EOF`. -/
theorem go_newick_reads : GoSrc.newick_Reader_Found = true → GoSrc.newick_read_Found = true →
    GoSrc.newick_nextToken_Found = true → GoSrc.nameFromText_Found = true → GoSrc.quoted_Found = true →
    ∀ (pf : PF) (heap : Heap) (r : ByteRd) (fuel : Nat), r.rest.length + 1 ≤ fuel →
    reads pf fuel heap r ≠ []
    ∧ (reads pf fuel heap r)[0]? = GoSrc.newick_read pf fuel heap r []
    ∧ (∀ (i : Nat) (res res' : Res), (reads pf fuel heap r)[i]? = some res →
        (reads pf fuel heap r)[i + 1]? = some res' →
        GoSrc.newick_read pf fuel res.2.2.1 res.2.2.2.1 res.2.2.2.2 = some res')
    ∧ (∀ (i : Nat) (res : Res), (reads pf fuel heap r)[i]? = some res →
        (res.2.1 = GoErr.nil ↔ i + 1 < (reads pf fuel heap r).length))
    ∧ goItems pf fuel heap r = (reads pf fuel heap r).filterMap fun res =>
        if res.2.1 = GoErr.eof then none
        else if res.2.1 = GoErr.nil then some (res.1, GoErr.nil) else some (-1, res.2.1) := by
  intro hF hR hT hN hQ pf heap r fuel hf
  have hw := (newick_Reader_raw hF hR hT hN hQ pf fuel heap r (fun _ => true) hf).2.1
  have hne : reads pf fuel heap r ≠ [] := hw.ne_nil
  refine ⟨hne, ?_, ?_, fun i res hi => hw.nil_iff i res hi, rfl⟩
  · cases h0 : (reads pf fuel heap r)[0]? with
    | none => simp at h0; exact absurd h0 hne
    | some res => exact ((goReads_chain pf fuel fuel heap r [] 0 res h0).1 rfl).symm
  · intro i res res' hi hi'
    exact ((goReads_chain pf fuel fuel heap r [] i res hi).2 res' hi').2

/-! ## 1. The log and the heap -/

/-- THE LOG.  For an ARBITRARY `ParseFloat`, any initial heap, any source and EVERY history consumer `y`,
with `len(remaining input) + 1` fuel: the closure returns; the log is the item list of the uninterrupted
run cut by `y` (`takeThroughH`: up to and including the first item after which `y` said stop; `y`'s
verdict on the final error item is not asked — and cannot matter, it is the last item); the heap is the
heap after exactly the calls made under `y`, whose items are the log. -/
theorem go_newick_reader_log : GoSrc.newick_Reader_Found = true → GoSrc.newick_read_Found = true →
    GoSrc.newick_nextToken_Found = true → GoSrc.nameFromText_Found = true → GoSrc.quoted_Found = true →
    ∀ (pf : PF) (heap : Heap) (r : ByteRd) (y : List GoItem → Bool) (fuel : Nat), r.rest.length + 1 ≤ fuel →
    GoSrc.newick_Reader pf fuel heap r y
      = some (takeThroughH y [] (goItems pf fuel heap r),
          lastHeap heap (readsDone y [] (reads pf fuel heap r)))
    ∧ takeThroughH y [] (goItems pf fuel heap r) = itemsOf (readsDone y [] (reads pf fuel heap r)) := by
  intro hF hR hT hN hQ pf heap r y fuel hf
  exact (newick_Reader_raw hF hR hT hN hQ pf fuel heap r y hf).2.2

/-- THE HEAP, spelled out.  The calls made `D` are a prefix of the calls of the uninterrupted run; the log
is their items; the final heap is the heap the LAST of them handed back, and it is the initial heap with
cells appended (cells that existed before are never written); if the consumer DECLINED the last item
handed over (a tree), the last call made is the call that read it — no further `read()`, hence no further
allocation — and there were exactly as many calls as items; in general there are as many calls as items,
or one more: the `io.EOF` that ended the uninterrupted run, and then every call was made. -/
theorem go_newick_reader_heap : GoSrc.newick_Reader_Found = true → GoSrc.newick_read_Found = true →
    GoSrc.newick_nextToken_Found = true → GoSrc.nameFromText_Found = true → GoSrc.quoted_Found = true →
    ∀ (pf : PF) (heap : Heap) (r : ByteRd) (y : List GoItem → Bool) (fuel : Nat), r.rest.length + 1 ≤ fuel →
    ∃ (log : List GoItem) (heap' : Heap) (D : List Res),
      GoSrc.newick_Reader pf fuel heap r y = some (log, heap')
      ∧ D <+: reads pf fuel heap r ∧ log = itemsOf D
      ∧ (∃ res, D.getLast? = some res ∧ heap' = res.2.2.1)
      ∧ (∃ ext, heap' = heap ++ ext)
      ∧ (∀ p, log.getLast? = some (p, GoErr.nil) → y log = false →
          ∃ res, D.getLast? = some res ∧ res.1 = p ∧ res.2.1 = GoErr.nil ∧ D.length = log.length)
      ∧ (D.length = log.length
          ∨ (D.length = log.length + 1 ∧ D = reads pf fuel heap r
              ∧ ∃ res, D.getLast? = some res ∧ res.2.1 = GoErr.eof)) := by
  intro hF hR hT hN hQ pf heap r y fuel hf
  obtain ⟨hrep, hw, hrun, hlog⟩ := newick_Reader_raw hF hR hT hN hQ pf fuel heap r y hf
  have hne : reads pf fuel heap r ≠ [] := hw.ne_nil
  have hD := readsDone_ne_nil y (reads pf fuel heap r) [] hne
  have hlen := readsDone_length y (reads pf fuel heap r) [] hw
  refine ⟨_, _, readsDone y [] (reads pf fuel heap r), hrun, readsDone_prefix y _ _, hlog, ?_,
    hrep.ext _ (readsDone_prefix y _ _), ?_, ?_⟩
  · cases hl : (readsDone y [] (reads pf fuel heap r)).getLast? with
    | none => exact absurd (List.getLast?_eq_none_iff.1 hl) hD
    | some res => exact ⟨res, rfl, lastHeap_getLast _ _ _ hl⟩
  · intro p hp hy
    rw [hlog] at hp hy
    obtain ⟨res, h1, h2, h3⟩ := readsDone_declined y _ [] hw p hp (by simpa using hy)
    refine ⟨res, h1, h2, h3, ?_⟩
    rw [hlog]
    rcases hlen with ⟨h4, _⟩ | ⟨_, h5, h6⟩
    · exact h4
    · rw [← h5, h1] at h6
      simp only [Option.map_some, Option.some.injEq] at h6
      rw [h3] at h6; cases h6
  · rw [hlog]
    rcases hlen with ⟨h4, _⟩ | ⟨h4, h5, h6⟩
    · exact Or.inl h4
    · refine Or.inr ⟨h4, h5, ?_⟩
      rw [← h5] at h6
      obtain ⟨res, h7, h8⟩ := Option.map_eq_some_iff.1 h6
      exact ⟨res, h7, h8⟩

/-! ## 2. The trees handed over, in the final heap -/

/-- ABSTRACTION.  Under `PFModel pf pd`, for every input `x`, ending `e`, initial heap, reader history
(`last`) and EVERY pointer-level history consumer `y`, with `len x + 1` fuel: the closure returns a log
(the item list of the uninterrupted run cut by `y`) and a final heap `heap'` (the initial heap with cells
appended) such that, position by position against the hand model's `Newick.decodeSrc pd e x`:
every `(p, nil)` of the log REPRESENTS the model's tree at that position in `heap'` (`RepT`: own cells, no
sharing, no cycle) and reads back as it (`absT`) — the calls made AFTER `p` was handed over only appended
cells (`go_read_preserves`), the consumer owns what it was handed; an error item sits where the model's
(last) item is its error item; and the whole log, read back in `heap'`, is a prefix of the model's list. -/
theorem go_newick_reader_trees : GoSrc.newick_Reader_Found = true → GoSrc.newick_read_Found = true →
    GoSrc.newick_nextToken_Found = true → GoSrc.nameFromText_Found = true → GoSrc.quoted_Found = true →
    ∀ (pf : PF) (pd : Bytes → Option Newick.Dist), PFModel pf pd →
    ∀ (x : Bytes) (e : Ending) (last : Option UInt8) (heap : Heap) (y : List GoItem → Bool) (fuel : Nat),
    x.length + 1 ≤ fuel →
    ∃ (log : List GoItem) (heap' : Heap),
      GoSrc.newick_Reader pf fuel heap ⟨last, x, e⟩ y = some (log, heap')
      ∧ log = takeThroughH y [] (goItems pf fuel heap ⟨last, x, e⟩)
      ∧ (∃ ext, heap' = heap ++ ext)
      ∧ (∀ (i : Nat) (p : Int) (err : GoErr), log[i]? = some (p, err) →
          (err = GoErr.nil → ∃ t, (Newick.decodeSrc pd e x)[i]? = some (Item.ok t) ∧ RepT heap' p t
            ∧ absT heap' heap'.length p = t)
          ∧ (err ≠ GoErr.nil → (Newick.decodeSrc pd e x)[i]? = some Item.err
            ∧ (Newick.decodeSrc pd e x).length = i + 1))
      ∧ log.map (absItem heap') <+: Newick.decodeSrc pd e x := by
  intro hF hR hT hN hQ pf pd hpf x e last heap y fuel hf
  obtain ⟨hrep0, hw, hrun, hlog⟩ := newick_Reader_raw hF hR hT hN hQ pf fuel heap ⟨last, x, e⟩ y hf
  have hrep := reads_rep hR hT hN hQ hpf fuel heap last x e hf
  have hidx : ∀ (i : Nat) (p : Int) (err : GoErr),
      (takeThroughH y [] (goItems pf fuel heap ⟨last, x, e⟩))[i]? = some (p, err) →
      (err = GoErr.nil → ∃ t, (Newick.decodeSrc pd e x)[i]? = some (Item.ok t)
        ∧ RepT (lastHeap heap (readsDone y [] (reads pf fuel heap ⟨last, x, e⟩))) p t
        ∧ absT (lastHeap heap (readsDone y [] (reads pf fuel heap ⟨last, x, e⟩)))
            (lastHeap heap (readsDone y [] (reads pf fuel heap ⟨last, x, e⟩))).length p = t)
      ∧ (err ≠ GoErr.nil → (Newick.decodeSrc pd e x)[i]? = some Item.err
        ∧ (Newick.decodeSrc pd e x).length = i + 1) := by
    intro i p err hi
    rw [hlog] at hi
    have := log_rep y _ heap _ [] hrep i p err hi
    refine ⟨fun he => ?_, this.2⟩
    obtain ⟨t, h1, h2⟩ := this.1 he
    exact ⟨t, h1, h2, h2.absT⟩
  refine ⟨_, _, hrun, rfl, hrep.ext _ (readsDone_prefix y _ _), hidx, ?_⟩
  apply map_prefix_of_getElem
  rintro i ⟨p, err⟩ hi
  have := hidx i p err hi
  by_cases he : err = GoErr.nil
  · obtain ⟨t, h1, _, h3⟩ := this.1 he
    rw [h1]; simp [absItem, he, h3]
  · rw [(this.2 he).1]; simp [absItem, he]

/-! ## 3. The consumer that never stops -/

/-- With the consumer that never stops (arbitrary `ParseFloat`): the log is ALL of the item list of the
uninterrupted run, the heap is the heap after all its calls. -/
theorem go_newick_reader_all : GoSrc.newick_Reader_Found = true → GoSrc.newick_read_Found = true →
    GoSrc.newick_nextToken_Found = true → GoSrc.nameFromText_Found = true → GoSrc.quoted_Found = true →
    ∀ (pf : PF) (heap : Heap) (r : ByteRd) (fuel : Nat), r.rest.length + 1 ≤ fuel →
    GoSrc.newick_Reader pf fuel heap r (fun _ => true)
      = some (goItems pf fuel heap r, lastHeap heap (reads pf fuel heap r)) := by
  intro hF hR hT hN hQ pf heap r fuel hf
  obtain ⟨_, hw, hrun, _⟩ := newick_Reader_raw hF hR hT hN hQ pf fuel heap r (fun _ => true) hf
  rw [hrun, readsDone_true _ _ hw, IterH.takeThroughH_true]
  rfl

/-- … and under `PFModel pf pd`, when `ParseFloat` never errs with `io.EOF` where `pd` rejects (e.g.
`PFNoEof pf`) or the model's list has no error item (the hypothesis of `C05ReadGo.go_decode` /
`go_decode_ok`): the log, read back in the final heap, IS the model's `Newick.decodeSrc pd e x` — what the
model closure `IterH.newickReaderH` logs for the consumer that never stops. -/
theorem go_newick_reader_all_trees : GoSrc.newick_Reader_Found = true → GoSrc.newick_read_Found = true →
    GoSrc.newick_nextToken_Found = true → GoSrc.nameFromText_Found = true → GoSrc.quoted_Found = true →
    ∀ (pf : PF) (pd : Bytes → Option Newick.Dist), PFModel pf pd →
    ∀ (x : Bytes) (e : Ending) (last : Option UInt8) (heap : Heap) (fuel : Nat), x.length + 1 ≤ fuel →
    ((∀ s, pd s = none → (pf s 64).2 ≠ GoErr.eof) ∨ Item.err ∉ Newick.decodeSrc pd e x) →
    ∃ (log : List GoItem) (heap' : Heap),
      GoSrc.newick_Reader pf fuel heap ⟨last, x, e⟩ (fun _ => true) = some (log, heap')
      ∧ log.map (absItem heap') = Newick.decodeSrc pd e x
      ∧ log.map (absItem heap') = IterH.newickReaderH pd e x (fun _ => true)
      ∧ (∀ (i : Nat) (p : Int) (err : GoErr), log[i]? = some (p, err) →
          (err = GoErr.nil → ∃ t, (Newick.decodeSrc pd e x)[i]? = some (Item.ok t) ∧ RepT heap' p t)
          ∧ (err ≠ GoErr.nil → (Newick.decodeSrc pd e x)[i]? = some Item.err)) := by
  intro hF hR hT hN hQ pf pd hpf x e last heap fuel hf hH
  obtain ⟨log, heap', h1, h2, _, h4, h5⟩ :=
    go_newick_reader_trees hF hR hT hN hQ pf pd hpf x e last heap (fun _ => true) fuel hf
  have hlen : log.length = (Newick.decodeSrc pd e x).length := by
    rw [h2, IterH.takeThroughH_true, List.nil_append]
    exact goItems_length hR hT hN hQ hpf fuel heap last x e hf hH
  have heq : log.map (absItem heap') = Newick.decodeSrc pd e x :=
    h5.eq_of_length (by rw [List.length_map, hlen])
  refine ⟨log, heap', h1, heq, ?_, fun i p err hi => ?_⟩
  · rw [heq, C18Hist.newickReaderH_log, IterH.takeThroughH_true, List.nil_append]
  · have := h4 i p err hi
    exact ⟨fun he => (this.1 he).imp fun t ht => ⟨ht.1, ht.2.1⟩, fun he => (this.2 he).1⟩

/-! ## 4. Early stop (C18) -/

/-- For an ARBITRARY `ParseFloat` and EVERY history consumer `y` (it may keep state): (a) the log is a
prefix of the item list of the uninterrupted run; (b) `y` answered `true` on every proper prefix history;
(c) an item after which `y` answered `false` is the LAST one: nothing is handed over after the consumer
declined (a consumer that declines at the `k`-th item sees exactly `k` items). -/
theorem go_newick_reader_early_stop : GoSrc.newick_Reader_Found = true → GoSrc.newick_read_Found = true →
    GoSrc.newick_nextToken_Found = true → GoSrc.nameFromText_Found = true → GoSrc.quoted_Found = true →
    ∀ (pf : PF) (heap : Heap) (r : ByteRd) (y : List GoItem → Bool) (fuel : Nat), r.rest.length + 1 ≤ fuel →
    ∃ (log : List GoItem) (heap' : Heap), GoSrc.newick_Reader pf fuel heap r y = some (log, heap')
      ∧ log <+: goItems pf fuel heap r
      ∧ (∀ i, i + 1 < log.length → y (log.take (i + 1)) = true)
      ∧ (∀ i, i < log.length → y (log.take (i + 1)) = false → i + 1 = log.length) := by
  intro hF hR hT hN hQ pf heap r y fuel hf
  exact ⟨_, _, (go_newick_reader_log hF hR hT hN hQ pf heap r y fuel hf).1, takeThroughH_prefix _ _,
    takeThroughH_go_on _ _, takeThroughH_stop _ _⟩

/-- (c), concretely: the consumer "stop at the `k`-th item" (`1 ≤ k`) is handed exactly the first `k` items
of the uninterrupted run (all of them if there are fewer), and the final heap is the heap after the first
`k` calls: the cells of the trees not asked for are never allocated. -/
theorem go_newick_reader_stop_at : GoSrc.newick_Reader_Found = true → GoSrc.newick_read_Found = true →
    GoSrc.newick_nextToken_Found = true → GoSrc.nameFromText_Found = true → GoSrc.quoted_Found = true →
    ∀ (pf : PF) (heap : Heap) (r : ByteRd) (fuel : Nat), r.rest.length + 1 ≤ fuel →
    ∀ (k : Nat), 1 ≤ k →
    GoSrc.newick_Reader pf fuel heap r (fun l => decide (l.length < k))
      = some ((goItems pf fuel heap r).take k, lastHeap heap ((reads pf fuel heap r).take k)) := by
  intro hF hR hT hN hQ pf heap r fuel hf k hk
  obtain ⟨_, hw, hrun, _⟩ :=
    newick_Reader_raw hF hR hT hN hQ pf fuel heap r (fun l => decide (l.length < k)) hf
  rw [hrun, takeThroughH_count_acc k _ [] (by simp; omega), readsDone_count k _ [] hw (by simp; omega)]
  simp

/-! ## 5. Errors (C07) -/

/-- For an ARBITRARY `ParseFloat` and EVERY consumer: an error item of the log is its LAST item, its
pointer is `nil`, its error is not `io.EOF` (and of course not `nil`); so there is at most one. -/
theorem go_newick_reader_error_last : GoSrc.newick_Reader_Found = true → GoSrc.newick_read_Found = true →
    GoSrc.newick_nextToken_Found = true → GoSrc.nameFromText_Found = true → GoSrc.quoted_Found = true →
    ∀ (pf : PF) (heap : Heap) (r : ByteRd) (y : List GoItem → Bool) (fuel : Nat), r.rest.length + 1 ≤ fuel →
    ∃ (log : List GoItem) (heap' : Heap), GoSrc.newick_Reader pf fuel heap r y = some (log, heap')
      ∧ (∀ (i : Nat) (p : Int) (err : GoErr), log[i]? = some (p, err) → err ≠ GoErr.nil →
          i + 1 = log.length ∧ p = -1 ∧ err ≠ GoErr.eof)
      ∧ (∀ (i j : Nat) (p q : Int) (e₁ e₂ : GoErr), log[i]? = some (p, e₁) → log[j]? = some (q, e₂) →
          e₁ ≠ GoErr.nil → e₂ ≠ GoErr.nil → i = j) := by
  intro hF hR hT hN hQ pf heap r y fuel hf
  obtain ⟨_, hw, hrun, _⟩ := newick_Reader_raw hF hR hT hN hQ pf fuel heap r y hf
  have hpre : takeThroughH y [] (goItems pf fuel heap r) <+: goItems pf fuel heap r :=
    takeThroughH_prefix _ _
  have key : ∀ (i : Nat) (p : Int) (err : GoErr),
      (takeThroughH y [] (goItems pf fuel heap r))[i]? = some (p, err) → err ≠ GoErr.nil →
      i + 1 = (takeThroughH y [] (goItems pf fuel heap r)).length ∧ p = -1 ∧ err ≠ GoErr.eof := by
    intro i p err hi he
    obtain ⟨h2, hi⟩ := List.getElem?_eq_some_iff.1 hi
    have hi' : (goItems pf fuel heap r)[i]? = some (p, err) := by
      rw [List.prefix_iff_getElem?.1 hpre i h2, hi]
    have h1 := itemsOf_err_last _ hw i p err hi' he
    have h3 := hpre.length_le
    refine ⟨?_, h1.2, mem_itemsOf_ne_eof (List.mem_of_getElem? hi')⟩
    have : i + 1 = (goItems pf fuel heap r).length := h1.1
    omega
  refine ⟨_, _, hrun, key, fun i j p q e₁ e₂ hi hj h1 h2 => ?_⟩
  have := (key i p e₁ hi h1).1
  have := (key j q e₂ hj h2).1
  omega

/-- `go_newick_reader_fail_error` without `PFNoEof`: "on a source that FAILS, the consumer that never stops
is handed a final error item".  The run of `pfEofEx` on `a:x;` at the end of the file contradicts it; its
negation is not stated as a theorem. -/
def go_newick_reader_fail_error_full : Prop :=
  ∀ (pf : PF) (heap : Heap) (last : Option UInt8) (x : Bytes) (fuel : Nat), x.length + 1 ≤ fuel →
  ∃ (log : List GoItem) (heap' : Heap) (err : GoErr),
    GoSrc.newick_Reader pf fuel heap ⟨last, x, .fail⟩ (fun _ => true) = some (log, heap')
    ∧ log.getLast? = some (-1, err) ∧ err ≠ GoErr.nil

/-- C07.  When `ParseFloat` never returns `io.EOF` as its error (`PFNoEof pf`: the real one returns
`*strconv.NumError`s): on a source that FAILS after the bytes `x` — whatever `x` — the consumer that never
stops is handed a FINAL ERROR ITEM `(nil, err)`, `err` neither `nil` nor `io.EOF`. -/
theorem go_newick_reader_fail_error : GoSrc.newick_Reader_Found = true → GoSrc.newick_read_Found = true →
    GoSrc.newick_nextToken_Found = true → GoSrc.nameFromText_Found = true → GoSrc.quoted_Found = true →
    ∀ (pf : PF), PFNoEof pf →
    ∀ (heap : Heap) (last : Option UInt8) (x : Bytes) (fuel : Nat), x.length + 1 ≤ fuel →
    ∃ (log : List GoItem) (heap' : Heap) (err : GoErr),
      GoSrc.newick_Reader pf fuel heap ⟨last, x, .fail⟩ (fun _ => true) = some (log, heap')
      ∧ log.getLast? = some (-1, err) ∧ err ≠ GoErr.nil ∧ err ≠ GoErr.eof := by
  intro hF hR hT hN hQ pf hne heap last x fuel hf
  obtain ⟨hrep, hw, _, _⟩ :=
    newick_Reader_raw hF hR hT hN hQ pf fuel heap ⟨last, x, .fail⟩ (fun _ => true) hf
  have hm : Item.err ∈ Newick.decodeSrc (pdOf pf) .fail x :=
    List.mem_of_getLast? (Newick.fail_getLast (pdOf pf) x)
  have hl := last_not_eof _ _ _ hrep (fun s _ => hne s) hm
  obtain ⟨err, h1, h2, h3⟩ := itemsOf_getLast_err _ hw hl
  exact ⟨_, _, err, go_newick_reader_all hF hR hT hN hQ pf heap ⟨last, x, .fail⟩ fuel hf, h1, h2, h3⟩

/-! ## 6. No panic (C11) -/

/-- For EVERY `ParseFloat`, initial heap, source and consumer, with `len(remaining input) + 1` fuel the
closure returns: no index out of range in `read()`, `panic("unexpected state")` unreachable, every loop
ends within the fuel. -/
theorem go_newick_reader_no_panic : GoSrc.newick_Reader_Found = true → GoSrc.newick_read_Found = true →
    GoSrc.newick_nextToken_Found = true → GoSrc.nameFromText_Found = true → GoSrc.quoted_Found = true →
    ∀ (pf : PF) (heap : Heap) (r : ByteRd) (y : List GoItem → Bool) (fuel : Nat), r.rest.length + 1 ≤ fuel →
    GoSrc.newick_Reader pf fuel heap r y ≠ none := by
  intro hF hR hT hN hQ pf heap r y fuel hf
  rw [(go_newick_reader_log hF hR hT hN hQ pf heap r y fuel hf).1]
  simp

/-! ## 7. Write, then read -/

/-- The trees `ts` (every distance a clean token that `pd` parses to itself: `DistOK pd`), each written by
the translated `(*Node).MarshalText` (`FFModel ff`: `%v` prints the canonical token), the texts joined
(as in `C05ReadGo.go_roundtrip_trees`), read by the translated `Reader` (`PFModel pf pd`) from ANY initial
heap with the consumer that never stops: no write error; one `(p, nil)` per tree, no error item; the `i`-th
pointer represents `ts[i]` in the final heap; the log read back is exactly `ts`. -/
theorem go_newick_reader_roundtrip : GoSrc.Node_MarshalText_Found = true → GoSrc.Node_newick_Found = true →
    GoSrc.nameToText_Found = true →
    GoSrc.newick_Reader_Found = true → GoSrc.newick_read_Found = true →
    GoSrc.newick_nextToken_Found = true → GoSrc.nameFromText_Found = true → GoSrc.quoted_Found = true →
    ∀ (ff : Newick.Dist → Bytes), FFModel ff →
    ∀ (pf : PF) (pd : Bytes → Option Newick.Dist), PFModel pf pd →
    ∀ (ts : List Newick.Tree), (∀ t ∈ ts, t.AllDist (Newick.DistOK pd)) →
    ∀ (fuelW fuelR : Nat), (∀ t ∈ ts, depth t + 1 ≤ fuelW) →
      ((ts.map (Newick.write Generated.newickQuoteBytes)).flatten).length + 1 ≤ fuelR →
    ∀ (heap : Heap) (last : Option UInt8),
    ∃ (txts : List Bytes),
      ts.map (GoSrc.Node_MarshalText ff fuelW) = txts.map (fun b => some (b, GoErr.nil))
      ∧ ∃ (log : List GoItem) (heap' : Heap),
        GoSrc.newick_Reader pf fuelR heap ⟨last, txts.flatten, .eof⟩ (fun _ => true) = some (log, heap')
        ∧ log.map (absItem heap') = ts.map Item.ok
        ∧ log.length = ts.length
        ∧ (∀ (i : Nat) (p : Int) (err : GoErr), log[i]? = some (p, err) →
            err = GoErr.nil ∧ ∃ t, ts[i]? = some t ∧ RepT heap' p t) := by
  intro hM hW hNT hF hR hT hN hQ ff hff pf pd hpf ts hts fuelW fuelR hfw hfr heap last
  refine ⟨ts.map (Newick.write Generated.newickQuoteBytes), ?_, ?_⟩
  · rw [List.map_map]
    apply List.map_congr_left
    intro t ht
    exact C05WriteGo.go_MarshalText hM hW hNT ff hff t fuelW (hfw t ht)
  · have hm : Newick.decodeSrc pd .eof ((ts.map (Newick.write Generated.newickQuoteBytes)).flatten)
        = ts.map Item.ok := Newick.forest_roundtrip _ pd Newick.generated_quoteSet_ok ts hts
    obtain ⟨log, heap', h1, h2, _, h4⟩ := go_newick_reader_all_trees hF hR hT hN hQ pf pd hpf
      ((ts.map (Newick.write Generated.newickQuoteBytes)).flatten) .eof last heap fuelR hfr
      (Or.inr (by rw [hm]; simp))
    rw [hm] at h2 h4
    refine ⟨log, heap', h1, h2, ?_, fun i p err hi => ?_⟩
    · have := congrArg List.length h2
      simpa using this
    · have := h4 i p err hi
      by_cases he : err = GoErr.nil
      · obtain ⟨t, h5, h6⟩ := this.1 he
        refine ⟨he, t, ?_, h6⟩
        rw [List.getElem?_map] at h5
        cases hti : ts[i]? with
        | none => rw [hti] at h5; cases h5
        | some t' => rw [hti] at h5; simp at h5; rw [h5]
      · have := this.2 he
        rw [List.getElem?_map] at this
        cases hti : ts[i]? <;> rw [hti] at this <;> simp at this

/-! ## Non-vacuity: the hypotheses -/

open Bio.Props.C05ReadGo in
-- the flags spelled out (the disjunction holds whatever they are); `PFModel` / `PFNoEof` for the `ParseFloat` built from a model parser (C05ReadGo's `pdEx2`:
-- accepts exactly `1.5` and `2`); `PFModel` always holds for the parser a given `ParseFloat` induces
example : allFound = false ∨ (GoSrc.newick_Reader_Found = true ∧ GoSrc.newick_read_Found = true ∧
    GoSrc.newick_nextToken_Found = true ∧ GoSrc.nameFromText_Found = true ∧ GoSrc.quoted_Found = true ∧
    GoSrc.Node_MarshalText_Found = true ∧ GoSrc.Node_newick_Found = true ∧ GoSrc.nameToText_Found = true) := by
  decide
example : PFModel (pfOf C05ReadGo.pdEx2) C05ReadGo.pdEx2 ∧ PFNoEof (pfOf C05ReadGo.pdEx2) :=
  ⟨pfModel_pfOf _, pfNoEof_pfOf _⟩
example (pf : PF) : PFModel pf (pdOf pf) := pfModel_pdOf pf

/-- `(a,b)c;(d)e;` -/
def exIn : Bytes := [40, 97, 44, 98, 41, 99, 59, 40, 100, 41, 101, 59]
/-- `(a,b)c;(d;` : the second tree is malformed (`;` inside the parentheses) -/
def exBad : Bytes := [40, 97, 44, 98, 41, 99, 59, 40, 100, 59]
/-- `(a,b)c;` -/
def exOne : Bytes := [40, 97, 44, 98, 41, 99, 59]
/-- the sample `ParseFloat` -/
def exPf : PF := pfOf C05ReadGo.pdEx2

-- the fuel hypotheses of the runs below, and the alternative hypothesis of `go_newick_reader_all_trees`
-- (both alternatives hold here)
example : (⟨none, exIn, .eof⟩ : ByteRd).rest.length + 1 ≤ 13 ∧ exBad.length + 1 ≤ 11 ∧ exOne.length + 1 ≤ 8 := by
  decide
example : (∀ s, C05ReadGo.pdEx2 s = none → (exPf s 64).2 ≠ GoErr.eof)
    ∧ Item.err ∉ Newick.decodeSrc C05ReadGo.pdEx2 .eof exIn :=
  ⟨fun s _ => pfNoEof_pfOf _ s, by decide +kernel⟩

/-! ## Concrete runs of the translated closure -/

-- (instance search needs a larger budget than the default for `DecidableEq` of the nested result type)
set_option synthInstance.maxSize 4096

-- `(a,b)c;(d)e;` read completely from the empty heap: TWO items, the pointers 0 and 3; the first
-- `read()` allocated the cells 0..2 (`c` with children [1, 2], `a`, `b`), the second 3..4 (`e` with child
-- [4], `d`), the third — which met `io.EOF`, no item — one unused cell
example : allFound = false ∨
    GoSrc.newick_Reader exPf 13 [] ⟨none, exIn, .eof⟩ (fun _ => true)
      = some ([(0, GoErr.nil), (3, GoErr.nil)],
          [([99], none, [1, 2]), ([97], none, []), ([98], none, []), ([101], none, [4]), ([100], none, []),
           ([], none, [])]) := by
  decide +kernel

-- the calls of that uninterrupted run (`reads`): tree, tree, `io.EOF`; its items
example : allFound = false ∨ (
    reads exPf 13 [] ⟨none, exIn, .eof⟩
      = [(0, GoErr.nil, [([99], none, [1, 2]), ([97], none, []), ([98], none, [])],
            ⟨some 59, [40, 100, 41, 101, 59], .eof⟩, []),
         (3, GoErr.nil,
            [([99], none, [1, 2]), ([97], none, []), ([98], none, []), ([101], none, [4]), ([100], none, [])],
            ⟨some 59, [], .eof⟩, []),
         (-1, GoErr.eof,
            [([99], none, [1, 2]), ([97], none, []), ([98], none, []), ([101], none, [4]), ([100], none, []),
             ([], none, [])], ⟨none, [], .eof⟩, [])]
    ∧ goItems exPf 13 [] ⟨none, exIn, .eof⟩ = [(0, GoErr.nil), (3, GoErr.nil)]) := by
  decide +kernel

-- … the log read back in the FINAL heap is the hand model's decode of the input (`(a,b)c` and `(d)e`)
example : allFound = false ∨ (
    ((GoSrc.newick_Reader exPf 13 [] ⟨none, exIn, .eof⟩ (fun _ => true)).map fun p => p.1.map (absItem p.2))
      = some [Item.ok ⟨[99], none, .cons [97] none .nil (.cons [98] none .nil .nil)⟩,
              Item.ok ⟨[101], none, .cons [100] none .nil .nil⟩]
    ∧ Newick.decodeSrc C05ReadGo.pdEx2 .eof exIn
      = [Item.ok ⟨[99], none, .cons [97] none .nil (.cons [98] none .nil .nil)⟩,
         Item.ok ⟨[101], none, .cons [100] none .nil .nil⟩]) := by
  decide +kernel

-- the same input, the consumer stops after the FIRST item: one item, and the heap holds only the first
-- tree's cells (no second `read()`); an instance of the hypotheses of the "declined" clause of
-- `go_newick_reader_heap` and of (b)/(c) of `go_newick_reader_early_stop`
example : allFound = false ∨ (
    GoSrc.newick_Reader exPf 13 [] ⟨none, exIn, .eof⟩ (fun l => decide (l.length < 1))
      = some ([(0, GoErr.nil)], [([99], none, [1, 2]), ([97], none, []), ([98], none, [])])
    ∧ GoSrc.newick_Reader exPf 13 [] ⟨none, exIn, .eof⟩ (fun _ => false)
      = some ([(0, GoErr.nil)], [([99], none, [1, 2]), ([97], none, []), ([98], none, [])])
    ∧ ([(0, GoErr.nil)] : List GoItem).getLast? = some (0, GoErr.nil)
    ∧ (fun l : List GoItem => decide (l.length < 1)) [(0, GoErr.nil)] = false
    ∧ (0 : Nat) < ([(0, GoErr.nil)] : List GoItem).length
    ∧ (fun l : List GoItem => decide (l.length < 1)) (([(0, GoErr.nil)] : List GoItem).take (0 + 1)) = false) := by
  decide +kernel

-- stopping at the second item: both trees, but the third `read()` (the `io.EOF`, one more cell) is not made;
-- a consumer WITH state ("stop when the pointer just handed over is 3"); into a NON-EMPTY heap with a reader
-- that has a byte to unread: the old cell is untouched, the pointers are shifted
example : allFound = false ∨ (
    GoSrc.newick_Reader exPf 13 [] ⟨none, exIn, .eof⟩ (fun l => decide (l.length < 2))
      = some ([(0, GoErr.nil), (3, GoErr.nil)],
          [([99], none, [1, 2]), ([97], none, []), ([98], none, []), ([101], none, [4]), ([100], none, [])])
    ∧ GoSrc.newick_Reader exPf 13 [] ⟨none, exIn, .eof⟩ (fun l => l.getLast? != some (3, GoErr.nil))
      = some ([(0, GoErr.nil), (3, GoErr.nil)],
          [([99], none, [1, 2]), ([97], none, []), ([98], none, []), ([101], none, [4]), ([100], none, [])])
    ∧ GoSrc.newick_Reader exPf 8 [([7], none, [])] ⟨some 3, exOne, .eof⟩ (fun _ => true)
      = some ([(1, GoErr.nil)],
          [([7], none, []), ([99], none, [2, 3]), ([97], none, []), ([98], none, []), ([], none, [])])) := by
  decide +kernel

-- a MALFORMED second tree `(d;`: the first tree, then ONE final error item `(nil, err)`; the consumer's
-- verdict on it is not asked: "at most two items" and "never stop" log the same; "stop at once" stops before
example : allFound = false ∨ (
    GoSrc.newick_Reader exPf 11 [] ⟨none, exBad, .eof⟩ (fun _ => true)
      = some ([(0, GoErr.nil), (-1, GoErr.other)],
          [([99], none, [1, 2]), ([97], none, []), ([98], none, []), ([], none, [4]), ([100], none, [])])
    ∧ GoSrc.newick_Reader exPf 11 [] ⟨none, exBad, .eof⟩ (fun l => decide (l.length < 2))
      = GoSrc.newick_Reader exPf 11 [] ⟨none, exBad, .eof⟩ (fun _ => true)
    ∧ GoSrc.newick_Reader exPf 11 [] ⟨none, exBad, .eof⟩ (fun _ => false)
      = some ([(0, GoErr.nil)], [([99], none, [1, 2]), ([97], none, []), ([98], none, [])])
    ∧ Newick.decodeSrc C05ReadGo.pdEx2 .eof exBad
      = [Item.ok ⟨[99], none, .cons [97] none .nil (.cons [98] none .nil .nil)⟩, Item.err]
    -- an error first: the only item, whatever the consumer says
    ∧ GoSrc.newick_Reader exPf 4 [] ⟨none, [40, 100, 59], .eof⟩ (fun _ => false)
      = some ([(-1, GoErr.other)], [([], none, [1]), ([100], none, [])])) := by
  decide +kernel

-- a source that FAILS after `(a,b)c;`: the tree, then the final error item (C07)
example : allFound = false ∨ (
    GoSrc.newick_Reader exPf 8 [] ⟨none, exOne, .fail⟩ (fun _ => true)
      = some ([(0, GoErr.nil), (-1, GoErr.other)],
          [([99], none, [1, 2]), ([97], none, []), ([98], none, []), ([], none, [])])
    ∧ Newick.decodeSrc C05ReadGo.pdEx2 .fail exOne
      = [Item.ok ⟨[99], none, .cons [97] none .nil (.cons [98] none .nil .nil)⟩, Item.err]
    -- the empty input: nothing at `io.EOF`, the error item at a read error
    ∧ GoSrc.newick_Reader exPf 1 [] ⟨none, [], .eof⟩ (fun _ => true) = some ([], [([], none, [])])
    ∧ GoSrc.newick_Reader exPf 1 [] ⟨none, [], .fail⟩ (fun _ => true)
      = some ([(-1, GoErr.other)], [([], none, [])])) := by
  decide +kernel

-- `PFNoEof` is needed in `go_newick_reader_fail_error` (`go_newick_reader_fail_error_full` is false): with
-- C05ReadGo's `pfEofEx`, whose error is `io.EOF`, on `a:x;` from a FAILING source the log is EMPTY
example : allFound = false ∨ (
    GoSrc.newick_Reader C05ReadGo.pfEofEx 5 [] ⟨none, [97, 58, 120, 59], .fail⟩ (fun _ => true)
      = some ([], [([97], none, [])])
    ∧ Newick.decodeSrc C05ReadGo.pdEx2 .fail [97, 58, 120, 59] = [Item.err]) := by
  decide +kernel

-- the fuel bound: `len + 1` is enough, and for some inputs one less is not (a name running to the end);
-- for others much less is (every `read()` needs only its own tree's bytes)
example : allFound = false ∨ (
    GoSrc.newick_Reader exPf 3 [] ⟨none, [97, 98], .eof⟩ (fun _ => true)
      = some ([(-1, GoErr.other)], [([97, 98], none, [])])
    ∧ GoSrc.newick_Reader exPf 2 [] ⟨none, [97, 98], .eof⟩ (fun _ => true) = none
    ∧ GoSrc.newick_Reader exPf 7 [] ⟨none, exIn, .eof⟩ (fun _ => true)
      = GoSrc.newick_Reader exPf 13 [] ⟨none, exIn, .eof⟩ (fun _ => true)) := by
  decide +kernel

-- an absurd `ParseFloat` (every token "parses", to the same value): the closure still returns
example : allFound = false ∨
    GoSrc.newick_Reader (fun _ _ => (some [63], GoErr.nil)) 8 [] ⟨none, [97, 58, 59, 98, 58, 120, 59], .eof⟩
        (fun _ => true)
      = some ([(-1, GoErr.other)], [([97], none, [])]) := by
  decide +kernel

/-! ## Non-vacuity of the round trip -/

-- C05's sample tree `((A:1,'b (c)''\n',):2.5,,(x_y)inner)root:1;` (depth 3 at most), an empty node and the
-- sample again; C05WriteGo's `%v`; C05's sample distance parser (accepts `1` and `2.5`)
example : FFModel C05WriteGo.ffEx ∧ PFModel (pfOf Newick.pdEx) Newick.pdEx
    ∧ (∀ t ∈ [Newick.exTree, ⟨[], none, .nil⟩, Newick.exTree], t.AllDist (Newick.DistOK Newick.pdEx))
    ∧ (∀ t ∈ [Newick.exTree, ⟨[], none, .nil⟩, Newick.exTree], depth t + 1 ≤ 4)
    ∧ (([Newick.exTree, ⟨[], none, .nil⟩, Newick.exTree].map
          (Newick.write Generated.newickQuoteBytes)).flatten).length + 1 ≤ 90 :=
  ⟨fun _ => rfl, pfModel_pfOf _, by decide, by decide, by decide +kernel⟩

-- written by the translated `MarshalText`, read by the translated `Reader` into a non-empty heap: three
-- pointers, no error; read back in the final heap: the three trees
example : allFound = false ∨ (
    ((GoSrc.newick_Reader (pfOf Newick.pdEx) 90 [([7], none, [])]
        ⟨none, (([Newick.exTree, ⟨[], none, .nil⟩, Newick.exTree].map fun t =>
            ((GoSrc.Node_MarshalText C05WriteGo.ffEx 4 t).map (·.1)).getD []).flatten), .eof⟩
        (fun _ => true)).map fun p => (p.1.map (·.2), p.1.map (absItem p.2)))
      = some ([GoErr.nil, GoErr.nil, GoErr.nil],
          [Item.ok Newick.exTree, Item.ok ⟨[], none, .nil⟩, Item.ok Newick.exTree])) := by
  decide +kernel

end Bio.Props.C05IterGo

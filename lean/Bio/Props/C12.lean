/-
  C12 — sequtil/sequtil.go: `ReverseComplement` / `ReverseComplementString`
  (the same function `revComp` in the model) and `CanonicalSubsequences`.

  The 256-entry complement table is a parameter; `compTableOK tbl` (defined in
  `Bio/Lemmas/Sequtil.lean`) says it is the tabulation of the hand-written
  `stdComp` (A↔T, C↔G, N↔N in both cases, every other entry 0) and is
  discharged on the regenerated table by `decide +kernel`.
-/
import Bio.Lemmas.Sequtil
namespace Bio.Sequtil

/-- The standard complement table written out as a literal (used by the
non-vacuity examples; the table regenerated from Go is checked elsewhere). -/
def exCompTable : List UInt8 :=
  ((((((((((List.replicate 256 (0 : UInt8)).set 65 84).set 84 65).set 67 71).set 71 67).set 78 78).set
    97 116).set 116 97).set 99 103).set 103 99).set 110 110

theorem exCompTable_ok : compTableOK exCompTable = true := by decide +kernel

example : compTableOK exCompTable = true := exCompTable_ok
/-- The predicate is not trivially true. -/
example : compTableOK (exCompTable.set 66 86) = false := by decide +kernel
example : compTableOK (List.replicate 256 0) = false := by decide +kernel

/-! ## 1. Table facts (for every byte) -/

/-- The accepted set is exactly `aAcCgGtTnN`, with the standard complement. -/
theorem comp_spec {tbl : List UInt8} (h : compTableOK tbl = true) (b : UInt8) :
    comp tbl b = if isDNAN b then some (stdComp b) else none := comp_eq h b

theorem stdComp_involution (b : UInt8) (hb : isDNAN b = true) : stdComp (stdComp b) = b :=
  stdComp_stdComp b hb

theorem stdComp_case (b : UInt8) (hb : isDNAN b = true) : isUpper (stdComp b) = isUpper b :=
  forall_isDNAN (P := fun b => isUpper (stdComp b) = isUpper b) (by decide +kernel) b hb

theorem stdComp_closed (b : UInt8) (hb : isDNAN b = true) : isDNAN (stdComp b) = true :=
  isDNAN_stdComp b hb

example : isDNAN 97 = true ∧ stdComp 97 = 116 ∧ isUpper 97 = false ∧ stdComp 67 = 71 := by decide

/-! ## 2. `ReverseComplement` -/

theorem revComp_spec {tbl : List UInt8} (h : compTableOK tbl = true) (dst src : Bytes)
    (hs : ∀ b ∈ src, isDNAN b = true) :
    revComp tbl dst src = some (dst ++ src.reverse.map stdComp) := by
  unfold revComp
  rw [mapM_some_of_forall (g := stdComp)]
  · rfl
  · intro x hx
    rw [comp_eq h, hs x (List.mem_reverse.mp hx)]; rfl

example : compTableOK exCompTable = true ∧ (∀ b ∈ [65, 99, 110, 84], isDNAN b = true) := by
  exact ⟨exCompTable_ok, by decide⟩
example : revComp exCompTable [1, 2] [65, 99, 110, 84] = some [1, 2, 65, 110, 103, 84] := by
  rw [revComp_spec exCompTable_ok _ _ (by decide)]; decide

theorem revComp_panics {tbl : List UInt8} (h : compTableOK tbl = true) (dst src : Bytes)
    (hb : ∃ b ∈ src, isDNAN b = false) : revComp tbl dst src = none := by
  obtain ⟨b, hm, hb⟩ := hb
  exact (revComp_eq_none_iff tbl dst src).mpr ⟨b, hm, by rw [comp_eq h, hb]; rfl⟩

example : ∃ b ∈ [65, 85, 67], isDNAN b = false := by decide
example : revComp exCompTable [] [65, 85, 67] = none :=
  revComp_panics exCompTable_ok _ _ (by decide)

/-- Defined exactly on sequences over the alphabet. -/
theorem revComp_isSome_iff {tbl : List UInt8} (h : compTableOK tbl = true) (dst src : Bytes) :
    (revComp tbl dst src).isSome = true ↔ ∀ b ∈ src, isDNAN b = true := by
  constructor
  · intro hsome b hb
    cases hd : isDNAN b with
    | true => rfl
    | false => rw [revComp_panics h dst src ⟨b, hb, hd⟩] at hsome; simp at hsome
  · intro hs; rw [revComp_spec h dst src hs]; rfl

/-- `dst`'s existing content is a prefix of the result; the rest does not depend on `dst`. -/
theorem revComp_dst (tbl : List UInt8) (dst src : Bytes) :
    revComp tbl dst src = (revComp tbl [] src).map (dst ++ ·) := by
  unfold revComp
  cases src.reverse.mapM (comp tbl) <;> simp

theorem revComp_involution {tbl : List UInt8} (h : compTableOK tbl = true) (s r : Bytes)
    (hr : revComp tbl [] s = some r) : revComp tbl [] r = some s :=
  revComp_involutive (comp_involutive h) hr

example : revComp exCompTable [] [65, 99, 110] = some [110, 103, 84] := by
  rw [revComp_spec exCompTable_ok _ _ (by decide)]; decide

/-! ## 3. `CanonicalSubsequences` -/

/-- `bytes.Compare`-style `<` of the model is the lexicographic order on lists. -/
theorem bytesLt_lex (x y : Bytes) : bytesLt x y = true ↔ x < y := bytesLt_iff_lt x y

/-- One item per window start: `|seq| - k + 1` items, none when `k > |seq|`. -/
theorem canonical_length (tbl : List UInt8) (seq : Bytes) (k : Nat) (items : List Bytes)
    (h : canonical tbl seq k = some items) : items.length = seq.length + 1 - k := by
  rw [canonical_eq_map] at h
  obtain ⟨rc, _, rfl⟩ := Option.map_eq_some_iff.mp h
  simp

theorem canonical_empty (tbl : List UInt8) (seq : Bytes) (k : Nat) (items : List Bytes)
    (hk : seq.length < k) (h : canonical tbl seq k = some items) : items = [] := by
  have := canonical_length tbl seq k items h
  apply List.eq_nil_of_length_eq_zero
  omega

/-- Item `i` is the lexicographically smaller of window `i` of `seq` and the
window `rc[|rc|-i-k : |rc|-i]` of the reverse complement. -/
theorem canonical_item (tbl : List UInt8) (seq : Bytes) (k : Nat) (items : List Bytes)
    (h : canonical tbl seq k = some items) :
    ∃ rc, revComp tbl [] seq = some rc ∧ ∀ i, i < seq.length + 1 - k →
      items[i]? = some (lexMin (window seq k i) ((rc.drop (rc.length - i - k)).take k)) := by
  rw [canonical_eq_map] at h
  obtain ⟨rc, hr, rfl⟩ := Option.map_eq_some_iff.mp h
  exact ⟨rc, hr, fun i hi => by simp [List.getElem?_range hi, canonItem_eq]⟩

/-- The paired window of the reverse complement is the reverse complement of the window. -/
theorem rcWindow_eq (seq : Bytes) (k i : Nat) (hik : i + k ≤ seq.length) :
    (((seq.reverse.map stdComp).drop ((seq.reverse.map stdComp).length - i - k)).take k)
      = (window seq k i).reverse.map stdComp := by
  have := rc_window (seq.map stdComp) k i (by simpa using hik)
  rw [List.map_reverse, this, window, List.map_reverse, List.map_take, List.map_drop]

example : (2 : Nat) + 2 ≤ [65, 67, 71, 84, 65].length := by decide

/-- Closed form of the whole iteration over the alphabet `aAcCgGtTnN`. -/
theorem canonical_spec {tbl : List UInt8} (h : compTableOK tbl = true) (seq : Bytes) (k : Nat)
    (hs : ∀ b ∈ seq, isDNAN b = true) :
    canonical tbl seq k = some ((List.range (seq.length + 1 - k)).map fun i =>
      lexMin (window seq k i) ((window seq k i).reverse.map stdComp)) := by
  rw [canonical_eq_some k (revComp_spec h [] seq hs)]
  congr 1
  apply List.map_congr_left
  intro i hi
  rw [canonItem_eq, List.nil_append, rcWindow_eq seq k i (by have := List.mem_range.mp hi; omega)]

example : compTableOK exCompTable = true ∧ (∀ b ∈ [84, 84, 65, 67], isDNAN b = true) := by
  exact ⟨exCompTable_ok, by decide⟩
/-- "TTAC", k = 2: TT→AA (rc), TA→TA, AC→AC (rc GT is larger). -/
example : canonical exCompTable [84, 84, 65, 67] 2 = some [[65, 65], [84, 65], [65, 67]] := by
  rw [canonical_spec exCompTable_ok _ _ (by decide)]; decide

/-- `k > |seq|`: no items. -/
example : canonical exCompTable [65] 3 = some [] := by
  rw [canonical_spec exCompTable_ok _ _ (by decide)]; decide

/-- Instances of the hypothesis of `canonical_length` / `canonical_item` exist, with 3 items. -/
example : ∃ items, canonical exCompTable [84, 84, 65, 67] 2 = some items ∧ items.length = 3 :=
  ⟨_, by rw [canonical_spec exCompTable_ok _ _ (by decide)], by decide⟩

theorem canonical_panics {tbl : List UInt8} (h : compTableOK tbl = true) (seq : Bytes) (k : Nat)
    (hb : ∃ b ∈ seq, isDNAN b = false) : canonical tbl seq k = none := by
  rw [canonical_eq_map, revComp_panics h [] seq hb]; rfl

example : canonical exCompTable [84, 88] 1 = none :=
  canonical_panics exCompTable_ok _ _ (by decide)

/- Strand symmetry, `canonical (revComp seq) k = reverse (canonical seq k)`: `canonical_revComp` (Lemmas/Mash),
for the generated table in Props/C12Strand. -/

end Bio.Sequtil

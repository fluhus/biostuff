/-
  C17 for the complement table regenerated from /repo: strand and case
  invariance hypotheses hold for it.
-/
import Bio.Props.C17
import Bio.Props.C12Inst
namespace Bio.Mash

theorem generated_CompOK : CompOK Generated.compTable := compOK_of_tableOK Sequtil.generated_compTable_ok
theorem generated_CaseOK : CaseOK Generated.compTable := caseOK_of_tableOK Sequtil.generated_compTable_ok

end Bio.Mash

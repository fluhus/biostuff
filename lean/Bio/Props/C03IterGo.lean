/-
  C03 / C11 / C18 (SAM), ITERATOR level, for the Go SOURCE TEXT of `ReaderHeader` (formats/sam/iter.go),
  as translated on every run, statement by statement, into `Bio.Generated.GoSrc.sam_ReaderHeader`:

      sam_ReaderHeader h f g fuel ⟨x, e⟩ yield : Option (List item)

  `h`, `f`, `g` stand for `hex.DecodeString`, `strconv.Atoi`, `strconv.ParseFloat` (PARAMETERS; what is
  assumed about them is `HexModel h`, `AtoiModel f`, `PFModel g pf`, as in `Bio.Props.C03ReadGo`);
  `⟨x, e⟩` is the `bufio.Reader` (the bytes `x`, then `io.EOF` or a read error); `yield` is a HISTORY
  consumer (asked about all items handed to it so far, the current one last; not asked about the
  read-error item, whose verdict the Go code ignores); the result is the LOG of the items handed over;
  `fuel` bounds the `for { }` loop (`none` = out of fuel or a panic).  It calls the translated
  `sam_parseLine` (`Bio.Props.C03ReadGo`).

  An item is `((H, S), err)` (`SAMOrHeader{H *string, S *SAM}` and the error).  The Go tag map of a
  record is an association list in INSERTION order, the model's is SORTED by name; `normItem` turns a
  Go item into a model item `Item Sam.Entry`: `err ≠ nil ↦ .err`, a header `↦ .ok (.hdr h)`, a record
  `↦ .ok (.sam r)` with `r`'s tags normalised by `Sam.insertAll · []`.

  Guarded by the translator's `_Found` flags (see `Bio.Lemmas.GoSrc`).
-/
import Bio.Lemmas.GoSrcSamIter
import Bio.Props.C03ReadGo
import Bio.Props.C18Hist
set_option linter.unusedVariables false
namespace Bio.Props.C03IterGo
open Bio Bio.GoRt Bio.Generated Bio.GoSrcLemmas Bio.GoSrcLemmas.SamP Bio.GoSrcLemmas.BedRd
  Bio.GoSrcLemmas.SamIt

/-- every translator flag this file depends on; the non-vacuity examples below are stated as
`allFound = false ∨ …` so that a source the translator no longer recognises is not an alarm -/
def allFound : Bool :=
  GoSrc.sam_ReaderHeader_Found && GoSrc.sam_parseLine_Found && GoSrc.parseTags_Found && GoSrc.parseInts_Found
    && GoSrc.splitTag_Found && GoSrc.sam_Write_Found

/-! ## The hypotheses are satisfiable; `normItem`, spelled out -/

example : AtoiModel atoiP ∧ PFModel (pfP Sam.exPf) Sam.exPf ∧ HexModel hexP :=
  ⟨atoiP_model, pfP_model _, hexP_model⟩

/-- `normItem` on the four shapes: a header; a record (`tupleOf s r`: the fields of `s` with the Go tag
map `r`) — the tags are sorted by insertion; any error; the pair `(SAMOrHeader{}, nil)` (never produced) -/
example (hd : Bytes) (s : Sam.Sam) (r : Sam.Tags) (o : Option Bytes) (t : Option SamT) :
    normItem ((some hd, t), GoErr.nil) = .ok (.hdr hd)
    ∧ normItem ((none, some (tupleOf s r)), GoErr.nil) = .ok (.sam { s with tags := Sam.insertAll r [] })
    ∧ normItem ((o, t), GoErr.other) = .err ∧ normItem ((o, t), GoErr.eof) = .err
    ∧ normItem ((none, none), GoErr.nil) = .err := by
  refine ⟨rfl, rfl, ?_, ?_, rfl⟩ <;> cases o <;> cases t <;> rfl

/-- enough fuel: one iteration per text line and one more to meet the end of the input; never more
than `len x + 1` -/
theorem go_readerHeader_fuel (e : Ending) (x : Bytes) : (textLines e x).length + 1 ≤ x.length + 1 :=
  Nat.succ_le_succ (textLines_length_le e x)

/-! ## 1. The log -/

/-- For ARBITRARY library functions and an ARBITRARY consumer `y` of Go-level histories: the log is the
list `goItems …` of the Go items of an uninterrupted run — for each non-empty text line of `x`
(`textLines e x`: split at LF, one CR stripped, an unterminated last line kept at `io.EOF` and dropped
at a read error), `(H = the line, nil)` if it starts with `@` and else what the translated `parseLine`
returns on its TAB-separated fields; then `(SAMOrHeader{}, err)` if the source failed — up to and
including the first item after which `y` said stop. -/
theorem go_readerHeader_raw : GoSrc.sam_ReaderHeader_Found = true → GoSrc.sam_parseLine_Found = true →
    GoSrc.parseInts_Found = true → GoSrc.parseTags_Found = true → GoSrc.splitTag_Found = true →
    ∀ (h : Bytes → Bytes × GoErr) (f : Bytes → Int × GoErr) (g : Bytes → Int → Bytes × GoErr)
      (x : Bytes) (e : Ending) (y : List GoItem → Bool) (fuel : Nat), (textLines e x).length + 1 ≤ fuel →
    GoSrc.sam_ReaderHeader h f g fuel ⟨x, e⟩ y
      = some (takeThroughH y []
          (((textLines e x).filter (· ≠ [])).map (fun l =>
              if List.isPrefixOf [64] l = true then (((some l, none), GoErr.nil) : GoItem)
              else ((none, (lineSpec h f g (splitOn 9 l)).1), (lineSpec h f g (splitOn 9 l)).2))
            ++ (match e with | .eof => [] | .fail => [((none, none), GoErr.other)]))) := by
  intro hR hF hI hT hS h f g x e y fuel hfuel
  rw [sam_ReaderHeader_raw hR hF hI hT hS h f g fuel x e y hfuel]
  cases e <;> rfl

/-- Under the three hypotheses those Go items, normalised, are the model's items. -/
theorem go_readerHeader_items :
    ∀ (h : Bytes → Bytes × GoErr) (f : Bytes → Int × GoErr) (g : Bytes → Int → Bytes × GoErr)
      (pf : Bytes → Option Bytes), AtoiModel f → PFModel g pf → HexModel h → ∀ (x : Bytes) (e : Ending),
    (goItems (lineSpec h f g) e x).map normItem = Sam.decodeHeaderSrc pf e x :=
  fun h f g pf hf hg hh x e => goItems_norm hf hg hh e x

/-- THE LOG.  Under `AtoiModel f`, `PFModel g pf`, `HexModel h`, for every input `x`, ending `e`, every
consumer `y'` of normalised histories (and `y` any Go-level consumer that answers as `y'` does on the
normalised history — `y := fun l => y' (l.map normItem)` is one), and `fuel ≥ text lines + 1`: the
normalised log of the translated closure is the model's item list `Sam.decodeHeaderSrc pf e x` cut by
`y'`, i.e. the log of the model closure `samReaderHeaderH pf e x y'`: one error item per malformed line
and reading continues, header lines verbatim, blank lines skipped, CRLF and a missing final newline
handled, a read error is the last item (and the consumer is not asked about it). -/
theorem go_readerHeader_log : GoSrc.sam_ReaderHeader_Found = true → GoSrc.sam_parseLine_Found = true →
    GoSrc.parseInts_Found = true → GoSrc.parseTags_Found = true → GoSrc.splitTag_Found = true →
    ∀ (h : Bytes → Bytes × GoErr) (f : Bytes → Int × GoErr) (g : Bytes → Int → Bytes × GoErr)
      (pf : Bytes → Option Bytes), AtoiModel f → PFModel g pf → HexModel h →
    ∀ (x : Bytes) (e : Ending) (y' : List (Item Sam.Entry) → Bool) (y : List GoItem → Bool),
    (∀ l, y l = y' (l.map normItem)) → ∀ (fuel : Nat), (textLines e x).length + 1 ≤ fuel →
    (GoSrc.sam_ReaderHeader h f g fuel ⟨x, e⟩ y).map (·.map normItem)
        = some (takeThroughH y' [] (Sam.decodeHeaderSrc pf e x))
    ∧ (GoSrc.sam_ReaderHeader h f g fuel ⟨x, e⟩ y).map (·.map normItem)
        = some (IterH.samReaderHeaderH pf e x y') := by
  intro hR hF hI hT hS h f g pf hf hg hh x e y' y hy fuel hfuel
  have h1 : (GoSrc.sam_ReaderHeader h f g fuel ⟨x, e⟩ y).map (·.map normItem)
      = some (takeThroughH y' [] (Sam.decodeHeaderSrc pf e x)) := by
    rw [sam_ReaderHeader_raw hR hF hI hT hS h f g fuel x e y hfuel, Option.map_some,
      map_takeThroughH normItem hy, goItems_norm hf hg hh e x]
  exact ⟨h1, by rw [h1, C18Hist.samReaderHeaderH_log]⟩

/-- the consumer hypothesis of `go_readerHeader_log` is satisfiable: the lifted consumer itself; and a
consumer that looks at Go items only through what `normItem` keeps (here: "stop at the first error") -/
example (y' : List (Item Sam.Entry) → Bool) : ∀ l : List GoItem, liftY y' l = y' (l.map normItem) := fun _ => rfl
example : ∀ l : List GoItem,
    (fun l : List GoItem => (l.map normItem).getLast? != some .err) l
      = (fun l' : List (Item Sam.Entry) => l'.getLast? != some .err) (l.map normItem) := fun _ => rfl

/-! ## 2. The consumer that never stops -/

/-- With the consumer that never stops the normalised log is exactly `Sam.decodeHeaderSrc pf e x`, and
without the header items it is `Sam.decodeSrc pf e x` — what `Reader` yields. -/
theorem go_readerHeader_all : GoSrc.sam_ReaderHeader_Found = true → GoSrc.sam_parseLine_Found = true →
    GoSrc.parseInts_Found = true → GoSrc.parseTags_Found = true → GoSrc.splitTag_Found = true →
    ∀ (h : Bytes → Bytes × GoErr) (f : Bytes → Int × GoErr) (g : Bytes → Int → Bytes × GoErr)
      (pf : Bytes → Option Bytes), AtoiModel f → PFModel g pf → HexModel h →
    ∀ (x : Bytes) (e : Ending) (fuel : Nat), (textLines e x).length + 1 ≤ fuel →
    (GoSrc.sam_ReaderHeader h f g fuel ⟨x, e⟩ (fun _ => true)).map (·.map normItem)
        = some (Sam.decodeHeaderSrc pf e x)
    ∧ (GoSrc.sam_ReaderHeader h f g fuel ⟨x, e⟩ (fun _ => true)).map (fun L => Sam.dropHeaders (L.map normItem))
        = some (Sam.decodeSrc pf e x) := by
  intro hR hF hI hT hS h f g pf hf hg hh x e fuel hfuel
  have h1 := (go_readerHeader_log hR hF hI hT hS h f g pf hf hg hh x e (fun _ => true) (fun _ => true)
    (fun _ => rfl) fuel hfuel).1
  rw [IterH.takeThroughH_true, List.nil_append] at h1
  refine ⟨h1, ?_⟩
  cases hq : GoSrc.sam_ReaderHeader h f g fuel ⟨x, e⟩ (fun _ => true) with
  | none => rw [hq] at h1; cases h1
  | some L =>
    rw [hq] at h1
    simp only [Option.map_some, Option.some.injEq] at h1 ⊢
    rw [h1]; rfl

/-- C11 on the translated code: in a file of LF-terminated plain lines, a non-empty, non-header line
that the model's `parseLine` rejects is exactly ONE error item, in place, and reading continues: the
items before it and after it are those of the files without it. -/
theorem go_readerHeader_line_error : GoSrc.sam_ReaderHeader_Found = true → GoSrc.sam_parseLine_Found = true →
    GoSrc.parseInts_Found = true → GoSrc.parseTags_Found = true → GoSrc.splitTag_Found = true →
    ∀ (h : Bytes → Bytes × GoErr) (f : Bytes → Int × GoErr) (g : Bytes → Int → Bytes × GoErr)
      (pf : Bytes → Option Bytes), AtoiModel f → PFModel g pf → HexModel h →
    ∀ (pre post : List Bytes) (l' : Bytes),
    (∀ l ∈ pre, Sam.plainLine l) → (∀ l ∈ post, Sam.plainLine l) → Sam.plainLine l' → l' ≠ [] →
    l'.head? ≠ some 64 → Sam.parseLine pf (splitOn TAB l') = none →
    ∀ (fuel : Nat), pre.length + post.length + 2 ≤ fuel →
    (GoSrc.sam_ReaderHeader h f g fuel ⟨lfFile (pre ++ [l'] ++ post), .eof⟩ (fun _ => true)).map (·.map normItem)
      = some (Sam.decodeHeader pf (lfFile pre) ++ [Item.err] ++ Sam.decodeHeader pf (lfFile post)) := by
  intro hR hF hI hT hS h f g pf hf hg hh pre post l' hpre hpost hl hne h64 hbad fuel hfuel
  have hall := Sam.plainLine_mid hpre hpost hl
  have hlines : textLines .eof (lfFile (pre ++ [l'] ++ post)) = pre ++ [l'] ++ post :=
    textLines_eof_lfFile _ hall
  rw [(go_readerHeader_all hR hF hI hT hS h f g pf hf hg hh _ .eof fuel (by rw [hlines]; simp; omega)).1]
  exact congrArg some (Sam.line_error_local pf pre post l' hpre hpost hl hne h64 hbad).1

/-- Non-vacuity: surrounding lines include a header, an empty line, another bad line and a good
record; the bad line has three fields. -/
example :
    let pre : List Bytes := [[64, 72, 68], [], [120, 9, 121]]
    let post : List Bytes := [[], [34, 34]]
    let l' : Bytes := [97, 34, 9, 98, 9, 99]
    (∀ l ∈ pre, Sam.plainLine l) ∧ (∀ l ∈ post, Sam.plainLine l) ∧ Sam.plainLine l' ∧ l' ≠ [] ∧
    l'.head? ≠ some 64 ∧ Sam.parseLine Sam.exPf (splitOn TAB l') = none := by decide +kernel

/-! ## 3. Early stop -/

/-- For ANY Go-level consumer `y` (it may keep state, and may look at the tag order): the closure
returns a log `L` such that (a) `L`, normalised, is a prefix of the model's uninterrupted run
`Sam.decodeHeaderSrc pf e x` (and `L` itself a prefix of the Go items of the uninterrupted run);
(b) `y` answered `true` on every proper prefix history; (c) an item after which `y` answered `false` is
the last one. -/
theorem go_readerHeader_early_stop : GoSrc.sam_ReaderHeader_Found = true → GoSrc.sam_parseLine_Found = true →
    GoSrc.parseInts_Found = true → GoSrc.parseTags_Found = true → GoSrc.splitTag_Found = true →
    ∀ (h : Bytes → Bytes × GoErr) (f : Bytes → Int × GoErr) (g : Bytes → Int → Bytes × GoErr)
      (pf : Bytes → Option Bytes), AtoiModel f → PFModel g pf → HexModel h →
    ∀ (x : Bytes) (e : Ending) (y : List GoItem → Bool) (fuel : Nat), (textLines e x).length + 1 ≤ fuel →
    ∃ L, GoSrc.sam_ReaderHeader h f g fuel ⟨x, e⟩ y = some L
      ∧ L.map normItem <+: Sam.decodeHeaderSrc pf e x
      ∧ L <+: goItems (lineSpec h f g) e x
      ∧ (∀ i, i + 1 < L.length → y (L.take (i + 1)) = true)
      ∧ (∀ i, i < L.length → y (L.take (i + 1)) = false → i + 1 = L.length) := by
  intro hR hF hI hT hS h f g pf hf hg hh x e y fuel hfuel
  refine ⟨_, sam_ReaderHeader_raw hR hF hI hT hS h f g fuel x e y hfuel, ?_, takeThroughH_prefix _ _,
    takeThroughH_go_on _ _, takeThroughH_stop _ _⟩
  rw [← goItems_norm hf hg hh e x]
  exact (takeThroughH_prefix y _).map normItem

/-- The same for a consumer `y'` of normalised histories, about the normalised log `L'` — the (a)–(c) of
`C18Hist.samReaderHeaderH_early_stop`, on the translated closure. -/
theorem go_readerHeader_early_stop_norm : GoSrc.sam_ReaderHeader_Found = true → GoSrc.sam_parseLine_Found = true →
    GoSrc.parseInts_Found = true → GoSrc.parseTags_Found = true → GoSrc.splitTag_Found = true →
    ∀ (h : Bytes → Bytes × GoErr) (f : Bytes → Int × GoErr) (g : Bytes → Int → Bytes × GoErr)
      (pf : Bytes → Option Bytes), AtoiModel f → PFModel g pf → HexModel h →
    ∀ (x : Bytes) (e : Ending) (y' : List (Item Sam.Entry) → Bool) (fuel : Nat),
    (textLines e x).length + 1 ≤ fuel →
    ∃ L', (GoSrc.sam_ReaderHeader h f g fuel ⟨x, e⟩ (fun l => y' (l.map normItem))).map (·.map normItem) = some L'
      ∧ L' <+: Sam.decodeHeaderSrc pf e x
      ∧ (∀ i, i + 1 < L'.length → y' (L'.take (i + 1)) = true)
      ∧ (∀ i, i < L'.length → y' (L'.take (i + 1)) = false → i + 1 = L'.length) := by
  intro hR hF hI hT hS h f g pf hf hg hh x e y' fuel hfuel
  exact ⟨_, (go_readerHeader_log hR hF hI hT hS h f g pf hf hg hh x e y' _ (fun _ => rfl) fuel hfuel).1,
    takeThroughH_prefix _ _, takeThroughH_go_on _ _, takeThroughH_stop _ _⟩

/-! ## 4. No panic -/

/-- For ARBITRARY `hex.DecodeString`, `strconv.Atoi`, `strconv.ParseFloat` and an ARBITRARY consumer, with
`text lines + 1` fuel (e.g. `len x + 1`): the closure returns — no panic (the translated `parseLine` never
panics: `C03ReadGo.go_sam_parseLine_no_panic`), and the loop ends within the fuel. -/
theorem go_readerHeader_no_panic : GoSrc.sam_ReaderHeader_Found = true → GoSrc.sam_parseLine_Found = true →
    GoSrc.parseInts_Found = true → GoSrc.parseTags_Found = true → GoSrc.splitTag_Found = true →
    ∀ (h : Bytes → Bytes × GoErr) (f : Bytes → Int × GoErr) (g : Bytes → Int → Bytes × GoErr)
      (x : Bytes) (e : Ending) (y : List GoItem → Bool) (fuel : Nat), (textLines e x).length + 1 ≤ fuel →
    GoSrc.sam_ReaderHeader h f g fuel ⟨x, e⟩ y ≠ none := by
  intro hR hF hI hT hS h f g x e y fuel hfuel
  rw [sam_ReaderHeader_raw hR hF hI hT hS h f g fuel x e y hfuel]
  simp

/-! ## 5. Write, then read -/

/-- Header lines `hs` (each beginning with `@`, free of LF and CR), written as they are, each followed by
LF, and then the well-formed records `rs` written by the translated `(*SAM).Write` (`goWriteAll`: one
record after the other onto the same writer, which has room): no write error; the bytes written are
the LF-terminated lines; the translated `ReaderHeader` on them, with the consumer that never stops,
hands over — normalised — the header lines and the records, unchanged and in order; without the header
items, the records (what `Reader` yields). -/
theorem go_readerHeader_roundtrip : GoSrc.sam_Write_Found = true → GoSrc.sam_ReaderHeader_Found = true →
    GoSrc.sam_parseLine_Found = true → GoSrc.parseInts_Found = true → GoSrc.parseTags_Found = true →
    GoSrc.splitTag_Found = true →
    ∀ (h : Bytes → Bytes × GoErr) (f : Bytes → Int × GoErr) (g : Bytes → Int → Bytes × GoErr)
      (pf : Bytes → Option Bytes), AtoiModel f → PFModel g pf → HexModel h →
    ∀ (hs : List Bytes) (rs : List Sam.Sam), (∀ l ∈ hs, Sam.hdrOK l) → (∀ s ∈ rs, Sam.WF pf s) →
    ∀ (k : Nat), ((rs.map Sam.encode).flatten).length ≤ k →
    ∀ (fuel : Nat), hs.length + rs.length + 1 ≤ fuel →
    ∃ w', goWriteAll rs ⟨k, lfFile hs⟩ = some (GoErr.nil, w')
      ∧ w'.out = ((hs ++ rs.map Sam.encodeLine).map (· ++ [10])).flatten
      ∧ (GoSrc.sam_ReaderHeader h f g fuel ⟨w'.out, .eof⟩ (fun _ => true)).map (·.map normItem)
          = some (hs.map (fun l => Item.ok (Sam.Entry.hdr l)) ++ rs.map (fun s => Item.ok (Sam.Entry.sam s)))
      ∧ (GoSrc.sam_ReaderHeader h f g fuel ⟨w'.out, .eof⟩ (fun _ => true)).map
            (fun L => Sam.dropHeaders (L.map normItem))
          = some (rs.map Item.ok) := by
  intro hW hR hF hI hT hS h f g pf hf hg hh hs rs hhs hrs k hk fuel hfuel
  refine ⟨_, goWriteAll_bytes hW rs k (lfFile hs) hk, ?_, ?_⟩
  · simp only [written_file]; rfl
  · simp only [written_file]
    have hlines := written_lines pf hs rs hhs hrs
    have hall := go_readerHeader_all hR hF hI hT hS h f g pf hf hg hh
      (lfFile (hs ++ rs.map Sam.encodeLine)) .eof fuel (by rw [hlines]; simp; omega)
    have hrt := Sam.file_roundtrip pf hs rs hhs hrs
    exact ⟨by rw [hall.1]; exact congrArg some hrt.1, by rw [hall.2]; exact congrArg some hrt.2⟩

/-- Non-vacuity: C03's sample header lines and records; room; fuel -/
example : (∀ l ∈ Sam.exHs, Sam.hdrOK l) ∧ (∀ s ∈ Sam.exRs, Sam.WF Sam.exPf s) := ⟨Sam.exHs_ok, Sam.exRs_ok⟩
example : ((Sam.exRs.map Sam.encode).flatten).length ≤ 400 ∧ Sam.exHs.length + Sam.exRs.length + 1 ≤ 6 := by
  decide +kernel

/-! ## Concrete runs of the translated closure -/

/-- `@HD\tVN:1\r\n`, an empty line, `r1\t0\t*\t0\t0\t*\t*\t0\t0\t*\t*\tZZ:Z:a\tNM:i:3\n` (a good record, two tags
given out of order), `bad\tline\n`, `r2\t16\t*\t7\t0\t*\t*\t0\t0\t*\t*` (a good record, no final newline) -/
def exIn : Bytes :=
  [64, 72, 68, 9, 86, 78, 58, 49, 13, 10, 10,
   114, 49, 9, 48, 9, 42, 9, 48, 9, 48, 9, 42, 9, 42, 9, 48, 9, 48, 9, 42, 9, 42, 9, 90, 90, 58, 90, 58, 97, 9, 78, 77, 58, 105, 58, 51, 10,
   98, 97, 100, 9, 108, 105, 110, 101, 10,
   114, 50, 9, 49, 54, 9, 42, 9, 55, 9, 48, 9, 42, 9, 42, 9, 48, 9, 48, 9, 42, 9, 42]

def exHd : Bytes := [64, 72, 68, 9, 86, 78, 58, 49]
def exR1 : Sam.Sam :=
  { qname := [114, 49], flag := 0, rname := [42], pos := 0, mapq := 0, cigar := [42], rnext := [42], pnext := 0,
    tlen := 0, seq := [42], qual := [42], tags := [([78, 77], .I 3), ([90, 90], .Z [97])] }
def exR2 : Sam.Sam :=
  { qname := [114, 50], flag := 16, rname := [42], pos := 7, mapq := 0, cigar := [42], rnext := [42], pnext := 0,
    tlen := 0, seq := [42], qual := [42], tags := [] }

/-- the fuel hypothesis: five text lines at `io.EOF`, four before a read error (the unterminated last
line is not a line then) -/
example : (textLines .eof exIn).length + 1 ≤ 6 ∧ (textLines .fail exIn).length + 1 ≤ 5 := by decide +kernel

/-- the consumer that never stops: header (CR stripped), the blank line skipped, record, ONE error for the
bad line, and reading continues: the record without a final newline.  The model says the same. -/
example : allFound = false ∨ (
    (GoSrc.sam_ReaderHeader hexP atoiP (pfP Sam.exPf) 6 ⟨exIn, .eof⟩ (fun _ => true)).map (·.map normItem)
      = some [.ok (.hdr exHd), .ok (.sam exR1), .err, .ok (.sam exR2)]
    ∧ Sam.decodeHeaderSrc Sam.exPf .eof exIn = [.ok (.hdr exHd), .ok (.sam exR1), .err, .ok (.sam exR2)]
    ∧ (GoSrc.sam_ReaderHeader hexP atoiP (pfP Sam.exPf) 6 ⟨exIn, .eof⟩ (fun _ => true)).map
        (fun L => Sam.dropHeaders (L.map normItem)) = some [.ok exR1, .err, .ok exR2]) := by
  decide +kernel

/-- the log itself, not normalised: the Go tag map is in insertion order (`ZZ` before `NM`), the error
item is `(SAMOrHeader{}, err)` -/
example : allFound = false ∨ (
    GoSrc.sam_ReaderHeader hexP atoiP (pfP Sam.exPf) 6 ⟨exIn, .eof⟩ (fun _ => true)
      = some [((some exHd, none), GoErr.nil),
              ((none, some (tupleOf exR1 [([90, 90], .Z [97]), ([78, 77], .I 3)])), GoErr.nil),
              ((none, none), GoErr.other),
              ((none, some (tupleOf exR2 [])), GoErr.nil)]) := by
  decide +kernel

/-- a consumer WITH state, "stop at the second item": header and first record, on the translated closure
(Go-level histories and normalised ones) and on the model closure -/
example : allFound = false ∨ (
    (GoSrc.sam_ReaderHeader hexP atoiP (pfP Sam.exPf) 6 ⟨exIn, .eof⟩ (fun l => l.length < 2)).map (·.map normItem)
      = some [.ok (.hdr exHd), .ok (.sam exR1)]
    ∧ (GoSrc.sam_ReaderHeader hexP atoiP (pfP Sam.exPf) 6 ⟨exIn, .eof⟩
        (liftY fun l => l.length < 2)).map (·.map normItem) = some [.ok (.hdr exHd), .ok (.sam exR1)]
    ∧ IterH.samReaderHeaderH Sam.exPf .eof exIn (fun l => l.length < 2) = [.ok (.hdr exHd), .ok (.sam exR1)]
    -- "stop at the first error": the bad line is the last item
    ∧ (GoSrc.sam_ReaderHeader hexP atoiP (pfP Sam.exPf) 6 ⟨exIn, .eof⟩
        (liftY fun l => l.getLast? != some .err)).map (·.map normItem)
      = some [.ok (.hdr exHd), .ok (.sam exR1), .err]
    -- an instance of the hypotheses of (b) and (c) of `go_readerHeader_early_stop`
    ∧ ((GoSrc.sam_ReaderHeader hexP atoiP (pfP Sam.exPf) 6 ⟨exIn, .eof⟩ (fun l => l.length < 2)).map fun L =>
        (decide (1 < L.length), decide (0 + 1 < L.length), (fun l : List GoItem => decide (l.length < 2)) (L.take (1 + 1))))
      = some (true, true, false)) := by
  decide +kernel

set_option synthInstance.maxSize 4096 in
/-- the source FAILS after these bytes: the unterminated last line is not parsed, the read error is the
last item; a consumer that would stop there ("at most three items") is not asked: the same log; "at most
two items" stops before -/
example : allFound = false ∨ (
    (GoSrc.sam_ReaderHeader hexP atoiP (pfP Sam.exPf) 5 ⟨exIn, .fail⟩ (fun _ => true)).map (·.map normItem)
      = some [.ok (.hdr exHd), .ok (.sam exR1), .err, .err]
    ∧ (GoSrc.sam_ReaderHeader hexP atoiP (pfP Sam.exPf) 5 ⟨exIn, .fail⟩ (fun l => l.length < 4) : Option (List GoItem))
      = GoSrc.sam_ReaderHeader hexP atoiP (pfP Sam.exPf) 5 ⟨exIn, .fail⟩ (fun _ => true)
    ∧ ((GoSrc.sam_ReaderHeader hexP atoiP (pfP Sam.exPf) 5 ⟨exIn, .fail⟩ (fun _ => true)).map fun L => L.getLast?)
      = some (some (((none, none), GoErr.other) : GoItem))
    ∧ Sam.decodeHeaderSrc Sam.exPf .fail exIn = [.ok (.hdr exHd), .ok (.sam exR1), .err, .err]
    ∧ (GoSrc.sam_ReaderHeader hexP atoiP (pfP Sam.exPf) 5 ⟨exIn, .fail⟩ (fun l => l.length < 2)).map (·.map normItem)
      = some [.ok (.hdr exHd), .ok (.sam exR1)]) := by
  decide +kernel

/-- too little fuel for the loop to reach the end of the input: `none` (no claim) — unless the consumer
stops it before -/
example : allFound = false ∨ (
    GoSrc.sam_ReaderHeader hexP atoiP (pfP Sam.exPf) 3 ⟨exIn, .eof⟩ (fun _ => true) = none
    ∧ GoSrc.sam_ReaderHeader hexP atoiP (pfP Sam.exPf) 0 ⟨[], .eof⟩ (fun _ => true) = none
    ∧ (GoSrc.sam_ReaderHeader hexP atoiP (pfP Sam.exPf) 3 ⟨exIn, .eof⟩ (fun l => l.length < 2)).map (·.map normItem)
      = some [.ok (.hdr exHd), .ok (.sam exR1)]) := by
  decide +kernel

set_option synthInstance.maxSize 4096 in
/-- edge inputs: a line that is just CR, a header line `@` alone, then an unterminated `abc`: at `io.EOF`
the line `abc` is a (bad) line, at a read error it is not parsed; the empty input; only a newline -/
example : allFound = false ∨ (
    (GoSrc.sam_ReaderHeader hexP atoiP (pfP Sam.exPf) 4 ⟨[13, 10, 64, 10, 97, 98, 99], .eof⟩ (fun _ => true)).map
        (·.map normItem) = some [.ok (.hdr [64]), .err]
    ∧ Sam.decodeHeaderSrc Sam.exPf .eof [13, 10, 64, 10, 97, 98, 99] = [.ok (.hdr [64]), .err]
    ∧ GoSrc.sam_ReaderHeader hexP atoiP (pfP Sam.exPf) 4 ⟨[13, 10, 64, 10, 97, 98, 99], .fail⟩ (fun _ => true)
      = some ([((some [64], none), GoErr.nil), ((none, none), GoErr.other)] : List GoItem)
    ∧ Sam.decodeHeaderSrc Sam.exPf .fail [13, 10, 64, 10, 97, 98, 99] = [.ok (.hdr [64]), .err]
    ∧ GoSrc.sam_ReaderHeader hexP atoiP (pfP Sam.exPf) 1 ⟨[], .eof⟩ (fun _ => false) = some ([] : List GoItem)
    ∧ GoSrc.sam_ReaderHeader hexP atoiP (pfP Sam.exPf) 1 ⟨[], .fail⟩ (fun _ => false)
      = some ([((none, none), GoErr.other)] : List GoItem)
    ∧ GoSrc.sam_ReaderHeader hexP atoiP (pfP Sam.exPf) 2 ⟨[10], .eof⟩ (fun _ => false) = some ([] : List GoItem)) := by
  decide +kernel

/-- arbitrary (absurd) library functions — every integer "parses" as 7, no float or hex string does: the
closure still returns -/
example : allFound = false ∨ (
    (GoSrc.sam_ReaderHeader (fun _ => ([], GoErr.other)) (fun _ => (7, GoErr.nil)) (fun _ _ => ([], GoErr.eof)) 6
        ⟨exIn, .eof⟩ (fun _ => true)).map (·.map (·.2))
      = some [GoErr.nil, GoErr.nil, GoErr.other, GoErr.nil]) := by
  decide +kernel

/-- the round trip on C03's samples: two header lines (one of them `@` alone) and three records (all five
tag types, odd bytes, extreme integers; no tags), written by the translated `Write`, read back by the
translated `ReaderHeader` -/
example : allFound = false ∨ (
    ((goWriteAll Sam.exRs ⟨400, lfFile Sam.exHs⟩).bind fun p =>
        (GoSrc.sam_ReaderHeader hexP atoiP (pfP Sam.exPf) 6 ⟨p.2.out, .eof⟩ (fun _ => true)).map fun L =>
          (p.1, L.map normItem))
      = some (GoErr.nil, Sam.exHs.map (fun l => Item.ok (Sam.Entry.hdr l))
          ++ Sam.exRs.map (fun s => Item.ok (Sam.Entry.sam s)))) := by
  decide +kernel

end Bio.Props.C03IterGo

/-
  C03 / C07 / C11 / C18 (SAM), ITERATOR level, for the Go SOURCE TEXT of `Reader` (formats/sam/iter.go):

      func Reader(r io.Reader) iter.Seq2[*SAM, error] {
          return func(yield func(*SAM, error) bool) {
              for sh, err := range ReaderHeader(r) {
                  if err != nil { if !yield(nil, err) { break }; continue }
                  if sh.S == nil { continue }
                  if !yield(sh.S, nil) { break }
              }
          }
      }

  as translated on every run into `Bio.Generated.GoSrc.sam_Reader`.  `Reader` RANGES OVER ANOTHER ITERATOR:
  Go runs `ReaderHeader(r)` with the loop body as its consumer (`break` answers `false`, `continue` / the
  end of the body answers `true`; a call of the body after it answered `false` is a Go runtime panic).
  The translation: the body is a pure `step : outerLog → innerItem → outerLog × continue?`; `run h`
  replays an inner history through `step` (ignoring what follows a `false`); the translated
  `sam_ReaderHeader` is handed the consumer `fun h => (run h).2` and returns the inner history `inner`;
  `if !(run inner.dropLast).2 then none` is the runtime panic; the result is the outer log
  `(run inner).1`.  In `Bio.Lemmas.GoSrcSamReader`: `step = IterH.filterMapBodyH pick yield`, `run = runG step`,

      pick ((H, S), err) = some (nil, err)   if err ≠ nil        -- `yield(nil, err)`
                         = none              if err = nil, S = nil  -- a header line: `continue`, NO callback
                         = some (S, nil)     otherwise           -- `yield(sh.S, nil)`

  `IH = goItems (lineSpec h f g) e x` is the item list of `ReaderHeader`, `F = IH.filterMap pick` the outer
  items.  `F` is defined with the Go code's own tests (`err != nil`, `sh.S == nil`): an inner item
  `((none, none), nil)` would be dropped like a header and `((some h, some s), nil)` passed on as a record;
  `ReaderHeader` produces neither under the three library hypotheses (`lineSpec_model`), which are needed
  only to identify `F`, normalised, with the model's `Sam.decodeSrc`.

  THE FINAL READ ERROR.  `ReaderHeader` hands `(SAMOrHeader{}, rerr)` to the loop body and returns whatever
  the answer; the body calls the outer `yield(nil, rerr)`, whose answer only decides between `break` and
  `continue`, and nothing follows either way.  So the item IS in the log and the verdict on it changes
  nothing — which is what `takeThroughH yield [] F` says when the read error is the last item of `F`.

  Guarded by the translator's `_Found` flags (see `Bio.Lemmas.GoSrc`).
-/
import Bio.Lemmas.GoSrcSamReader
import Bio.Props.C03IterGo
set_option linter.unusedVariables false
namespace Bio.Props.C03ReaderGo
open Bio Bio.GoRt Bio.Generated Bio.GoSrcLemmas Bio.GoSrcLemmas.SamP Bio.GoSrcLemmas.BedRd
  Bio.GoSrcLemmas.SamIt Bio.GoSrcLemmas.SamRd Bio.IterH

/-- every translator flag this file depends on; the non-vacuity examples below are stated as
`allFound = false ∨ …` so that a source the translator no longer recognises is not an alarm -/
def allFound : Bool := GoSrc.sam_Reader_Found && C03IterGo.allFound

/-! ## `pick`, `normO`, spelled out -/

/-- the loop body on the shapes of a `ReaderHeader` item: a header line — no callback; a record — handed on;
an error (whatever comes with it) — `(nil, err)` -/
example (hd : Bytes) (t : SamT) (H : Option Bytes) (S : Option SamT) :
    pick ((some hd, none), GoErr.nil) = none
    ∧ pick ((none, some t), GoErr.nil) = some (some t, GoErr.nil)
    ∧ pick ((H, S), GoErr.other) = some (none, GoErr.other)
    ∧ pick ((H, S), GoErr.eof) = some (none, GoErr.eof)
    ∧ pick ((H, none), GoErr.nil) = none := ⟨rfl, rfl, rfl, rfl, rfl⟩

/-- the translated loop body IS `filterMapBodyH pick yield`: `continue` without a callback answers `true`
and leaves the outer log alone; otherwise the outer consumer is asked about the outer log so far -/
example (yield : List OItem → Bool) (log : List OItem) (it : GoItem) :
    filterMapBodyH pick yield log it
      = match pick it with
        | none => (log, true)
        | some o => (log ++ [o], yield (log ++ [o])) := by
  unfold filterMapBodyH; cases pick it <;> rfl

/-- `normO`: a record with its tags normalised (as `normItem` does), anything else an error -/
example (s : Sam.Sam) (r : Sam.Tags) (o : Option SamT) :
    normO (some (tupleOf s r), GoErr.nil) = .ok { s with tags := Sam.insertAll r [] }
    ∧ normO (o, GoErr.other) = .err ∧ normO (none, GoErr.nil) = .err := by
  refine ⟨rfl, ?_, rfl⟩; cases o <;> rfl

/-! ## 1. The log -/

/-- THE LOG, for ARBITRARY library functions and EVERY history consumer `yield`: with `text lines + 1` fuel
(at most `len x + 1`: `C03IterGo.go_readerHeader_fuel`) the translated `Reader` returns the outer items
`F = IH.filterMap pick` of the uninterrupted run — `IH` the items of `ReaderHeader`, header items dropped,
a record item handed on as `(some s, nil)`, an error item as `(none, e)` — up to and including the first
one on which `yield` declined.  This holds in ALL cases; when a read error is the last item the verdict on
it is irrelevant (see `go_sam_reader_read_error_last`). -/
theorem go_sam_reader_log : GoSrc.sam_Reader_Found = true → GoSrc.sam_ReaderHeader_Found = true →
    GoSrc.sam_parseLine_Found = true → GoSrc.parseInts_Found = true → GoSrc.parseTags_Found = true →
    GoSrc.splitTag_Found = true →
    ∀ (h : Bytes → Bytes × GoErr) (f : Bytes → Int × GoErr) (g : Bytes → Int → Bytes × GoErr)
      (x : Bytes) (e : Ending) (yield : List OItem → Bool) (fuel : Nat), (textLines e x).length + 1 ≤ fuel →
    GoSrc.sam_Reader h f g fuel ⟨x, e⟩ yield
      = some (takeThroughH yield [] ((goItems (lineSpec h f g) e x).filterMap pick)) :=
  fun hRd hR hF hI hT hS h f g x e y fuel hfuel => sam_Reader_raw hRd hR hF hI hT hS h f g fuel x e y hfuel

/-- the fuel hypothesis is satisfiable for every input: `len x + 1` iterations always suffice -/
example (e : Ending) (x : Bytes) : (textLines e x).length + 1 ≤ x.length + 1 := C03IterGo.go_readerHeader_fuel e x

/-- Under the three hypotheses the outer items, normalised, are the model's `Sam.decodeSrc pf e x`. -/
theorem go_sam_reader_items :
    ∀ (h : Bytes → Bytes × GoErr) (f : Bytes → Int × GoErr) (g : Bytes → Int → Bytes × GoErr)
      (pf : Bytes → Option Bytes), AtoiModel f → PFModel g pf → HexModel h → ∀ (x : Bytes) (e : Ending),
    ((goItems (lineSpec h f g) e x).filterMap pick).map normO = Sam.decodeSrc pf e x :=
  fun h f g pf hf hg hh x e => outItems_norm hf hg hh e x

/-- THE LOG, normalised.  Under `AtoiModel f`, `PFModel g pf`, `HexModel h`, for every consumer `y'` of
normalised histories (and `y` any Go-level consumer that answers as `y'` does on the normalised history):
the normalised log is the model's `Sam.decodeSrc pf e x` cut by `y'`, i.e. the log of the model closure
`IterH.samReaderH pf e x y'` (the model of `Reader` ranging over the model of `ReaderHeader`). -/
theorem go_sam_reader_log_norm : GoSrc.sam_Reader_Found = true → GoSrc.sam_ReaderHeader_Found = true →
    GoSrc.sam_parseLine_Found = true → GoSrc.parseInts_Found = true → GoSrc.parseTags_Found = true →
    GoSrc.splitTag_Found = true →
    ∀ (h : Bytes → Bytes × GoErr) (f : Bytes → Int × GoErr) (g : Bytes → Int → Bytes × GoErr)
      (pf : Bytes → Option Bytes), AtoiModel f → PFModel g pf → HexModel h →
    ∀ (x : Bytes) (e : Ending) (y' : List (Item Sam.Sam) → Bool) (y : List OItem → Bool),
    (∀ l, y l = y' (l.map normO)) → ∀ (fuel : Nat), (textLines e x).length + 1 ≤ fuel →
    (GoSrc.sam_Reader h f g fuel ⟨x, e⟩ y).map (·.map normO)
        = some (takeThroughH y' [] (Sam.decodeSrc pf e x))
    ∧ (GoSrc.sam_Reader h f g fuel ⟨x, e⟩ y).map (·.map normO) = some (IterH.samReaderH pf e x y') := by
  intro hRd hR hF hI hT hS h f g pf hf hg hh x e y' y hy fuel hfuel
  have h1 : (GoSrc.sam_Reader h f g fuel ⟨x, e⟩ y).map (·.map normO)
      = some (takeThroughH y' [] (Sam.decodeSrc pf e x)) := by
    rw [sam_Reader_raw hRd hR hF hI hT hS h f g fuel x e y hfuel, Option.map_some,
      map_takeThroughH normO hy, outItems_norm hf hg hh e x]
  exact ⟨h1, by rw [h1, C18Hist.samReaderH_log]⟩

/-- the hypotheses are satisfiable; so is the consumer hypothesis ("stop at the first error") -/
example : AtoiModel atoiP ∧ PFModel (pfP Sam.exPf) Sam.exPf ∧ HexModel hexP :=
  ⟨atoiP_model, pfP_model _, hexP_model⟩
example : ∀ l : List OItem,
    (fun l : List OItem => (l.map normO).getLast? != some .err) l
      = (fun l' : List (Item Sam.Sam) => l'.getLast? != some .err) (l.map normO) := fun _ => rfl

/-- The verdict on the LAST item of the uninterrupted run never matters: consumers that agree on every
history shorter than `F` get the same log. -/
theorem go_sam_reader_last_verdict : GoSrc.sam_Reader_Found = true → GoSrc.sam_ReaderHeader_Found = true →
    GoSrc.sam_parseLine_Found = true → GoSrc.parseInts_Found = true → GoSrc.parseTags_Found = true →
    GoSrc.splitTag_Found = true →
    ∀ (h : Bytes → Bytes × GoErr) (f : Bytes → Int × GoErr) (g : Bytes → Int → Bytes × GoErr)
      (x : Bytes) (e : Ending) (y y' : List OItem → Bool) (fuel : Nat), (textLines e x).length + 1 ≤ fuel →
    (∀ l, l.length < ((goItems (lineSpec h f g) e x).filterMap pick).length → y l = y' l) →
    GoSrc.sam_Reader h f g fuel ⟨x, e⟩ y = GoSrc.sam_Reader h f g fuel ⟨x, e⟩ y' := by
  intro hRd hR hF hI hT hS h f g x e y y' fuel hfuel hyy
  rw [sam_Reader_raw hRd hR hF hI hT hS h f g fuel x e y hfuel,
    sam_Reader_raw hRd hR hF hI hT hS h f g fuel x e y' hfuel]
  exact congrArg some (takeThroughH_congr y y' _ [] (by simpa [outItems] using hyy))

/-- THE FINAL READ ERROR.  When the source fails, `F` ends with the item `(nil, rerr)` (after the items of
the complete lines; the unterminated last line is not parsed), and a consumer that accepted everything
before it gets ALL of `F`, that item included, WHATEVER it answers on it. -/
theorem go_sam_reader_read_error_last : GoSrc.sam_Reader_Found = true → GoSrc.sam_ReaderHeader_Found = true →
    GoSrc.sam_parseLine_Found = true → GoSrc.parseInts_Found = true → GoSrc.parseTags_Found = true →
    GoSrc.splitTag_Found = true →
    ∀ (h : Bytes → Bytes × GoErr) (f : Bytes → Int × GoErr) (g : Bytes → Int → Bytes × GoErr)
      (x : Bytes) (y : List OItem → Bool) (fuel : Nat), (textLines .fail x).length + 1 ≤ fuel →
    (goItems (lineSpec h f g) .fail x).filterMap pick
        = (((textLines .fail x).filter (· ≠ [])).map (lineItemGo (lineSpec h f g))).filterMap pick
            ++ [(none, GoErr.other)]
    ∧ ((∀ l, l.length < ((goItems (lineSpec h f g) .fail x).filterMap pick).length → y l = true) →
        GoSrc.sam_Reader h f g fuel ⟨x, .fail⟩ y = some ((goItems (lineSpec h f g) .fail x).filterMap pick)) := by
  intro hRd hR hF hI hT hS h f g x y fuel hfuel
  refine ⟨outItems_fail _ x, fun hy => ?_⟩
  rw [sam_Reader_raw hRd hR hF hI hT hS h f g fuel x .fail y hfuel,
    takeThroughH_congr y (fun _ => true) _ [] (by simpa [outItems] using hy), takeThroughH_true]
  rfl

/-! ## 2. No runtime panic, no panic -/

/-- For ARBITRARY library functions, ANY reader, ANY fuel and ANY consumer: whenever the inner
`ReaderHeader` (run with the loop body `fun l => (runG (filterMapBodyH pick yield) l).2` as its consumer)
returns an inner history, the loop body had answered `true` on everything but its last item — the test
for the Go runtime panic "range function continued iteration after function for loop body returned false"
fails — and `Reader` returns the replayed outer log; so `Reader` is `none` ONLY when `ReaderHeader` itself
is (its `for { }` loop ran out of fuel).  And with `text lines + 1` fuel `Reader` is never `none`. -/
theorem go_sam_reader_no_runtime_panic : GoSrc.sam_Reader_Found = true → GoSrc.sam_ReaderHeader_Found = true →
    GoSrc.sam_parseLine_Found = true → GoSrc.parseInts_Found = true → GoSrc.parseTags_Found = true →
    GoSrc.splitTag_Found = true →
    ∀ (h : Bytes → Bytes × GoErr) (f : Bytes → Int × GoErr) (g : Bytes → Int → Bytes × GoErr),
    (∀ (fuel : Nat) (r : BufRd) (yield : List OItem → Bool),
      (∀ inner, GoSrc.sam_ReaderHeader h f g fuel r (fun l => (runG (filterMapBodyH pick yield) l).2) = some inner →
        (runG (filterMapBodyH pick yield) inner.dropLast).2 = true
        ∧ GoSrc.sam_Reader h f g fuel r yield = some (runG (filterMapBodyH pick yield) inner).1)
      ∧ (GoSrc.sam_Reader h f g fuel r yield = none
          ↔ GoSrc.sam_ReaderHeader h f g fuel r (fun l => (runG (filterMapBodyH pick yield) l).2) = none))
    ∧ (∀ (x : Bytes) (e : Ending) (yield : List OItem → Bool) (fuel : Nat), (textLines e x).length + 1 ≤ fuel →
        GoSrc.sam_Reader h f g fuel ⟨x, e⟩ yield ≠ none) := by
  intro hRd hR hF hI hT hS h f g
  refine ⟨fun fuel r y => ⟨fun inner hin => sam_Reader_some hRd hR hF hI hT hS h f g fuel r y inner hin,
    sam_Reader_none_iff hRd hR hF hI hT hS h f g fuel r y⟩, ?_⟩
  intro x e y fuel hfuel
  rw [sam_Reader_raw hRd hR hF hI hT hS h f g fuel x e y hfuel]
  simp

/-! ## 3. The consumer that never stops -/

/-- With the consumer that never stops the log is ALL of `F` (arbitrary library functions); under the three
hypotheses, normalised, it is `Sam.decodeSrc pf e x`: the records and the errors of the input in order,
the header lines dropped; and when the source fails the last item is the read error `(nil, rerr)`. -/
theorem go_sam_reader_all : GoSrc.sam_Reader_Found = true → GoSrc.sam_ReaderHeader_Found = true →
    GoSrc.sam_parseLine_Found = true → GoSrc.parseInts_Found = true → GoSrc.parseTags_Found = true →
    GoSrc.splitTag_Found = true →
    ∀ (h : Bytes → Bytes × GoErr) (f : Bytes → Int × GoErr) (g : Bytes → Int → Bytes × GoErr)
      (x : Bytes) (e : Ending) (fuel : Nat), (textLines e x).length + 1 ≤ fuel →
    GoSrc.sam_Reader h f g fuel ⟨x, e⟩ (fun _ => true) = some ((goItems (lineSpec h f g) e x).filterMap pick)
    ∧ (e = .fail → (GoSrc.sam_Reader h f g fuel ⟨x, e⟩ (fun _ => true)).map (·.getLast?)
          = some (some (none, GoErr.other)))
    ∧ (∀ (pf : Bytes → Option Bytes), AtoiModel f → PFModel g pf → HexModel h →
        (GoSrc.sam_Reader h f g fuel ⟨x, e⟩ (fun _ => true)).map (·.map normO) = some (Sam.decodeSrc pf e x)) := by
  intro hRd hR hF hI hT hS h f g x e fuel hfuel
  have h1 : GoSrc.sam_Reader h f g fuel ⟨x, e⟩ (fun _ => true)
      = some ((goItems (lineSpec h f g) e x).filterMap pick) := by
    rw [sam_Reader_raw hRd hR hF hI hT hS h f g fuel x e _ hfuel, takeThroughH_true]; rfl
  refine ⟨h1, ?_, ?_⟩
  · rintro rfl
    rw [h1, Option.map_some]
    have := outItems_fail (lineSpec h f g) x
    unfold outItems at this
    rw [this]; simp
  · intro pf hf hg hh
    rw [h1, Option.map_some]
    exact congrArg some (outItems_norm hf hg hh e x)

/-- C11 on the translated `Reader`: in a file of LF-terminated plain lines, a non-empty, non-header line
that the model's `parseLine` rejects is exactly ONE error item, in place, and reading continues: the items
before it and after it are those of the files without it (header lines dropped throughout). -/
theorem go_sam_reader_line_error : GoSrc.sam_Reader_Found = true → GoSrc.sam_ReaderHeader_Found = true →
    GoSrc.sam_parseLine_Found = true → GoSrc.parseInts_Found = true → GoSrc.parseTags_Found = true →
    GoSrc.splitTag_Found = true →
    ∀ (h : Bytes → Bytes × GoErr) (f : Bytes → Int × GoErr) (g : Bytes → Int → Bytes × GoErr)
      (pf : Bytes → Option Bytes), AtoiModel f → PFModel g pf → HexModel h →
    ∀ (pre post : List Bytes) (l' : Bytes),
    (∀ l ∈ pre, Sam.plainLine l) → (∀ l ∈ post, Sam.plainLine l) → Sam.plainLine l' → l' ≠ [] →
    l'.head? ≠ some 64 → Sam.parseLine pf (splitOn TAB l') = none →
    ∀ (fuel : Nat), pre.length + post.length + 2 ≤ fuel →
    (GoSrc.sam_Reader h f g fuel ⟨lfFile (pre ++ [l'] ++ post), .eof⟩ (fun _ => true)).map (·.map normO)
      = some (Sam.decode pf (lfFile pre) ++ [Item.err] ++ Sam.decode pf (lfFile post)) := by
  intro hRd hR hF hI hT hS h f g pf hf hg hh pre post l' hpre hpost hl hne h64 hbad fuel hfuel
  have hall := Sam.plainLine_mid hpre hpost hl
  have hlines : textLines .eof (lfFile (pre ++ [l'] ++ post)) = pre ++ [l'] ++ post :=
    textLines_eof_lfFile _ hall
  rw [(go_sam_reader_all hRd hR hF hI hT hS h f g _ .eof fuel (by rw [hlines]; simp; omega)).2.2 pf hf hg hh]
  exact congrArg some (Sam.line_error_local pf pre post l' hpre hpost hl hne h64 hbad).2

/-- Non-vacuity: surrounding lines include a header, an empty line, another bad line and a good record -/
example :
    let pre : List Bytes := [[64, 72, 68], [], [120, 9, 121]]
    let post : List Bytes := [[], [34, 34]]
    let l' : Bytes := [97, 34, 9, 98, 9, 99]
    (∀ l ∈ pre, Sam.plainLine l) ∧ (∀ l ∈ post, Sam.plainLine l) ∧ Sam.plainLine l' ∧ l' ≠ [] ∧
    l'.head? ≠ some 64 ∧ Sam.parseLine Sam.exPf (splitOn TAB l') = none := by decide +kernel

/-! ## 4. Early stop -/

/-- For ARBITRARY library functions and ANY consumer `y` (it may keep state): `Reader` returns a log `L`
such that (a) an item after which `y` answered `false` is the last one — nothing is handed over after the
consumer declined; (b) `L` is a prefix of `F`, the log of the uninterrupted run, and `y` answered `true` on
every proper prefix history; (c) hence a consumer that first declines at its `k`-th item has `L.length = k`. -/
theorem go_sam_reader_early_stop : GoSrc.sam_Reader_Found = true → GoSrc.sam_ReaderHeader_Found = true →
    GoSrc.sam_parseLine_Found = true → GoSrc.parseInts_Found = true → GoSrc.parseTags_Found = true →
    GoSrc.splitTag_Found = true →
    ∀ (h : Bytes → Bytes × GoErr) (f : Bytes → Int × GoErr) (g : Bytes → Int → Bytes × GoErr)
      (x : Bytes) (e : Ending) (y : List OItem → Bool) (fuel : Nat), (textLines e x).length + 1 ≤ fuel →
    ∃ L, GoSrc.sam_Reader h f g fuel ⟨x, e⟩ y = some L
      ∧ (∀ i, i < L.length → y (L.take (i + 1)) = false → i + 1 = L.length)
      ∧ L <+: (goItems (lineSpec h f g) e x).filterMap pick
      ∧ (GoSrc.sam_Reader h f g fuel ⟨x, e⟩ (fun _ => true)).map (fun A => decide (L <+: A)) = some true
      ∧ (∀ i, i + 1 < L.length → y (L.take (i + 1)) = true)
      ∧ (∀ (pf : Bytes → Option Bytes), AtoiModel f → PFModel g pf → HexModel h →
          L.map normO <+: Sam.decodeSrc pf e x) := by
  intro hRd hR hF hI hT hS h f g x e y fuel hfuel
  refine ⟨_, sam_Reader_raw hRd hR hF hI hT hS h f g fuel x e y hfuel, takeThroughH_stop _ _,
    takeThroughH_prefix _ _, ?_, takeThroughH_go_on _ _, ?_⟩
  · rw [(go_sam_reader_all hRd hR hF hI hT hS h f g x e fuel hfuel).1, Option.map_some]
    exact congrArg some (decide_eq_true (takeThroughH_prefix _ _))
  · intro pf hf hg hh
    rw [← outItems_norm hf hg hh e x]
    exact (takeThroughH_prefix y _).map normO

/-- BOTH LAYERS.  Let `c = fun l => (runG (filterMapBodyH pick y) l).2` be the loop body as the consumer of
`ReaderHeader`.  Then `ReaderHeader` returns an inner history `inner` and `Reader` a log `L` with:
`inner` is a prefix of `IH`; `L` is what `pick` keeps of `inner` (each inner item was seen by the body
exactly once, headers gave no callback); the body answered `true` on every proper prefix of `inner` and an
inner item on which it answered `false` is the last one; and if the outer consumer `y` declined the outer
item `o` made of the `i`-th inner item, then that inner item is the LAST one `ReaderHeader` handed over —
no further line is read, not even a header line. -/
theorem go_sam_reader_early_stop_layers : GoSrc.sam_Reader_Found = true → GoSrc.sam_ReaderHeader_Found = true →
    GoSrc.sam_parseLine_Found = true → GoSrc.parseInts_Found = true → GoSrc.parseTags_Found = true →
    GoSrc.splitTag_Found = true →
    ∀ (h : Bytes → Bytes × GoErr) (f : Bytes → Int × GoErr) (g : Bytes → Int → Bytes × GoErr)
      (x : Bytes) (e : Ending) (y : List OItem → Bool) (fuel : Nat), (textLines e x).length + 1 ≤ fuel →
    ∃ inner L,
      GoSrc.sam_ReaderHeader h f g fuel ⟨x, e⟩ (fun l => (runG (filterMapBodyH pick y) l).2) = some inner
      ∧ GoSrc.sam_Reader h f g fuel ⟨x, e⟩ y = some L
      ∧ inner <+: goItems (lineSpec h f g) e x
      ∧ L = inner.filterMap pick
      ∧ (∀ i, i + 1 < inner.length → (runG (filterMapBodyH pick y) (inner.take (i + 1))).2 = true)
      ∧ (∀ i, i < inner.length → (runG (filterMapBodyH pick y) (inner.take (i + 1))).2 = false →
          i + 1 = inner.length)
      ∧ (∀ i (hi : i < inner.length) (o : OItem), pick inner[i] = some o →
          y ((inner.take i).filterMap pick ++ [o]) = false → i + 1 = inner.length) := by
  intro hRd hR hF hI hT hS h f g x e y fuel hfuel
  have hin := sam_ReaderHeader_raw hR hF hI hT hS h f g fuel x e
    (fun l => (runG (filterMapBodyH pick y) l).2) hfuel
  refine ⟨_, _, hin, (sam_Reader_some hRd hR hF hI hT hS h f g fuel ⟨x, e⟩ y _ hin).2,
    takeThroughH_prefix _ _, runG_inner_fst pick y _, takeThroughH_go_on _ _, takeThroughH_stop _ _, ?_⟩
  intro i hi o ho hy
  exact inner_stop pick y _ i hi o ho hy

/-- (c), concretely: the consumer that declines at its `k`-th item (`k ≥ 1`; it counts what it was handed)
sees exactly the first `k` outer items — `k` items if the uninterrupted run has that many. -/
theorem go_sam_reader_kth : GoSrc.sam_Reader_Found = true → GoSrc.sam_ReaderHeader_Found = true →
    GoSrc.sam_parseLine_Found = true → GoSrc.parseInts_Found = true → GoSrc.parseTags_Found = true →
    GoSrc.splitTag_Found = true →
    ∀ (h : Bytes → Bytes × GoErr) (f : Bytes → Int × GoErr) (g : Bytes → Int → Bytes × GoErr)
      (x : Bytes) (e : Ending) (k : Nat) (fuel : Nat), 1 ≤ k → (textLines e x).length + 1 ≤ fuel →
    GoSrc.sam_Reader h f g fuel ⟨x, e⟩ (fun l => decide (l.length < k))
      = some (((goItems (lineSpec h f g) e x).filterMap pick).take k)
    ∧ (k ≤ ((goItems (lineSpec h f g) e x).filterMap pick).length →
        (GoSrc.sam_Reader h f g fuel ⟨x, e⟩ (fun l => decide (l.length < k))).map (·.length) = some k) := by
  intro hRd hR hF hI hT hS h f g x e k fuel hk hfuel
  have h1 : GoSrc.sam_Reader h f g fuel ⟨x, e⟩ (fun l => decide (l.length < k))
      = some (((goItems (lineSpec h f g) e x).filterMap pick).take k) := by
    rw [sam_Reader_raw hRd hR hF hI hT hS h f g fuel x e _ hfuel, takeThroughH_count _ k hk]
    rfl
  refine ⟨h1, fun hle => ?_⟩
  rw [h1, Option.map_some, List.length_take, Nat.min_eq_left hle]

/-! ## 5. No header reaches the consumer -/

/-- For ARBITRARY library functions and ANY consumer: every item of the log is a record without error,
`(some s, nil)`, or an error without record, `(none, e)` with `e ≠ nil`. -/
theorem go_sam_reader_headers_dropped : GoSrc.sam_Reader_Found = true → GoSrc.sam_ReaderHeader_Found = true →
    GoSrc.sam_parseLine_Found = true → GoSrc.parseInts_Found = true → GoSrc.parseTags_Found = true →
    GoSrc.splitTag_Found = true →
    ∀ (h : Bytes → Bytes × GoErr) (f : Bytes → Int × GoErr) (g : Bytes → Int → Bytes × GoErr)
      (x : Bytes) (e : Ending) (y : List OItem → Bool) (fuel : Nat), (textLines e x).length + 1 ≤ fuel →
    ∃ L, GoSrc.sam_Reader h f g fuel ⟨x, e⟩ y = some L
      ∧ ∀ o ∈ L, (∃ s, o = (some s, GoErr.nil)) ∨ (∃ err, err ≠ GoErr.nil ∧ o = (none, err)) := by
  intro hRd hR hF hI hT hS h f g x e y fuel hfuel
  refine ⟨_, sam_Reader_raw hRd hR hF hI hT hS h f g fuel x e y hfuel, ?_⟩
  intro o ho
  have hmem := (takeThroughH_prefix y (outItems (lineSpec h f g) e x)).subset ho
  obtain ⟨it, _, hit⟩ := List.mem_filterMap.1 hmem
  exact pick_shape it o hit

/-! ## 6. Write, then read -/

/-- Header lines `hs` (each beginning with `@`, free of LF and CR), written as they are, each followed by
LF, and then the well-formed records `rs` written by the translated `(*SAM).Write` (`goWriteAll`): no write
error, and the translated `Reader` on the bytes written, with the consumer that never stops, hands over —
normalised — exactly the records, unchanged and in order. -/
theorem go_sam_reader_roundtrip : GoSrc.sam_Write_Found = true → GoSrc.sam_Reader_Found = true →
    GoSrc.sam_ReaderHeader_Found = true → GoSrc.sam_parseLine_Found = true → GoSrc.parseInts_Found = true →
    GoSrc.parseTags_Found = true → GoSrc.splitTag_Found = true →
    ∀ (h : Bytes → Bytes × GoErr) (f : Bytes → Int × GoErr) (g : Bytes → Int → Bytes × GoErr)
      (pf : Bytes → Option Bytes), AtoiModel f → PFModel g pf → HexModel h →
    ∀ (hs : List Bytes) (rs : List Sam.Sam), (∀ l ∈ hs, Sam.hdrOK l) → (∀ s ∈ rs, Sam.WF pf s) →
    ∀ (k : Nat), ((rs.map Sam.encode).flatten).length ≤ k →
    ∀ (fuel : Nat), hs.length + rs.length + 1 ≤ fuel →
    ∃ w', goWriteAll rs ⟨k, lfFile hs⟩ = some (GoErr.nil, w')
      ∧ w'.out = ((hs ++ rs.map Sam.encodeLine).map (· ++ [10])).flatten
      ∧ (GoSrc.sam_Reader h f g fuel ⟨w'.out, .eof⟩ (fun _ => true)).map (·.map normO) = some (rs.map Item.ok) := by
  intro hW hRd hR hF hI hT hS h f g pf hf hg hh hs rs hhs hrs k hk fuel hfuel
  refine ⟨_, goWriteAll_bytes hW rs k (lfFile hs) hk, ?_, ?_⟩
  · simp only [written_file]; rfl
  · simp only [written_file]
    have hlines := written_lines pf hs rs hhs hrs
    rw [(go_sam_reader_all hRd hR hF hI hT hS h f g (lfFile (hs ++ rs.map Sam.encodeLine)) .eof fuel
      (by rw [hlines]; simp; omega)).2.2 pf hf hg hh]
    exact congrArg some (Sam.file_roundtrip pf hs rs hhs hrs).2

/-- Non-vacuity: C03's sample header lines and records; room; fuel -/
example : (∀ l ∈ Sam.exHs, Sam.hdrOK l) ∧ (∀ s ∈ Sam.exRs, Sam.WF Sam.exPf s) := ⟨Sam.exHs_ok, Sam.exRs_ok⟩
example : ((Sam.exRs.map Sam.encode).flatten).length ≤ 400 ∧ Sam.exHs.length + Sam.exRs.length + 1 ≤ 6 := by
  decide +kernel

/-! ## Concrete runs of the translated closure -/

/-- a `*SAM` with no tags and `*` in the unused fields -/
def recT (qn : Bytes) (flag pos : Int) : SamT := (qn, flag, [42], pos, 0, [42], [42], 0, 0, [42], [42], [])

def lineR1 : Bytes := [114, 49, 9, 48, 9, 42, 9, 48, 9, 48, 9, 42, 9, 42, 9, 48, 9, 48, 9, 42, 9, 42]
def lineR2 : Bytes := [114, 50, 9, 49, 54, 9, 42, 9, 55, 9, 48, 9, 42, 9, 42, 9, 48, 9, 48, 9, 42, 9, 42]
def lineR3 : Bytes := [114, 51, 9, 48, 9, 42, 9, 48, 9, 48, 9, 42, 9, 42, 9, 48, 9, 48, 9, 42, 9, 42]

/-- `@HD\tVN:1\n`, `r1\t0\t*\t0\t0\t*\t*\t0\t0\t*\t*\n`, `r2\t16\t*\t7\t0\t*\t*\t0\t0\t*\t*\n` -/
def exTwo : Bytes := C03IterGo.exHd ++ [10] ++ lineR1 ++ [10] ++ lineR2 ++ [10]
/-- `r1…\n`, `bad\tline\n`, `r3…\n` -/
def exBad : Bytes := lineR1 ++ [10] ++ [98, 97, 100, 9, 108, 105, 110, 101] ++ [10] ++ lineR3 ++ [10]

def t1 : SamT := recT [114, 49] 0 0
def t2 : SamT := recT [114, 50] 16 7
def t3 : SamT := recT [114, 51] 0 0

/-- the fuel hypothesis on the sample texts -/
example : (textLines .eof exTwo).length + 1 ≤ 4 ∧ (textLines .fail exTwo).length + 1 ≤ 4
    ∧ (textLines .eof exBad).length + 1 ≤ 4 := by decide +kernel

set_option synthInstance.maxSize 4096 in
/-- one header line and two records, read completely: TWO items, the header is dropped; the inner
`ReaderHeader` with the loop body as its consumer handed over THREE -/
example : allFound = false ∨ (
    GoSrc.sam_Reader hexP atoiP (pfP Sam.exPf) 4 ⟨exTwo, .eof⟩ (fun _ => true)
      = some [(some t1, GoErr.nil), (some t2, GoErr.nil)]
    ∧ GoSrc.sam_ReaderHeader hexP atoiP (pfP Sam.exPf) 4 ⟨exTwo, .eof⟩
        (fun l => (runG (filterMapBodyH pick (fun _ => true)) l).2)
      = some [((some C03IterGo.exHd, none), GoErr.nil), ((none, some t1), GoErr.nil), ((none, some t2), GoErr.nil)]) := by
  decide +kernel

set_option synthInstance.maxSize 4096 in
/-- the same, stopped after the first record ("at most one item"): ONE item; and through BOTH layers: the
inner `ReaderHeader` handed the loop body the header line and the first record, and nothing after the
body answered `false` (an instance of the hypotheses of the last clause of
`go_sam_reader_early_stop_layers`: `i = 1`, `o = (some t1, nil)`); stopped after the second: two items -/
example : allFound = false ∨ (
    GoSrc.sam_Reader hexP atoiP (pfP Sam.exPf) 4 ⟨exTwo, .eof⟩ (fun l => decide (l.length < 1))
      = some [(some t1, GoErr.nil)]
    ∧ GoSrc.sam_ReaderHeader hexP atoiP (pfP Sam.exPf) 4 ⟨exTwo, .eof⟩
        (fun l => (runG (filterMapBodyH pick (fun l => decide (l.length < 1))) l).2)
      = some [((some C03IterGo.exHd, none), GoErr.nil), ((none, some t1), GoErr.nil)]
    ∧ pick ((none, some t1), GoErr.nil) = some (some t1, GoErr.nil)
    ∧ (fun l : List OItem => decide (l.length < 1))
        (([((some C03IterGo.exHd, none), GoErr.nil)] : List GoItem).filterMap pick ++ [(some t1, GoErr.nil)]) = false
    ∧ GoSrc.sam_Reader hexP atoiP (pfP Sam.exPf) 4 ⟨exTwo, .eof⟩ (fun l => decide (l.length < 2))
      = some [(some t1, GoErr.nil), (some t2, GoErr.nil)]
    -- an instance of the hypothesis of `go_sam_reader_kth`
    ∧ (1 ≤ 1 ∧ 1 ≤ (([((some C03IterGo.exHd, none), GoErr.nil), ((none, some t1), GoErr.nil),
        ((none, some t2), GoErr.nil)] : List GoItem).filterMap pick).length)) := by
  decide +kernel

set_option synthInstance.maxSize 4096 in
/-- a malformed middle line: ONE error item in place, and reading continues; "stop at the first error"
ends there -/
example : allFound = false ∨ (
    GoSrc.sam_Reader hexP atoiP (pfP Sam.exPf) 4 ⟨exBad, .eof⟩ (fun _ => true)
      = some [(some t1, GoErr.nil), (none, GoErr.other), (some t3, GoErr.nil)]
    ∧ GoSrc.sam_Reader hexP atoiP (pfP Sam.exPf) 4 ⟨exBad, .eof⟩
        (fun l => l.getLast?.map (·.2) != some GoErr.other)
      = some [(some t1, GoErr.nil), (none, GoErr.other)]) := by
  decide +kernel

set_option synthInstance.maxSize 4096 in
/-- the source FAILS after these bytes: the read error is the last item; a consumer that would decline it
("at most two items") gets the same log — the verdict on it changes nothing; one that declines before
("at most one item") does not see it; the empty input that fails: one error item, whatever the consumer -/
example : allFound = false ∨ (
    GoSrc.sam_Reader hexP atoiP (pfP Sam.exPf) 4 ⟨exTwo, .fail⟩ (fun _ => true)
      = some [(some t1, GoErr.nil), (some t2, GoErr.nil), (none, GoErr.other)]
    ∧ GoSrc.sam_Reader hexP atoiP (pfP Sam.exPf) 4 ⟨exTwo, .fail⟩ (fun l => decide (l.length < 3))
      = some [(some t1, GoErr.nil), (some t2, GoErr.nil), (none, GoErr.other)]
    ∧ GoSrc.sam_Reader hexP atoiP (pfP Sam.exPf) 4 ⟨exTwo, .fail⟩ (fun l => decide (l.length < 2))
      = some [(some t1, GoErr.nil), (some t2, GoErr.nil)]
    ∧ GoSrc.sam_Reader hexP atoiP (pfP Sam.exPf) 1 ⟨[], .fail⟩ (fun _ => false) = some [(none, GoErr.other)]
    ∧ GoSrc.sam_Reader hexP atoiP (pfP Sam.exPf) 1 ⟨[], .eof⟩ (fun _ => false) = some []) := by
  decide +kernel

set_option synthInstance.maxSize 4096 in
/-- too little fuel for the inner loop to reach the end of the input: `none` (out of fuel in `ReaderHeader`,
not the runtime panic) — unless the consumer stops it before; header lines only: no item at all -/
example : allFound = false ∨ (
    GoSrc.sam_Reader hexP atoiP (pfP Sam.exPf) 2 ⟨exTwo, .eof⟩ (fun _ => true) = none
    ∧ GoSrc.sam_ReaderHeader hexP atoiP (pfP Sam.exPf) 2 ⟨exTwo, .eof⟩
        (fun l => (runG (filterMapBodyH pick (fun _ => true)) l).2) = none
    ∧ GoSrc.sam_Reader hexP atoiP (pfP Sam.exPf) 2 ⟨exTwo, .eof⟩ (fun l => decide (l.length < 1))
      = some [(some t1, GoErr.nil)]
    ∧ GoSrc.sam_Reader hexP atoiP (pfP Sam.exPf) 3 ⟨C03IterGo.exHd ++ [10, 64, 10], .eof⟩ (fun _ => false)
      = some []) := by
  decide +kernel

/-- C03IterGo's sample input (header with CRLF, a blank line, a record with two tags out of order, a bad
line, a record without final newline): normalised, the records and the error, as the model says -/
example : allFound = false ∨ (
    (GoSrc.sam_Reader hexP atoiP (pfP Sam.exPf) 6 ⟨C03IterGo.exIn, .eof⟩ (fun _ => true)).map (·.map normO)
      = some [.ok C03IterGo.exR1, .err, .ok C03IterGo.exR2]
    ∧ Sam.decodeSrc Sam.exPf .eof C03IterGo.exIn = [.ok C03IterGo.exR1, .err, .ok C03IterGo.exR2]
    ∧ IterH.samReaderH Sam.exPf .eof C03IterGo.exIn (fun l => l.length < 2) = [.ok C03IterGo.exR1, .err]
    ∧ (GoSrc.sam_Reader hexP atoiP (pfP Sam.exPf) 6 ⟨C03IterGo.exIn, .eof⟩
        (fun l => (l.map normO).length < 2)).map (·.map normO) = some [.ok C03IterGo.exR1, .err]) := by
  decide +kernel

/-- arbitrary (absurd) library functions — every integer "parses" as 7, no float or hex string does: the
closure still returns -/
example : allFound = false ∨ (
    (GoSrc.sam_Reader (fun _ => ([], GoErr.other)) (fun _ => (7, GoErr.nil)) (fun _ _ => ([], GoErr.eof)) 6
        ⟨C03IterGo.exIn, .eof⟩ (fun _ => true)).map (·.map (·.2))
      = some [GoErr.nil, GoErr.other, GoErr.nil]) := by
  decide +kernel

/-- the round trip on C03's samples: two header lines and three records, written by the translated `Write`,
read back by the translated `Reader`: the three records -/
example : allFound = false ∨ (
    ((goWriteAll Sam.exRs ⟨400, lfFile Sam.exHs⟩).bind fun p =>
        (GoSrc.sam_Reader hexP atoiP (pfP Sam.exPf) 6 ⟨p.2.out, .eof⟩ (fun _ => true)).map fun L =>
          (p.1, L.map normO))
      = some (GoErr.nil, Sam.exRs.map Item.ok)) := by
  decide +kernel

end Bio.Props.C03ReaderGo

/-
  C03 (SAM), READER half, for the Go SOURCE TEXT of `splitTag`, `parseTags` (formats/sam/tags.go) and
  `parseInts`, `parseLine` (formats/sam/sam.go), as translated on every run into
  `Bio.Generated.GoSrc.splitTag`, `parseTags`, `parseInts`, `sam_parseLine`.

  `hex.DecodeString`, `strconv.Atoi`, `strconv.ParseFloat` are PARAMETERS `h`, `f`, `g` of the translated
  code; what is assumed about them is stated as explicit hypotheses:
  * `AtoiModel f`: no error and the model's value where the model's `atoi` accepts, an error (any error,
    any value) where it rejects;
  * `PFModel g pf`: `pf s = some t → g s 64 = (t, nil)`, `pf s = none → (g s 64).2 ≠ nil` (`pf` is the
    model's `FormatFloat ∘ ParseFloat` normaliser; a float is its canonical text);
  * `HexModel h`: the same shape against the model's `hexDec`.

  Tag values are the model's `Sam.TagVal`; the Go `map[string]any` is an association list in INSERTION
  order (`mapSet`: replace in place or append), the model keeps its list SORTED by name (`tagInsert`).
  `SameMap r m` says the two are the same finite map (same lookups, keys of `r` distinct, `r` a
  permutation of `m`).

  Guarded by the translator's `_Found` flags (see `Bio.Lemmas.GoSrc`).
-/
import Bio.Lemmas.GoSrcSamParse
import Bio.Props.C03
import Bio.Props.C03Go
set_option linter.unusedVariables false
namespace Bio.Props.C03ReadGo
open Bio Bio.GoRt Bio.Generated Bio.GoSrcLemmas Bio.GoSrcLemmas.SamP Bio.GoSrcLemmas.BedRd

/-- every translator flag this file depends on; the non-vacuity examples below are stated as
`allFound = false ∨ …` so that a source the translator no longer recognises is not an alarm -/
def allFound : Bool :=
  GoSrc.splitTag_Found && GoSrc.parseTags_Found && GoSrc.parseInts_Found && GoSrc.sam_parseLine_Found
    && GoSrc.sam_Write_Found

/-! ## The hypotheses are satisfiable -/

/-- the model's own `atoi` / `exPf` (accepts exactly `1.5e+00`) / `hexDec` as Go functions -/
example : AtoiModel atoiP ∧ PFModel (pfP Sam.exPf) Sam.exPf ∧ HexModel hexP :=
  ⟨atoiP_model, pfP_model _, hexP_model⟩

/-- concrete consequences on sample strings: `-5`, `+7`, `x`, the empty string; `1.5e+00`, `1.5`;
`00ff10`, `0g`, `abc` (odd length), the empty string -/
example : atoiP [45, 53] = (-5, GoErr.nil) ∧ atoiP [43, 55] = (7, GoErr.nil) ∧ atoiP [120] = (0, GoErr.other)
    ∧ atoiP [] = (0, GoErr.other)
    ∧ pfP Sam.exPf [49, 46, 53, 101, 43, 48, 48] 64 = ([49, 46, 53, 101, 43, 48, 48], GoErr.nil)
    ∧ pfP Sam.exPf [49, 46, 53] 64 = ([], GoErr.other)
    ∧ hexP [48, 48, 102, 102, 49, 48] = ([0, 255, 16], GoErr.nil) ∧ hexP [48, 103] = ([], GoErr.other)
    ∧ hexP [97, 98, 99] = ([], GoErr.other) ∧ hexP [] = ([], GoErr.nil) := by
  decide +kernel

/-! ## 1. `splitTag` -/

/-- For ALL byte strings (colons anywhere, bytes ≥ 0x80, empty pieces): the translated `splitTag` returns
the three pieces of the model's `Sam.splitTag` (split at the first two colons) and no error, or three
empty strings and an error when there are fewer than two colons.  It never panics: the three slice
expressions are always in range. -/
theorem go_splitTag : GoSrc.splitTag_Found = true → ∀ tag : Bytes,
    GoSrc.splitTag tag = some (match Sam.splitTag tag with
      | some (n, ty, v) => ([n, ty, v], GoErr.nil)
      | none => ([[], [], []], GoErr.other)) :=
  fun hF tag => splitTag_eq hF tag

set_option synthInstance.maxSize 2048 in
/-- `NM:i:3`; `ZZ:Z:a:b` (a colon inside the value); `::` (three empty pieces); `:A:` ; `NM:i3` (one colon);
the empty string; a byte ≥ 0x80 next to the colons -/
example : allFound = false ∨ (
    GoSrc.splitTag [78, 77, 58, 105, 58, 51] = some ([[78, 77], [105], [51]], GoErr.nil)
    ∧ GoSrc.splitTag [90, 90, 58, 90, 58, 97, 58, 98] = some ([[90, 90], [90], [97, 58, 98]], GoErr.nil)
    ∧ GoSrc.splitTag [58, 58] = some ([[], [], []], GoErr.nil)
    ∧ GoSrc.splitTag [58, 65, 58] = some ([[], [65], []], GoErr.nil)
    ∧ GoSrc.splitTag [78, 77, 58, 105, 51] = some ([[], [], []], GoErr.other)
    ∧ GoSrc.splitTag [] = some ([[], [], []], GoErr.other)
    ∧ GoSrc.splitTag [200, 58, 255, 58, 128] = some ([[200], [255], [128]], GoErr.nil)) := by
  decide +kernel

/-! ## 2. `parseInts` -/

/-- For an ARBITRARY `strconv.Atoi`: `parseInts(strs, p...)` panics exactly when the lengths differ, and
otherwise is `intsSpec`: the error of the first string with an error, the values before it written
through the pointers, the other pointees untouched. -/
theorem go_parseInts_param : GoSrc.parseInts_Found = true →
    ∀ (f : Bytes → Int × GoErr) (strs : List Bytes) (p : List Int),
    GoSrc.parseInts f strs p = if strs.length = p.length then some (intsSpec f strs p) else none :=
  fun hF f strs p => parseInts_eq hF f strs p

/-- Under `AtoiModel` (`p` = the pointees before the call; the result carries them after it):
* different lengths: a panic;
* every string accepted by the model's `atoi`: no error, the pointees are the parsed values;
* the first rejected string `s` at position `i` (all before it accepted, with values `vs`): the error
  of `f s` (not nil), the first `i` pointees are `vs`, the others are untouched. -/
theorem go_parseInts : GoSrc.parseInts_Found = true →
    ∀ (f : Bytes → Int × GoErr), AtoiModel f → ∀ (strs : List Bytes) (p : List Int),
    (strs.length ≠ p.length → GoSrc.parseInts f strs p = none)
    ∧ (strs.length = p.length → ∀ vs, strs.mapM atoi = some vs →
        GoSrc.parseInts f strs p = some (GoErr.nil, vs))
    ∧ (strs.length = p.length → ∀ (i : Nat) (s : Bytes) (vs : List Int),
        (strs.take i).mapM atoi = some vs → strs[i]? = some s → atoi s = none →
        (f s).2 ≠ GoErr.nil ∧ GoSrc.parseInts f strs p = some ((f s).2, vs ++ p.drop i)) := by
  intro hF f hf strs p
  refine ⟨fun hl => by rw [parseInts_eq hF, if_neg hl], fun hl vs hm => ?_, fun hl i s vs hpre hs hbad => ?_⟩
  · rw [parseInts_eq hF, if_pos hl, intsSpec_ok hf strs p vs hl hm]
  · obtain ⟨h1, h2⟩ := intsSpec_bad hf strs p vs i s hl hpre hs hbad
    exact ⟨h2, by rw [parseInts_eq hF, if_pos hl, h1]⟩

/-- hypotheses: `["12", "-3", "x", "4"]` against four pointees, the first rejected string at `i = 2` -/
example : ([[49, 50], [45, 51], [120], [52]] : List Bytes).length = ([100, 101, 102, 103] : List Int).length
    ∧ (([[49, 50], [45, 51], [120], [52]] : List Bytes).take 2).mapM atoi = some [12, -3]
    ∧ ([[49, 50], [45, 51], [120], [52]] : List Bytes)[2]? = some [120] ∧ atoi [120] = none
    ∧ ([[49, 50], [45, 51]] : List Bytes).mapM atoi = some [12, -3] := by decide +kernel
example : allFound = false ∨ (
    GoSrc.parseInts atoiP [[49, 50], [45, 51], [120], [52]] [100, 101, 102, 103]
      = some (GoErr.other, [12, -3, 102, 103])
    ∧ GoSrc.parseInts atoiP [[49, 50], [45, 51]] [100, 101] = some (GoErr.nil, [12, -3])
    ∧ GoSrc.parseInts atoiP [[49, 50], [45, 51]] [100] = none
    ∧ GoSrc.parseInts atoiP [] [] = some (GoErr.nil, [])
    -- an arbitrary `Atoi` whose error is `io.EOF`-like on "x": that very error is returned
    ∧ GoSrc.parseInts (fun s => if s = [120] then (9, GoErr.eof) else (7, GoErr.nil)) [[49], [120], [50]] [0, 0, 0]
      = some (GoErr.eof, [7, 0, 0])) := by
  decide +kernel

/-! ## 3. `parseTags` -/

/-- For ARBITRARY parameters: the translated `parseTags` is the model's tag parser with the three value
parsers as parameters (`reqA f` = value of `f s` when its error is nil, likewise `reqP g`, `reqH h`) and
the map kept in insertion order (`tagsSpec`); in particular it never panics (`parts[0..2]` of a `[3]string`,
`parts[2][0]` only after `len(parts[2]) == 1`). -/
theorem go_parseTags_param : GoSrc.parseTags_Found = true → GoSrc.splitTag_Found = true →
    ∀ (h : Bytes → Bytes × GoErr) (f : Bytes → Int × GoErr) (g : Bytes → Int → Bytes × GoErr)
      (values : List Bytes),
    GoSrc.parseTags h f g values = some (match tagsSpec (reqA f) (reqP g) (reqH h) values [] with
      | some r => (r, GoErr.nil)
      | none => ([], GoErr.other)) :=
  fun hT hS h f g values => parseTags_eq hT hS h f g values

/-- Under the three hypotheses, for ALL `values`: an error (and the nil map) iff the model's
`Sam.parseTags pf values [] = none`; on success the Go map `r` is the same finite map as the model's
sorted list `m`: same lookups, distinct keys, a permutation — hence the same tag texts. -/
theorem go_parseTags : GoSrc.parseTags_Found = true → GoSrc.splitTag_Found = true →
    ∀ (h : Bytes → Bytes × GoErr) (f : Bytes → Int × GoErr) (g : Bytes → Int → Bytes × GoErr)
      (pf : Bytes → Option Bytes), AtoiModel f → PFModel g pf → HexModel h → ∀ (values : List Bytes),
    match Sam.parseTags pf values [] with
    | none => GoSrc.parseTags h f g values = some ([], GoErr.other)
    | some m => ∃ r, GoSrc.parseTags h f g values = some (r, GoErr.nil)
        ∧ (∀ name, (r.find? (·.1 == name)).map (·.2) = (m.find? (·.1 == name)).map (·.2))
        ∧ r.Pairwise (fun a b => a.1 ≠ b.1)
        ∧ r.Perm m
        ∧ Sam.tagsToText r = Sam.tagsToText m
        ∧ Sam.insertAll r [] = m := by
  intro hT hS h f g pf hf hg hh values
  have := parseTags_model hT hS hf hg hh values
  cases hm : Sam.parseTags pf values [] with
  | none => rw [hm] at this; exact this
  | some m =>
    rw [hm] at this
    obtain ⟨r, hr, hsm, hs⟩ := this
    exact ⟨r, hr, hsm.1, hsm.2.1, hsm.2.2, tagsToText_perm hsm.2.2, insertAll_of_sameMap hsm hs⟩

/-- The exact Go map under the three hypotheses: the model's parser with `mapSet` (insertion order, a
repeated name overwritten in place) instead of the sorted `tagInsert`. -/
theorem go_parseTags_insertion_order : GoSrc.parseTags_Found = true → GoSrc.splitTag_Found = true →
    ∀ (h : Bytes → Bytes × GoErr) (f : Bytes → Int × GoErr) (g : Bytes → Int → Bytes × GoErr)
      (pf : Bytes → Option Bytes), AtoiModel f → PFModel g pf → HexModel h → ∀ (values : List Bytes),
    GoSrc.parseTags h f g values = some (match tagsSpec atoi pf hexDec values [] with
      | some r => (r, GoErr.nil)
      | none => ([], GoErr.other)) :=
  fun hT hS h f g pf hf hg hh values => parseTags_insertion hT hS hf hg hh values

/-- The tag texts (`tagsToText`, which sorts them) depend on the finite map only: any permutation of the
model's list gives the same texts, so writing the Go map gives what writing the model's list gives. -/
theorem go_parseTags_texts : ∀ (r m : Sam.Tags), r.Perm m → Sam.tagsToText r = Sam.tagsToText m :=
  fun _ _ h => tagsToText_perm h

example : ([([90, 90], Sam.TagVal.Z [97]), ([78, 77], Sam.TagVal.I 7)] : Sam.Tags).Perm
    [([78, 77], Sam.TagVal.I 7), ([90, 90], Sam.TagVal.Z [97])] := List.Perm.swap _ _ _

/-- `ZZ:Z:a:b NM:i:3 XA:A:c NM:i:7 XF:f:1.5e+00 XH:H:00ff` — a duplicate name (the last value wins and stays
at the first position), a colon inside a `Z` value: the Go map in insertion order, the model's sorted
list, the same texts; `NM:i:3 XA:A:c ZZ:Z:a:b NM:i:7`; a `B` tag is kept as a string; an empty name and
an empty value; no tags -/
def exTags : List Bytes :=
  [[90, 90, 58, 90, 58, 97, 58, 98], [78, 77, 58, 105, 58, 51], [88, 65, 58, 65, 58, 99], [78, 77, 58, 105, 58, 55],
   [88, 70, 58, 102, 58, 49, 46, 53, 101, 43, 48, 48], [88, 72, 58, 72, 58, 48, 48, 102, 102]]

set_option synthInstance.maxSize 2048 in
example : allFound = false ∨ (
    GoSrc.parseTags hexP atoiP (pfP Sam.exPf) exTags
      = some ([([90, 90], .Z [97, 58, 98]), ([78, 77], .I 7), ([88, 65], .A 99),
          ([88, 70], .F [49, 46, 53, 101, 43, 48, 48]), ([88, 72], .H [0, 255])], GoErr.nil)
    ∧ Sam.parseTags Sam.exPf exTags []
      = some [([78, 77], .I 7), ([88, 65], .A 99), ([88, 70], .F [49, 46, 53, 101, 43, 48, 48]),
          ([88, 72], .H [0, 255]), ([90, 90], .Z [97, 58, 98])]
    ∧ GoSrc.parseTags hexP atoiP (pfP Sam.exPf)
        [[78, 77, 58, 105, 58, 51], [88, 65, 58, 65, 58, 99], [90, 90, 58, 90, 58, 97, 58, 98], [78, 77, 58, 105, 58, 55]]
      = some ([([78, 77], .I 7), ([88, 65], .A 99), ([90, 90], .Z [97, 58, 98])], GoErr.nil)
    ∧ GoSrc.parseTags hexP atoiP (pfP Sam.exPf) [[88, 66, 58, 66, 58, 99, 44, 49]]
      = some ([([88, 66], .Z [99, 44, 49])], GoErr.nil)
    ∧ GoSrc.parseTags hexP atoiP (pfP Sam.exPf) [[58, 90, 58]] = some ([([], .Z [])], GoErr.nil)
    ∧ GoSrc.parseTags hexP atoiP (pfP Sam.exPf) [] = some ([], GoErr.nil)
    -- errors: one colon; `A` with two characters; `i` non-numeric; unknown type letter; a bad float; odd hex;
    -- an empty field
    ∧ GoSrc.parseTags hexP atoiP (pfP Sam.exPf) [[78, 77, 58, 105, 51]] = some ([], GoErr.other)
    ∧ GoSrc.parseTags hexP atoiP (pfP Sam.exPf) [[88, 65, 58, 65, 58, 99, 100]] = some ([], GoErr.other)
    ∧ GoSrc.parseTags hexP atoiP (pfP Sam.exPf) [[78, 77, 58, 105, 58, 120]] = some ([], GoErr.other)
    ∧ GoSrc.parseTags hexP atoiP (pfP Sam.exPf) [[78, 77, 58, 113, 58, 49]] = some ([], GoErr.other)
    ∧ GoSrc.parseTags hexP atoiP (pfP Sam.exPf) [[88, 70, 58, 102, 58, 49, 46, 53]] = some ([], GoErr.other)
    ∧ GoSrc.parseTags hexP atoiP (pfP Sam.exPf) [[88, 72, 58, 72, 58, 48]] = some ([], GoErr.other)
    ∧ GoSrc.parseTags hexP atoiP (pfP Sam.exPf) [[78, 77, 58, 105, 58, 51], []] = some ([], GoErr.other)) := by
  decide +kernel

/-! ## 4. `parseLine` -/

/-- For ARBITRARY parameters the translated `parseLine` is `lineSpec` (fewer than 11 fields: an error;
the five integers through `parseInts`; the tags through `parseTags`). -/
theorem go_sam_parseLine_param : GoSrc.sam_parseLine_Found = true → GoSrc.parseInts_Found = true →
    GoSrc.parseTags_Found = true → GoSrc.splitTag_Found = true →
    ∀ (h : Bytes → Bytes × GoErr) (f : Bytes → Int × GoErr) (g : Bytes → Int → Bytes × GoErr)
      (line : List Bytes),
    GoSrc.sam_parseLine h f g line = some (lineSpec h f g line) :=
  fun hF hI hT hS h f g line => sam_parseLine_eq hF hI hT hS h f g line

/-- `parseLine` never panics, whatever the three library functions return: `len(line) ≥ 11` guards
`line[0..10]`, `snm.At` and `line[11:]`; `parseInts` gets five strings and five pointers. -/
theorem go_sam_parseLine_no_panic : GoSrc.sam_parseLine_Found = true → GoSrc.parseInts_Found = true →
    GoSrc.parseTags_Found = true → GoSrc.splitTag_Found = true →
    ∀ (h : Bytes → Bytes × GoErr) (f : Bytes → Int × GoErr) (g : Bytes → Int → Bytes × GoErr)
      (line : List Bytes),
    GoSrc.sam_parseLine h f g line ≠ none := by
  intro hF hI hT hS h f g line
  rw [sam_parseLine_eq hF hI hT hS]; simp

/-- Under the three hypotheses, for ALL `line` (any number of fields, any bytes): the translated
`parseLine` returns a record exactly when the model's `Sam.parseLine pf line` does — the same eleven
fields, and a tag map that is the same finite map as the model's sorted list (`SameMap`: same lookups,
distinct keys, a permutation; sorting it by insertion gives the model's list) — and `(nil, err)` with
`err ≠ nil` exactly when the model rejects the line. -/
theorem go_sam_parseLine : GoSrc.sam_parseLine_Found = true → GoSrc.parseInts_Found = true →
    GoSrc.parseTags_Found = true → GoSrc.splitTag_Found = true →
    ∀ (h : Bytes → Bytes × GoErr) (f : Bytes → Int × GoErr) (g : Bytes → Int → Bytes × GoErr)
      (pf : Bytes → Option Bytes), AtoiModel f → PFModel g pf → HexModel h → ∀ (line : List Bytes),
    match Sam.parseLine pf line with
    | some s => ∃ r, GoSrc.sam_parseLine h f g line = some (some (tupleOf s r), GoErr.nil)
        ∧ SameMap r s.tags ∧ Sam.tagsToText r = Sam.tagsToText s.tags ∧ Sam.insertAll r [] = s.tags
    | none => ∃ e, e ≠ GoErr.nil ∧ GoSrc.sam_parseLine h f g line = some (none, e) := by
  intro hF hI hT hS h f g pf hf hg hh line
  have := sam_parseLine_model hF hI hT hS hf hg hh line
  cases hm : Sam.parseLine pf line with
  | none => rw [hm] at this; exact this
  | some s =>
    rw [hm] at this
    obtain ⟨r, hr, hsm, hs⟩ := this
    exact ⟨r, hr, hsm, tagsToText_perm hsm.2.2, insertAll_of_sameMap hsm hs⟩

/-- `SameMap`, spelled out -/
example (r m : Sam.Tags) : SameMap r m ↔
    ((∀ name, (r.find? (·.1 == name)).map (·.2) = (m.find? (·.1 == name)).map (·.2))
      ∧ r.Pairwise (fun a b => a.1 ≠ b.1) ∧ r.Perm m) := Iff.rfl

/-- `q 0 * 1 1 * * 0 0 * *` followed by `NM:i:3 XA:A:c ZZ:Z:a:b NM:i:7` (a duplicate name: the last value
wins; a colon inside a `Z` value) -/
def exLine : List Bytes :=
  [[113], [48], [42], [49], [49], [42], [42], [48], [48], [42], [42],
   [78, 77, 58, 105, 58, 51], [88, 65, 58, 65, 58, 99], [90, 90, 58, 90, 58, 97, 58, 98], [78, 77, 58, 105, 58, 55]]

/-- the same with the tags in another order: `ZZ:Z:a:b NM:i:3 XA:A:c NM:i:7` -/
def exLine2 : List Bytes :=
  exLine.take 11 ++ [[90, 90, 58, 90, 58, 97, 58, 98], [78, 77, 58, 105, 58, 51], [88, 65, 58, 65, 58, 99],
    [78, 77, 58, 105, 58, 55]]

def exRec : Sam.Sam :=
  { qname := [113], flag := 0, rname := [42], pos := 1, mapq := 1, cigar := [42], rnext := [42], pnext := 0,
    tlen := 0, seq := [42], qual := [42],
    tags := [([78, 77], .I 7), ([88, 65], .A 99), ([90, 90], .Z [97, 58, 98])] }

example : allFound = false ∨ (
    -- both parsers on the line: the model's record; the Go record with the same map
    Sam.parseLine Sam.exPf exLine = some exRec
    ∧ GoSrc.sam_parseLine hexP atoiP (pfP Sam.exPf) exLine = some (some (tupleOf exRec exRec.tags), GoErr.nil)
    ∧ Sam.parseLine Sam.exPf exLine2 = some exRec
    ∧ GoSrc.sam_parseLine hexP atoiP (pfP Sam.exPf) exLine2
      = some (some (tupleOf exRec [([90, 90], .Z [97, 58, 98]), ([78, 77], .I 7), ([88, 65], .A 99)]), GoErr.nil)
    ∧ Sam.insertAll [([90, 90], .Z [97, 58, 98]), ([78, 77], .I 7), ([88, 65], .A 99)] [] = exRec.tags
    -- exactly eleven fields; eleven fields and an empty twelfth (a trailing TAB): an error in both
    ∧ GoSrc.sam_parseLine hexP atoiP (pfP Sam.exPf) (exLine.take 11)
      = some (some (tupleOf exRec []), GoErr.nil)
    ∧ GoSrc.sam_parseLine hexP atoiP (pfP Sam.exPf) (exLine.take 11 ++ [[]]) = some (none, GoErr.other)
    ∧ Sam.parseLine Sam.exPf (exLine.take 11 ++ [[]]) = none) := by
  decide +kernel

/-- arbitrary (even absurd) library functions: every integer "parses" as 1000, every float as `x`, every
hex string as `[1]`, never an error — `parseLine` still returns -/
example : allFound = false ∨ (
    GoSrc.sam_parseLine (fun _ => ([1], GoErr.nil)) (fun _ => (1000, GoErr.nil)) (fun _ _ => ([120], GoErr.nil))
        (exLine.take 11 ++ [[97, 58, 102, 58], [98, 58, 72, 58, 122]])
      = some (some ([113], 1000, [42], 1000, 1000, [42], [42], 1000, 1000, [42], [42],
          [([97], .F [120]), ([98], .H [1])]), GoErr.nil)) := by
  decide +kernel

/-! ## 5. Write, then parse: the READ side of the C03 record round trip -/

/-- For every well-formed record (`Sam.WF pf s` of `Bio.Props.C03`): the translated `parseLine` on the
TAB-separated fields of the record's line `Sam.encodeLine s` gives back the record: the same eleven
fields and a tag map `r` that is the same finite map as `s.tags` (`SameMap`; the tag fields arrive sorted
by their TEXT, the model's list is sorted by NAME, so `r` is a permutation of `s.tags`, with the same
tag texts and `s.tags` itself after sorting by insertion). -/
theorem go_sam_write_parse : GoSrc.sam_parseLine_Found = true → GoSrc.parseInts_Found = true →
    GoSrc.parseTags_Found = true → GoSrc.splitTag_Found = true →
    ∀ (h : Bytes → Bytes × GoErr) (f : Bytes → Int × GoErr) (g : Bytes → Int → Bytes × GoErr)
      (pf : Bytes → Option Bytes), AtoiModel f → PFModel g pf → HexModel h →
    ∀ (s : Sam.Sam), Sam.WF pf s →
    ∃ r, GoSrc.sam_parseLine h f g (splitOn TAB (Sam.encodeLine s)) = some (some (tupleOf s r), GoErr.nil)
      ∧ SameMap r s.tags ∧ Sam.tagsToText r = Sam.tagsToText s.tags ∧ Sam.insertAll r [] = s.tags := by
  intro hF hI hT hS h f g pf hf hg hh s hwf
  have := go_sam_parseLine hF hI hT hS h f g pf hf hg hh (splitOn TAB (Sam.encodeLine s))
  rw [Sam.record_roundtrip pf s hwf] at this
  exact this

/-- The translated `Write` (C03Go) on a writer with enough room, then the translated `parseLine` on the
fields of what was written (without the final LF): the record. -/
theorem go_sam_write_then_parse : GoSrc.sam_Write_Found = true → GoSrc.sam_parseLine_Found = true →
    GoSrc.parseInts_Found = true → GoSrc.parseTags_Found = true → GoSrc.splitTag_Found = true →
    ∀ (h : Bytes → Bytes × GoErr) (f : Bytes → Int × GoErr) (g : Bytes → Int → Bytes × GoErr)
      (pf : Bytes → Option Bytes), AtoiModel f → PFModel g pf → HexModel h →
    ∀ (s : Sam.Sam), Sam.WF pf s → ∀ (k : Nat), (Sam.encode s).length ≤ k →
    ∃ w' r, C03Go.goWrite s ⟨k, []⟩ = some (GoErr.nil, w')
      ∧ w'.out = Sam.encodeLine s ++ [10]
      ∧ GoSrc.sam_parseLine h f g (splitOn TAB w'.out.dropLast) = some (some (tupleOf s r), GoErr.nil)
      ∧ SameMap r s.tags ∧ Sam.tagsToText r = Sam.tagsToText s.tags ∧ Sam.insertAll r [] = s.tags := by
  intro hW hF hI hT hS h f g pf hf hg hh s hwf k hk
  obtain ⟨r, hr⟩ := go_sam_write_parse hF hI hT hS h f g pf hf hg hh s hwf
  refine ⟨_, r, C03Go.go_sam_write_bytes hW s k [] hk, by simp [Sam.encode, LF], ?_⟩
  simpa [Sam.encode, LF] using hr

/-- Non-vacuity: C03's sample records (all five tag types, odd bytes, extreme integers; no tags) are
well-formed; room for the text -/
example : Sam.WF Sam.exPf Sam.exSam ∧ Sam.WF Sam.exPf Sam.exSam2 := ⟨Sam.exSam_WF, Sam.exSam2_WF⟩
example : (Sam.encode Sam.exSam).length ≤ 200 := by decide +kernel
/-- a record whose tag texts sort differently from its tag names (`a!` < `a:`… as texts, `a` < `a!` as
names): the Go map comes back in text order -/
def exOdd : Sam.Sam :=
  { exRec with tags := [([97], .I 1), ([97, 33], .I 2)] }
example : Sam.WF Sam.exPf exOdd := by decide +kernel
example : allFound = false ∨ (
    GoSrc.sam_parseLine hexP atoiP (pfP Sam.exPf) (splitOn TAB (Sam.encodeLine Sam.exSam))
      = some (some (tupleOf Sam.exSam Sam.exSam.tags), GoErr.nil)
    ∧ GoSrc.sam_parseLine hexP atoiP (pfP Sam.exPf) (splitOn TAB (Sam.encodeLine Sam.exSam2))
      = some (some (tupleOf Sam.exSam2 []), GoErr.nil)
    ∧ GoSrc.sam_parseLine hexP atoiP (pfP Sam.exPf) (splitOn TAB (Sam.encodeLine exOdd))
      = some (some (tupleOf exOdd [([97, 33], .I 2), ([97], .I 1)]), GoErr.nil)
    ∧ ((C03Go.goWrite Sam.exSam ⟨200, []⟩).bind fun p =>
        GoSrc.sam_parseLine hexP atoiP (pfP Sam.exPf) (splitOn TAB p.2.out.dropLast))
      = some (some (tupleOf Sam.exSam Sam.exSam.tags), GoErr.nil)) := by
  decide +kernel

/-! ## 6. Corrupt lines: `(nil, error)` -/

/-- Corruption kind 1: fewer than 11 fields — for ARBITRARY library functions. -/
theorem go_sam_too_few_fields : GoSrc.sam_parseLine_Found = true → GoSrc.parseInts_Found = true →
    GoSrc.parseTags_Found = true → GoSrc.splitTag_Found = true →
    ∀ (h : Bytes → Bytes × GoErr) (f : Bytes → Int × GoErr) (g : Bytes → Int → Bytes × GoErr)
      (line : List Bytes), line.length < 11 →
    GoSrc.sam_parseLine h f g line = some (none, GoErr.other) :=
  fun hF hI hT hS h f g line hn => sam_parseLine_too_few hF hI hT hS h f g line hn

example : (splitOn TAB [97, 9, 98, 9, 9, 99]).length < 11 := by decide +kernel

/-- Whatever the model's `parseLine` rejects, the translated `parseLine` answers with `(nil, err)`,
`err ≠ nil` (the general form of the corollaries below). -/
theorem go_sam_line_error : GoSrc.sam_parseLine_Found = true → GoSrc.parseInts_Found = true →
    GoSrc.parseTags_Found = true → GoSrc.splitTag_Found = true →
    ∀ (h : Bytes → Bytes × GoErr) (f : Bytes → Int × GoErr) (g : Bytes → Int → Bytes × GoErr)
      (pf : Bytes → Option Bytes), AtoiModel f → PFModel g pf → HexModel h →
    ∀ (line : List Bytes), Sam.parseLine pf line = none →
    ∃ e, e ≠ GoErr.nil ∧ GoSrc.sam_parseLine h f g line = some (none, e) :=
  fun hF hI hT hS h f g pf hf hg hh line hm => sam_parseLine_none hF hI hT hS hf hg hh line hm

/-- Corruption kind 2: one of FLAG, POS, MAPQ, PNEXT, TLEN (indices 1, 3, 4, 7, 8) is not accepted by
`atoi` (e.g. non-numeric: `Sam.atoi_nonnumeric`).  Only `AtoiModel` is needed (`ParseFloat` and
`DecodeString` arbitrary: the integers are parsed before the tags). -/
theorem go_sam_bad_int : GoSrc.sam_parseLine_Found = true → GoSrc.parseInts_Found = true →
    GoSrc.parseTags_Found = true → GoSrc.splitTag_Found = true →
    ∀ (h : Bytes → Bytes × GoErr) (f : Bytes → Int × GoErr) (g : Bytes → Int → Bytes × GoErr), AtoiModel f →
    ∀ (line : List Bytes), (∃ i ∈ [1, 3, 4, 7, 8], ∃ s, line[i]? = some s ∧ atoi s = none) →
    ∃ e, e ≠ GoErr.nil ∧ GoSrc.sam_parseLine h f g line = some (none, e) :=
  fun hF hI hT hS h f g hf line hb => sam_parseLine_bad_int hF hI hT hS hf h g line hb

example : ∃ i ∈ [1, 3, 4, 7, 8], ∃ s,
    ([[113], [48], [42], [49], [49, 120], [42], [42], [48], [48], [42], [42]] : List Bytes)[i]?
      = some s ∧ atoi s = none :=
  ⟨4, by decide, [49, 120], by decide, by decide⟩

/-- Corruption kind 3: a tag field with fewer than two colons — for ARBITRARY library functions (an
error from the integers, or else the error of `splitTag`). -/
theorem go_sam_tag_few_colons : GoSrc.sam_parseLine_Found = true → GoSrc.parseInts_Found = true →
    GoSrc.parseTags_Found = true → GoSrc.splitTag_Found = true →
    ∀ (h : Bytes → Bytes × GoErr) (f : Bytes → Int × GoErr) (g : Bytes → Int → Bytes × GoErr)
      (line : List Bytes) (fld : Bytes), fld ∈ line.drop 11 → fld.count 58 < 2 →
    ∃ e, e ≠ GoErr.nil ∧ GoSrc.sam_parseLine h f g line = some (none, e) :=
  fun hF hI hT hS h f g line fld hm hc => sam_parseLine_few_colons hF hI hT hS h f g line fld hm hc

example : ([78, 77, 58, 105, 49] : Bytes) ∈
    ([[113], [48], [42], [49], [49], [42], [42], [48], [48], [42], [42],
      [78, 77, 58, 105, 49]] : List Bytes).drop 11 ∧
    ([78, 77, 58, 105, 49] : Bytes).count 58 < 2 := by decide +kernel

/-- Corruption kind 4: a tag `name:ty:val` whose value its type rejects (`A` with length ≠ 1, `i`
rejected by `atoi`, `f` rejected by `pf`, `H` rejected by `hexDec`, e.g. of odd length), or whose type
letter is unknown. -/
theorem go_sam_tag_bad_value : GoSrc.sam_parseLine_Found = true → GoSrc.parseInts_Found = true →
    GoSrc.parseTags_Found = true → GoSrc.splitTag_Found = true →
    ∀ (h : Bytes → Bytes × GoErr) (f : Bytes → Int × GoErr) (g : Bytes → Int → Bytes × GoErr)
      (pf : Bytes → Option Bytes), AtoiModel f → PFModel g pf → HexModel h →
    ∀ (line : List Bytes) (name ty val : Bytes),
    name ++ 58 :: (ty ++ 58 :: val) ∈ line.drop 11 → (58 : UInt8) ∉ name → (58 : UInt8) ∉ ty →
    ((ty = [65] ∧ val.length ≠ 1) ∨ (ty = [105] ∧ atoi val = none) ∨ (ty = [102] ∧ pf val = none) ∨
      (ty = [72] ∧ (val.length % 2 = 1 ∨ hexDec val = none)) ∨
      ty ∉ [[65], [105], [102], [90], [72], [66]]) →
    ∃ e, e ≠ GoErr.nil ∧ GoSrc.sam_parseLine h f g line = some (none, e) := by
  intro hF hI hT hS h f g pf hf hg hh line name ty val hm hn ht hbad
  apply sam_parseLine_none hF hI hT hS hf hg hh line
  apply Sam.parseLine_none_of_tag pf line hm
  apply Sam.parseTag_bad_value pf val hn ht
  rcases hbad with ⟨rfl, hb⟩ | ⟨rfl, hb⟩ | ⟨rfl, hb⟩ | ⟨rfl, hb | hb⟩ | hb
  · exact Sam.parseTagVal_A_bad pf hb
  · exact Sam.parseTagVal_i_bad pf hb
  · simp [Sam.parseTagVal, hb]
  · exact Sam.parseTagVal_H_bad pf hb
  · simp [Sam.parseTagVal, hb]
  · exact Sam.parseTagVal_unknown pf val hb

/-- Non-vacuity for each disjunct (`XX:A:ab`, `XX:i:1x`, `XX:f:1.5`, `XX:H:abc`, `XX:H:0g`, `XX:q:1`). -/
example :
    (([65] : Bytes) = [65] ∧ ([97, 98] : Bytes).length ≠ 1) ∧
    (([105] : Bytes) = [105] ∧ atoi [49, 120] = none) ∧
    (([102] : Bytes) = [102] ∧ Sam.exPf [49, 46, 53] = none) ∧
    (([72] : Bytes) = [72] ∧ ([97, 98, 99] : Bytes).length % 2 = 1) ∧
    (([72] : Bytes) = [72] ∧ hexDec [48, 103] = none) ∧
    (([113] : Bytes) ∉ ([[65], [105], [102], [90], [72], [66]] : List Bytes)) ∧
    ([88, 88] : Bytes) ++ 58 :: (([113] : Bytes) ++ 58 :: [49]) ∈
      ([[113], [48], [42], [49], [49], [42], [42], [48], [48], [42], [42],
        [88, 88, 58, 113, 58, 49]] : List Bytes).drop 11 ∧
    (58 : UInt8) ∉ ([88, 88] : Bytes) ∧ (58 : UInt8) ∉ ([113] : Bytes) := by decide +kernel

/-- each corruption class once, on the translated code: ten fields; a non-numeric FLAG, POS, MAPQ, PNEXT,
TLEN; `NM:i3`; `XA:A:cd`; `NM:i:x`; `NM:q:1`; the Atoi error itself is what a bad integer returns -/
example : allFound = false ∨ (
    GoSrc.sam_parseLine hexP atoiP (pfP Sam.exPf) (exLine.take 10) = some (none, GoErr.other)
    ∧ GoSrc.sam_parseLine hexP atoiP (pfP Sam.exPf) (exLine.set 1 [120]) = some (none, GoErr.other)
    ∧ GoSrc.sam_parseLine hexP atoiP (pfP Sam.exPf) (exLine.set 3 [49, 120]) = some (none, GoErr.other)
    ∧ GoSrc.sam_parseLine hexP atoiP (pfP Sam.exPf) (exLine.set 4 []) = some (none, GoErr.other)
    ∧ GoSrc.sam_parseLine hexP atoiP (pfP Sam.exPf) (exLine.set 7 [45]) = some (none, GoErr.other)
    ∧ GoSrc.sam_parseLine hexP atoiP (pfP Sam.exPf) (exLine.set 8 [49, 46, 48]) = some (none, GoErr.other)
    ∧ GoSrc.sam_parseLine hexP atoiP (pfP Sam.exPf) (exLine.set 12 [78, 77, 58, 105, 51]) = some (none, GoErr.other)
    ∧ GoSrc.sam_parseLine hexP atoiP (pfP Sam.exPf) (exLine.set 12 [88, 65, 58, 65, 58, 99, 100]) = some (none, GoErr.other)
    ∧ GoSrc.sam_parseLine hexP atoiP (pfP Sam.exPf) (exLine.set 12 [78, 77, 58, 105, 58, 120]) = some (none, GoErr.other)
    ∧ GoSrc.sam_parseLine hexP atoiP (pfP Sam.exPf) (exLine.set 12 [78, 77, 58, 113, 58, 49]) = some (none, GoErr.other)
    ∧ GoSrc.sam_parseLine hexP (fun s => if s = [120] then (0, GoErr.eof) else atoiP s) (pfP Sam.exPf)
        (exLine.set 3 [120]) = some (none, GoErr.eof)) := by
  decide +kernel

end Bio.Props.C03ReadGo

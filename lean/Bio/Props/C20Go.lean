/-
  C20 for the Go SOURCE TEXT: `(SubstitutionMatrix).Symmetrical` of align/align.go, the `init` of
  align/levenshtein.go (which builds `align.Levenshtein`) and `(SubstitutionMatrix).Get`, as
  translated on every run into `Bio.Generated.GoSrc.Matrix_Symmetrical` / `init_3` / `Matrix_Get`.

  A Go `map[[2]byte]float64` is an association list keyed by two-element lists (`mapGet`, `mapHas`,
  `mapSet` of `Bio.Model.GoRt`; scores are `Int` as in the hand model); `for k, v := range m`
  visits the list in list order.  Go leaves that order unspecified, so every theorem holds for
  EVERY well-formed list representing the map (`WF`: all keys of length 2, keys pairwise distinct,
  entries in any order), and results are described extensionally (`mapHas` / `mapGet` at every key)
  because the order of a Go map is not observable.  `none` = the Go code panics.

  Every theorem is guarded by the translator's `<f>_Found` flags (see `Bio.Lemmas.GoSrc`).
-/
import Bio.Lemmas.GoSrcMatrix
import Bio.Props.C20
import Bio.Props.C09
namespace Bio.Props.C20Go
open Bio Bio.GoRt Bio.Generated Bio.GoSrcLemmas.MxGo

/-- every translator flag this file depends on; the non-vacuity examples below are stated as
`allFound = false ∨ …` so that a source the translator no longer recognises is not an alarm -/
def allFound : Bool :=
  GoSrc.Matrix_Symmetrical_Found && GoSrc.init_3_Found && GoSrc.Matrix_Get_Found

/-! The vocabulary of the statements (`Bio.Lemmas.GoSrcMatrix`): -/

example : keyOf (65, 255) = [65, 255] := rfl
example (gm : List (List UInt8 × Int)) :
    WF gm ↔ (∀ e ∈ gm, e.1.length = 2) ∧ (gm.map (·.1)).Nodup := Iff.rfl
example (m : Matrix.M) : ofM m = m.map fun e => (keyOf e.1, e.2) := rfl

/-- For every well-formed `gm`, in ANY order: `Symmetrical` panics exactly when two mirrored pairs
carry different scores; otherwise the result `r` is a well-formed map that contains exactly the
original pairs and their mirror images, each with the original score. -/
theorem go_symmetrical_get : GoSrc.Matrix_Symmetrical_Found = true →
    ∀ gm : List (List UInt8 × Int), WF gm →
      (GoSrc.Matrix_Symmetrical gm = none ↔
        ∃ (a b : UInt8) (v v2 : Int), a ≠ b ∧ ([a, b], v) ∈ gm ∧ ([b, a], v2) ∈ gm ∧ v2 ≠ v) ∧
      ∀ r, GoSrc.Matrix_Symmetrical gm = some r →
        WF r ∧
        ∀ a b : UInt8,
          mapHas r [a, b] = (mapHas gm [a, b] || mapHas gm [b, a]) ∧
          mapGet r [a, b] 0
            = (if mapHas gm [a, b] = true then mapGet gm [a, b] 0 else mapGet gm [b, a] 0) := by
  intro hF gm h
  refine ⟨sym_none_iff hF h, ?_⟩
  intro r hr
  obtain ⟨hw, hl⟩ := sym_look hF h hr
  refine ⟨hw, ?_⟩
  intro a b
  have key := hl a b
  simp only [mapHas_eq, mapGet_eq]
  -- `key` says which scores `r` may hold at `[a, b]`; by cases on what `gm` holds there
  cases hx : look gm [a, b] with
  | some v => rw [(key v).2 (Or.inl hx)]; simp
  | none =>
    cases hy : look gm [b, a] with
    | some w => rw [(key w).2 (Or.inr hy)]; simp
    | none =>
      cases hz : look r [a, b] with
      | none => simp
      | some u => simpa [hx, hy] using (key u).1 hz

/-- `(A,C)=-3`, `(C,A)=-3`, `(A,A)=5`, `(G,gap)=2`: not symmetric (no `(gap,G)`), no conflict. -/
def gOK : List (List UInt8 × Int) := [([65, 67], -3), ([67, 65], -3), ([65, 65], 5), ([71, 255], 2)]
/-- the same map, entries in another order -/
def gOK' : List (List UInt8 × Int) := [([71, 255], 2), ([65, 65], 5), ([67, 65], -3), ([65, 67], -3)]
/-- `(A,C)=-3` but `(C,A)=1` -/
def gBad : List (List UInt8 × Int) := [([65, 67], -3), ([67, 65], 1)]

example : WF gOK ∧ WF gOK' ∧ WF gBad := by decide
example : allFound = false ∨ GoSrc.Matrix_Symmetrical_Found = true := by decide
example : allFound = false ∨ GoSrc.Matrix_Symmetrical gOK
    = some [([65, 67], -3), ([67, 65], -3), ([65, 65], 5), ([71, 255], 2), ([255, 71], 2)] := by
  decide
example : allFound = false ∨ GoSrc.Matrix_Symmetrical gBad = none := by decide
example : ∃ (a b : UInt8) (v v2 : Int), a ≠ b ∧ ([a, b], v) ∈ gBad ∧ ([b, a], v2) ∈ gBad ∧ v2 ≠ v :=
  ⟨65, 67, -3, 1, by decide, by decide, by decide, by decide⟩
/-- a key of the wrong length (not a `[2]byte`) is outside `WF` -/
example : ¬ WF [([65], 1)] ∧ ¬ WF [([65, 67], 1), ([65, 67], 2)] := by decide

/-- On the image of a model matrix the translated `Symmetrical` panics iff the hand model does, and
otherwise the two results are the same map: the model's `get` is the Go map lookup. -/
theorem go_symmetrical_model : GoSrc.Matrix_Symmetrical_Found = true →
    ∀ m : Matrix.M, Matrix.KeyUnique m →
      (GoSrc.Matrix_Symmetrical (ofM m) = none ↔ Matrix.symmetrical m = none) ∧
      ∀ r r', GoSrc.Matrix_Symmetrical (ofM m) = some r → Matrix.symmetrical m = some r' →
        ∀ k, Matrix.get r' k
          = (if mapHas r (keyOf k) = true then some (mapGet r (keyOf k) 0) else none) := by
  intro hF m _
  obtain ⟨h1, h2⟩ := sym_model hF m
  exact ⟨h1, fun r r' hr hr' => (h2 r r' hr hr').get_eq⟩

/-- The hypothesis `KeyUnique m` is exactly well-formedness of the Go-level image. -/
theorem wf_ofM_iff (m : Matrix.M) : WF (ofM m) ↔ Matrix.KeyUnique m := by
  have hk : (ofM m).map (·.1) = (m.map (·.1)).map keyOf := by
    rw [ofM, List.map_map, List.map_map]; rfl
  rw [WF, hk, Matrix.KeyUnique, List.Nodup, List.Nodup, List.pairwise_map]
  exact ⟨fun h => h.2.imp fun hne heq => hne (congrArg keyOf heq),
    fun h => ⟨ofM_len2 m, h.imp fun hne heq => hne (keyOf_inj.1 heq)⟩⟩

example : Matrix.KeyUnique Matrix.mOK ∧ ofM Matrix.mOK = gOK := by decide
example : Matrix.KeyUnique Matrix.mBad ∧ ofM Matrix.mBad = gBad := by decide
example : allFound = false ∨
    (Matrix.symmetrical Matrix.mBad = none ∧ GoSrc.Matrix_Symmetrical (ofM Matrix.mBad) = none) := by
  decide
/-- the two result lists differ in order (the model's is sorted), not as maps -/
example : allFound = false ∨
    (Matrix.symmetrical Matrix.mOK
        = some [((65, 65), 5), ((65, 67), -3), ((67, 65), -3), ((71, 255), 2), ((255, 71), 2)] ∧
      GoSrc.Matrix_Symmetrical (ofM Matrix.mOK)
        = some [([65, 67], -3), ([67, 65], -3), ([65, 65], 5), ([71, 255], 2), ([255, 71], 2)]) := by
  decide

/-- For a well-formed `gm` and any rearrangement `gm'` of its entries: one panics iff the other
does, and otherwise the results agree as maps, at every key. -/
theorem go_symmetrical_order_independent : GoSrc.Matrix_Symmetrical_Found = true →
    ∀ gm gm' : List (List UInt8 × Int), WF gm → gm.Perm gm' →
      (GoSrc.Matrix_Symmetrical gm = none ↔ GoSrc.Matrix_Symmetrical gm' = none) ∧
      ∀ r r', GoSrc.Matrix_Symmetrical gm = some r → GoSrc.Matrix_Symmetrical gm' = some r' →
        ∀ k : List UInt8, mapHas r k = mapHas r' k ∧ mapGet r k 0 = mapGet r' k 0 := by
  intro hF gm gm' h hp
  have h' := WF_perm hp h
  constructor
  · rw [sym_none_iff hF h, sym_none_iff hF h']
    simp only [hp.mem_iff]
  · intro r r' hr hr' k
    exact has_get_ext (sym_perm_look hF h hp hr hr' k)

example : gOK.Perm gOK' := by decide
/-- the result lists really differ, as lists -/
example : allFound = false ∨
    (GoSrc.Matrix_Symmetrical gOK'
        = some [([71, 255], 2), ([255, 71], 2), ([65, 65], 5), ([67, 65], -3), ([65, 67], -3)] ∧
      GoSrc.Matrix_Symmetrical gOK' ≠ GoSrc.Matrix_Symmetrical gOK) := by
  decide
example : gBad.Perm gBad.reverse ∧
    (allFound = false ∨ GoSrc.Matrix_Symmetrical gBad.reverse = none) := by decide

/-- The `init` of levenshtein.go does not panic, and the map it builds is well-formed, has exactly
`256 * 256` entries, and holds at every pair `0` on the diagonal and `-1` elsewhere (proved from
the two nested loops, not by evaluating them). -/
theorem go_levenshtein_init : GoSrc.init_3_Found = true →
    ∃ L, GoSrc.init_3 = some L ∧ WF L ∧ L.length = 65536 ∧
      ∀ x y : UInt8, mapHas L [x, y] = true ∧ mapGet L [x, y] 0 = (if x = y then 0 else -1) := by
  intro hF
  obtain ⟨L, hL, hinv⟩ := init_3_inv hF
  refine ⟨L, hL, hinv.1, hinv.2.1, fun x y => ?_⟩
  rw [mapHas_eq, mapGet_eq, hinv.look_full]
  exact ⟨rfl, rfl⟩

/-- `Levenshtein.Get` never panics and is the matrix `levMat` of C09
(`levenshtein_is_edit_distance`). -/
theorem go_levenshtein_get : GoSrc.init_3_Found = true → GoSrc.Matrix_Get_Found = true →
    ∃ L, GoSrc.init_3 = some L ∧ ∀ x y : UInt8, GoSrc.Matrix_Get L x y = some (Align.levMat x y) := by
  intro hF hG
  obtain ⟨L, hL, hinv⟩ := init_3_inv hF
  exact ⟨L, hL, fun x y => (Matrix_Get_look hG L x y).trans (hinv.look_full x y)⟩

example : allFound = false ∨ (GoSrc.init_3_Found = true ∧ GoSrc.Matrix_Get_Found = true) := by decide
example : Align.levMat 65 65 = 0 ∧ Align.levMat 65 67 = -1 ∧ Align.levMat 255 255 = 0 ∧
    Align.levMat 255 65 = -1 := by decide
/-- `Get` on a map that lacks the pair panics; on the 4-entry matrix it reads the gap pair. -/
example : allFound = false ∨
    (GoSrc.Matrix_Get gOK 71 255 = some 2 ∧ GoSrc.Matrix_Get gOK 255 71 = none) := by decide

end Bio.Props.C20Go

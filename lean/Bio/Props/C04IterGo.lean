/-
  C04 / C06 / C07 / C11 / C18 (BED), ITERATOR level, for the Go SOURCE TEXT of `Reader`
  (formats/bed/iter.go), as translated on every run, statement by statement, into
  `Bio.Generated.GoSrc.bed_Reader`:

      bed_Reader f g fuel ⟨x, e⟩ yield : Option (List item)

  `f`, `g` stand for `strconv.Atoi`, `strconv.ParseUint` (PARAMETERS; where something is assumed about
  them it is `AtoiModel f`, `PUModel g` / `PUCanon g`, as in `Bio.Props.C04ReadGo`); `⟨x, e⟩` is the
  `bufio.Reader` inside `newReader(r)` (the bytes `x`, then `io.EOF` or a read error; `nfields` starts at
  0); `yield` is a HISTORY consumer (asked about all items handed to it so far, the current one last; NOT
  asked about an error item, whose verdict the Go code ignores: `yield(nil, err); return`); the result is
  the LOG of the items handed over; `fuel` bounds the `for { }` loop of `Reader` and the one inside every
  `read` call (`none` = out of fuel or a panic).  It calls the translated `read`, which calls the
  translated `parseLine` (`Bio.Props.C04ReadGo`).

  An item is `GoItem = (Option BedT, GoErr)` (`*BED` and the error).  `goItem : Item Bed.Bed → GoItem`
  sends `.ok b ↦ (some (tupleOf b), nil)`, `.err ↦ (nil, err)`; `normItem` goes back
  (`normItem (goItem i) = i`).  The items of an uninterrupted run are `goBedItems f g e x`
  (`: List (Item Bed.Bed)`): exactly what `goBedDecode f g fuel x e` of `Bio.Props.C04ReadGo` (the
  translated `read`, iterated) returns — for ARBITRARY `f`, `g` — and `Bed.decodeSrc e x` under the two
  models (`go_bed_reader_items`).  In that list an error item (a malformed line, a line with a different
  field count, the read error) is the LAST item: reading stops there.

  The fuel bound of the theorems is `(textLines e x).length + 1 ≤ fuel`; it cannot be dropped: with
  `fuel = 2` on the three records of `exIn3` and the consumer that never stops the result is `none`.

  Guarded by the translator's `_Found` flags (see `Bio.Lemmas.GoSrc`).
-/
import Bio.Lemmas.GoSrcBedIter
import Bio.Props.C04ReadGo
import Bio.Props.C18Hist
set_option linter.unusedVariables false
namespace Bio.Props.C04IterGo
open Bio Bio.GoRt Bio.Generated Bio.GoSrcLemmas Bio.GoSrcLemmas.BedRd Bio.GoSrcLemmas.BedIt

/-- every translator flag this file depends on; the non-vacuity examples below are stated as
`allFound = false ∨ …` so that a source the translator no longer recognises is not an alarm -/
def allFound : Bool :=
  GoSrc.bed_Reader_Found && GoSrc.bed_read_Found && GoSrc.parseLine_Found && GoSrc.bed_Write_Found

/-! ## The items; the fuel -/

/-- `goItem` / `normItem` on the shapes: a record; an error; `(nil, nil)` (never produced) -/
example (b : Bed.Bed) (t : BedT) (o : Option BedT) :
    goItem (.ok b) = (some (tupleOf b), GoErr.nil) ∧ goItem .err = (none, GoErr.other)
    ∧ normItem (some t, GoErr.nil) = .ok (bedOf t) ∧ normItem (o, GoErr.other) = .err
    ∧ normItem (o, GoErr.eof) = .err ∧ normItem (none, GoErr.nil) = .err
    ∧ normItem (goItem (.ok b)) = .ok b := by
  refine ⟨rfl, rfl, rfl, ?_, ?_, rfl, rfl⟩ <;> cases o <;> rfl

/-- enough fuel: one iteration per text line and one more to meet the end of the input (and, inside
`read`, one per skipped line and one more); never more than `len x + 1` -/
theorem go_bed_reader_fuel (e : Ending) (x : Bytes) : (textLines e x).length + 1 ≤ x.length + 1 :=
  Nat.succ_le_succ (textLines_length_le e x)

/-- THE ITEMS of an uninterrupted run, `goBedItems f g e x`:
* for ARBITRARY `f`, `g` they are what iterating the translated `read` as `Reader` does returns
  (`goBedDecode` of `Bio.Props.C04ReadGo`);
* line by line (`fromLinesP P` with `P = parseSpec (reqA f) (u8G g)`, the translated `parseLine`:
  `C04ReadGo.go_parseLine_param`): no line left: nothing at `io.EOF`, one error item at a read error; a
  blank or `#` line is skipped; a line whose field count differs from the first record's: one error item,
  the end; a line `P` rejects: one error item, the end; else the record, and the field count is fixed;
* under `AtoiModel f` and `PUModel g` they are the hand model's `Bed.decodeSrc e x`. -/
theorem go_bed_reader_items : GoSrc.bed_read_Found = true → GoSrc.parseLine_Found = true →
    ∀ (f : Bytes → Int × GoErr) (g : Bytes → Int → Int → Int × GoErr) (x : Bytes) (e : Ending),
    (∀ fuel, (textLines e x).length + 1 ≤ fuel → goBedDecode f g fuel x e = some (goBedItems f g e x))
    ∧ goBedItems f g e x = fromLinesP (parseSpec (reqA f) (u8G g)) e none (textLines e x)
    ∧ (∀ (P : List Bytes → Option Bed.Bed) (nf : Option Nat) (l : Bytes) (ls : List Bytes),
        fromLinesP P e nf [] = (match e with | .eof => [] | .fail => [.err])
        ∧ fromLinesP P e nf (l :: ls) =
            if Bed.isSkipped l = true then fromLinesP P e nf ls
            else if (nf.isSome && nf != some (splitOn 9 l).length) = true then [.err]
            else match P (splitOn 9 l) with
              | none => [.err]
              | some b => .ok b :: fromLinesP P e (some (splitOn 9 l).length) ls)
    ∧ (AtoiModel f → PUModel g → goBedItems f g e x = Bed.decodeSrc e x) := by
  intro hF hP f g x e
  refine ⟨fun fuel h => goBedDecode_items hF hP f g fuel x e h, rfl, ?_, fun hf hg => goBedItems_model hf hg e x⟩
  intro P nf l ls
  exact ⟨by cases e <;> rfl, rfl⟩

/-! ## 1. The log -/

/-- THE LOG.  For ARBITRARY `strconv` functions, every input `x`, ending `e`, every history consumer `y`
and `fuel ≥ text lines + 1`: iterating the translated `read` (`goBedDecode`, `Bio.Props.C04ReadGo`) gives
an item list `I = goBedItems f g e x`, and the translated closure hands over the Go items of `I`, in
order, up to and including the first one after which `y` said stop (`takeThroughH`).  `I` ends with its
first error item, about which `y` is not asked — and `takeThroughH` does not depend on the verdict on the
last item (`takeThroughH_congr`). -/
theorem go_bed_reader_log : GoSrc.bed_Reader_Found = true → GoSrc.bed_read_Found = true →
    GoSrc.parseLine_Found = true →
    ∀ (f : Bytes → Int × GoErr) (g : Bytes → Int → Int → Int × GoErr) (x : Bytes) (e : Ending)
      (y : List GoItem → Bool) (fuel : Nat), (textLines e x).length + 1 ≤ fuel →
    goBedDecode f g fuel x e = some (goBedItems f g e x)
    ∧ GoSrc.bed_Reader f g fuel ⟨x, e⟩ y = some (takeThroughH y [] ((goBedItems f g e x).map goItem)) :=
  fun hR hF hP f g x e y fuel hfuel =>
    ⟨goBedDecode_items hF hP f g fuel x e hfuel, bed_Reader_raw hR hF hP f g fuel x e y hfuel⟩

/-- the verdict on the LAST item of the run (in particular on the error item) does not matter: consumers
that agree on every history shorter than the run produce the same log -/
theorem go_bed_reader_last_verdict_ignored : GoSrc.bed_Reader_Found = true → GoSrc.bed_read_Found = true →
    GoSrc.parseLine_Found = true →
    ∀ (f : Bytes → Int × GoErr) (g : Bytes → Int → Int → Int × GoErr) (x : Bytes) (e : Ending)
      (y y₂ : List GoItem → Bool) (fuel : Nat), (textLines e x).length + 1 ≤ fuel →
    (∀ l, l.length < (goBedItems f g e x).length → y l = y₂ l) →
    GoSrc.bed_Reader f g fuel ⟨x, e⟩ y = GoSrc.bed_Reader f g fuel ⟨x, e⟩ y₂ := by
  intro hR hF hP f g x e y y₂ fuel hfuel h
  rw [bed_Reader_raw hR hF hP f g fuel x e y hfuel, bed_Reader_raw hR hF hP f g fuel x e y₂ hfuel,
    takeThroughH_congr y y₂ _ [] (by intro l hl; apply h; simpa using hl)]

/-- Under `AtoiModel f` and `PUModel g`: the log is the hand model's item list `Bed.decodeSrc e x` (as Go
items) cut by the consumer; and for a consumer `y'` of normalised histories (`y` any Go-level consumer
that answers as `y'` does on the normalised history) the normalised log is the log of the hand-model
closure `IterH.bedReaderH e x y'` of C18. -/
theorem go_bed_reader_log_model : GoSrc.bed_Reader_Found = true → GoSrc.bed_read_Found = true →
    GoSrc.parseLine_Found = true →
    ∀ (f : Bytes → Int × GoErr) (g : Bytes → Int → Int → Int × GoErr), AtoiModel f → PUModel g →
    ∀ (x : Bytes) (e : Ending) (fuel : Nat), (textLines e x).length + 1 ≤ fuel →
    (∀ y : List GoItem → Bool,
      GoSrc.bed_Reader f g fuel ⟨x, e⟩ y = some (takeThroughH y [] ((Bed.decodeSrc e x).map goItem)))
    ∧ (∀ (y' : List (Item Bed.Bed) → Bool) (y : List GoItem → Bool), (∀ l, y l = y' (l.map normItem)) →
        (GoSrc.bed_Reader f g fuel ⟨x, e⟩ y).map (·.map normItem) = some (takeThroughH y' [] (Bed.decodeSrc e x))
        ∧ (GoSrc.bed_Reader f g fuel ⟨x, e⟩ y).map (·.map normItem) = some (IterH.bedReaderH e x y')) := by
  intro hR hF hP f g hf hg x e fuel hfuel
  have hraw := fun y => bed_Reader_raw hR hF hP f g fuel x e y hfuel
  rw [goBedItems_model hf hg] at hraw
  refine ⟨hraw, ?_⟩
  intro y' y hy
  have h1 : (GoSrc.bed_Reader f g fuel ⟨x, e⟩ y).map (·.map normItem)
      = some (takeThroughH y' [] (Bed.decodeSrc e x)) := by
    rw [hraw, Option.map_some, map_takeThroughH normItem hy, map_normItem_goItem]
  exact ⟨h1, by rw [h1, C18Hist.bedReaderH_log]⟩

/-- the consumer hypothesis of `go_bed_reader_log_model` is satisfiable: "stop at the first error" -/
example : ∀ l : List GoItem,
    (fun l : List GoItem => (l.map normItem).getLast? != some .err) l
      = (fun l' : List (Item Bed.Bed) => l'.getLast? != some .err) (l.map normItem) := fun _ => rfl

/-! ## 2. The consumer that never stops -/

/-- C04 / C06: with the consumer that never stops the log is ALL of the items — for arbitrary `f`, `g`
exactly the Go items of what iterating the translated `read` returns; normalised, `goBedDecode` itself. -/
theorem go_bed_reader_all : GoSrc.bed_Reader_Found = true → GoSrc.bed_read_Found = true →
    GoSrc.parseLine_Found = true →
    ∀ (f : Bytes → Int × GoErr) (g : Bytes → Int → Int → Int × GoErr) (x : Bytes) (e : Ending) (fuel : Nat),
    (textLines e x).length + 1 ≤ fuel →
    GoSrc.bed_Reader f g fuel ⟨x, e⟩ (fun _ => true) = some ((goBedItems f g e x).map goItem)
    ∧ (GoSrc.bed_Reader f g fuel ⟨x, e⟩ (fun _ => true)).map (·.map normItem) = goBedDecode f g fuel x e := by
  intro hR hF hP f g x e fuel hfuel
  have h1 : GoSrc.bed_Reader f g fuel ⟨x, e⟩ (fun _ => true) = some ((goBedItems f g e x).map goItem) := by
    rw [bed_Reader_raw hR hF hP f g fuel x e _ hfuel, IterH.takeThroughH_true, List.nil_append]
  refine ⟨h1, ?_⟩
  rw [h1, goBedDecode_items hF hP f g fuel x e hfuel, Option.map_some, map_normItem_goItem]

/-- Under the two models: `Reader` hands over exactly the decoded items `Bed.decodeSrc e x`. -/
theorem go_bed_reader_all_model : GoSrc.bed_Reader_Found = true → GoSrc.bed_read_Found = true →
    GoSrc.parseLine_Found = true →
    ∀ (f : Bytes → Int × GoErr) (g : Bytes → Int → Int → Int × GoErr), AtoiModel f → PUModel g →
    ∀ (x : Bytes) (e : Ending) (fuel : Nat), (textLines e x).length + 1 ≤ fuel →
    GoSrc.bed_Reader f g fuel ⟨x, e⟩ (fun _ => true) = some ((Bed.decodeSrc e x).map goItem)
    ∧ (GoSrc.bed_Reader f g fuel ⟨x, e⟩ (fun _ => true)).map (·.map normItem) = some (Bed.decodeSrc e x) := by
  intro hR hF hP f g hf hg x e fuel hfuel
  have h := go_bed_reader_all hR hF hP f g x e fuel hfuel
  rw [goBedItems_model hf hg] at h
  refine ⟨h.1, ?_⟩
  rw [h.1, Option.map_some, map_normItem_goItem]

/-! ## 3. Early stop -/

/-- C18, for ARBITRARY `f`, `g` and EVERY history consumer `y` (it may keep state): the closure returns a
log `L` with
(b) `L` is a prefix of the items `I'` of the uninterrupted run (the log of the consumer that never stops);
(a) `y` answered `true` on every proper prefix history, and an item after which `y` answered `false` is
    the last one: nothing is handed over after the consumer declined;
(c) if `y` says "go on" on the first `k` histories and declines at item `k + 1` of `I'`, the log is
    exactly the first `k + 1` items; if it never declines before the last item, the log is all of `I'`. -/
theorem go_bed_reader_early_stop : GoSrc.bed_Reader_Found = true → GoSrc.bed_read_Found = true →
    GoSrc.parseLine_Found = true →
    ∀ (f : Bytes → Int × GoErr) (g : Bytes → Int → Int → Int × GoErr) (x : Bytes) (e : Ending)
      (y : List GoItem → Bool) (fuel : Nat), (textLines e x).length + 1 ≤ fuel →
    ∃ L I', GoSrc.bed_Reader f g fuel ⟨x, e⟩ y = some L
      ∧ GoSrc.bed_Reader f g fuel ⟨x, e⟩ (fun _ => true) = some I'
      ∧ L <+: I'
      ∧ (∀ i, i + 1 < L.length → y (L.take (i + 1)) = true)
      ∧ (∀ i, i < L.length → y (L.take (i + 1)) = false → i + 1 = L.length)
      ∧ (∀ k, k < I'.length → (∀ j, j < k → y (I'.take (j + 1)) = true) → y (I'.take (k + 1)) = false →
          L = I'.take (k + 1) ∧ L.length = k + 1)
      ∧ ((∀ j, j + 1 < I'.length → y (I'.take (j + 1)) = true) → L = I') := by
  intro hR hF hP f g x e y fuel hfuel
  refine ⟨_, _, bed_Reader_raw hR hF hP f g fuel x e y hfuel,
    (go_bed_reader_all hR hF hP f g x e fuel hfuel).1, takeThroughH_prefix _ _, takeThroughH_go_on _ _,
    takeThroughH_stop _ _, ?_, ?_⟩
  · intro k hk ht hf
    have := takeThroughH_first_false y _ [] k hk (by simpa using ht) (by simpa using hf)
    rw [this]
    refine ⟨by simp, ?_⟩
    simp only [List.nil_append, List.length_take]; omega
  · intro ht
    have := takeThroughH_all_true y ((goBedItems f g e x).map goItem) [] (by simpa using ht)
    simpa using this

/-- A consumer WITH state, "at most `k` items" (`k ≥ 1`), sees exactly the first `k` items of the
uninterrupted run — `min k |I'|` items. -/
theorem go_bed_reader_stop_at : GoSrc.bed_Reader_Found = true → GoSrc.bed_read_Found = true →
    GoSrc.parseLine_Found = true →
    ∀ (f : Bytes → Int × GoErr) (g : Bytes → Int → Int → Int × GoErr) (x : Bytes) (e : Ending)
      (fuel : Nat), (textLines e x).length + 1 ≤ fuel → ∀ k, 1 ≤ k →
    GoSrc.bed_Reader f g fuel ⟨x, e⟩ (fun l => decide (l.length < k))
      = (GoSrc.bed_Reader f g fuel ⟨x, e⟩ (fun _ => true)).map (·.take k)
    ∧ (GoSrc.bed_Reader f g fuel ⟨x, e⟩ (fun l => decide (l.length < k))).map (·.length)
      = some (min k (goBedItems f g e x).length) := by
  intro hR hF hP f g x e fuel hfuel k hk
  rw [bed_Reader_raw hR hF hP f g fuel x e _ hfuel, (go_bed_reader_all hR hF hP f g x e fuel hfuel).1,
    takeThroughH_count _ k hk]
  exact ⟨rfl, by simp⟩

/-- The (a)–(c) of `C18Hist.bedReaderH_early_stop`, on the translated closure, under the two models, for a
consumer `y'` of normalised histories, about the normalised log `L'`. -/
theorem go_bed_reader_early_stop_norm : GoSrc.bed_Reader_Found = true → GoSrc.bed_read_Found = true →
    GoSrc.parseLine_Found = true →
    ∀ (f : Bytes → Int × GoErr) (g : Bytes → Int → Int → Int × GoErr), AtoiModel f → PUModel g →
    ∀ (x : Bytes) (e : Ending) (y' : List (Item Bed.Bed) → Bool) (fuel : Nat),
    (textLines e x).length + 1 ≤ fuel →
    ∃ L', (GoSrc.bed_Reader f g fuel ⟨x, e⟩ (fun l => y' (l.map normItem))).map (·.map normItem) = some L'
      ∧ L' <+: Bed.decodeSrc e x
      ∧ (∀ i, i + 1 < L'.length → y' (L'.take (i + 1)) = true)
      ∧ (∀ i, i < L'.length → y' (L'.take (i + 1)) = false → i + 1 = L'.length) := by
  intro hR hF hP f g hf hg x e y' fuel hfuel
  exact ⟨_, ((go_bed_reader_log_model hR hF hP f g hf hg x e fuel hfuel).2 y' _ (fun _ => rfl)).1,
    takeThroughH_prefix _ _, takeThroughH_go_on _ _, takeThroughH_stop _ _⟩

/-! ## 4. Errors -/

/-- C07, for ARBITRARY `f`, `g` and EVERY consumer: every item of the log is a record with a nil error or
`(nil, err)` with a non-nil error; an error item is the LAST item of the log; so there is at most one. -/
theorem go_bed_reader_error_last : GoSrc.bed_Reader_Found = true → GoSrc.bed_read_Found = true →
    GoSrc.parseLine_Found = true →
    ∀ (f : Bytes → Int × GoErr) (g : Bytes → Int → Int → Int × GoErr) (x : Bytes) (e : Ending)
      (y : List GoItem → Bool) (fuel : Nat), (textLines e x).length + 1 ≤ fuel →
    ∃ L, GoSrc.bed_Reader f g fuel ⟨x, e⟩ y = some L
      ∧ (∀ (i : Nat) (t : GoItem), L[i]? = some t → (∃ b, t = (some (tupleOf b), GoErr.nil)) ∨ t = (none, GoErr.other))
      ∧ (∀ (i : Nat) (t : GoItem), L[i]? = some t → t.2 ≠ GoErr.nil → i + 1 = L.length)
      ∧ (∀ (i j : Nat) (ti tj : GoItem), L[i]? = some ti → L[j]? = some tj → ti.2 ≠ GoErr.nil → tj.2 ≠ GoErr.nil → i = j) := by
  intro hR hF hP f g x e y fuel hfuel
  have key := fun (i : Nat) (t : GoItem) => log_error_last (goBedItems f g e x)
    (fromLinesP_err_last _ e _ none) (takeThroughH y [] ((goBedItems f g e x).map goItem))
    (takeThroughH_prefix _ _) i t
  refine ⟨_, bed_Reader_raw hR hF hP f g fuel x e y hfuel, fun i t h => (key i t h).1,
    fun i t h h' => ((key i t h).2 h').1, ?_⟩
  intro i j ti tj hi hj hi' hj'
  have h1 := ((key i ti hi).2 hi').1
  have h2 := ((key j tj hj).2 hj').1
  omega

/-- C07: a FAILING stream is reported, never mistaken for a clean end.  For arbitrary `f`, `g`, when the
source ends with a read error: the log of the consumer that never stops ends with an error item; for
EVERY consumer `y`, either the log ends with an error item or `y` itself declined the last item handed
to it. -/
theorem go_bed_reader_fail_reported : GoSrc.bed_Reader_Found = true → GoSrc.bed_read_Found = true →
    GoSrc.parseLine_Found = true →
    ∀ (f : Bytes → Int × GoErr) (g : Bytes → Int → Int → Int × GoErr) (x : Bytes) (fuel : Nat),
    (textLines .fail x).length + 1 ≤ fuel →
    (∃ L, GoSrc.bed_Reader f g fuel ⟨x, .fail⟩ (fun _ => true) = some L
      ∧ L.getLast? = some (none, GoErr.other))
    ∧ (∀ y : List GoItem → Bool, ∃ L, GoSrc.bed_Reader f g fuel ⟨x, .fail⟩ y = some L
      ∧ (L.getLast? = some (none, GoErr.other) ∨ y L = false)) := by
  intro hR hF hP f g x fuel hfuel
  have hlast : ((goBedItems f g .fail x).map goItem).getLast? = some (none, GoErr.other) := by
    rw [List.getLast?_map, goBedItems, fromLinesP_fail_last]; rfl
  refine ⟨⟨_, (go_bed_reader_all hR hF hP f g x .fail fuel hfuel).1, hlast⟩, ?_⟩
  intro y
  refine ⟨_, bed_Reader_raw hR hF hP f g fuel x .fail y hfuel, ?_⟩
  rcases takeThroughH_all_or_declined y ((goBedItems f g .fail x).map goItem) [] with h | h
  · left; rw [h, List.nil_append]; exact hlast
  · right; exact h

/-- C07, the other direction: at a clean end (`io.EOF`), if the uninterrupted run has no error item — under
the two models: if the hand model `Bed.decode x` has none, i.e. the input is well-formed — no log
contains an error item, whatever the consumer. -/
theorem go_bed_reader_clean_end : GoSrc.bed_Reader_Found = true → GoSrc.bed_read_Found = true →
    GoSrc.parseLine_Found = true →
    ∀ (f : Bytes → Int × GoErr) (g : Bytes → Int → Int → Int × GoErr) (x : Bytes) (fuel : Nat),
    (textLines .eof x).length + 1 ≤ fuel →
    ((∀ it ∈ goBedItems f g .eof x, it ≠ Item.err) ∨ (AtoiModel f ∧ PUModel g ∧ ∀ it ∈ Bed.decode x, it ≠ Item.err)) →
    ∀ y : List GoItem → Bool, ∃ L, GoSrc.bed_Reader f g fuel ⟨x, .eof⟩ y = some L
      ∧ ∀ t ∈ L, t.2 = GoErr.nil ∧ ∃ b, t = (some (tupleOf b), GoErr.nil) := by
  intro hR hF hP f g x fuel hfuel hclean y
  have hc : ∀ it ∈ goBedItems f g .eof x, it ≠ Item.err := by
    rcases hclean with h | ⟨hf, hg, h⟩
    · exact h
    · rw [goBedItems_model hf hg]; exact h
  refine ⟨_, bed_Reader_raw hR hF hP f g fuel x .eof y hfuel, ?_⟩
  intro t ht
  have hm := (takeThroughH_prefix y ((goBedItems f g .eof x).map goItem)).subset ht
  obtain ⟨it, hit, rfl⟩ := List.mem_map.1 hm
  cases it with
  | ok b => exact ⟨rfl, b, rfl⟩
  | err => exact absurd rfl (hc _ hit)

/-! ## 5. No panic -/

/-- C11: for ARBITRARY `strconv.Atoi`, `strconv.ParseUint`, every input, ending and consumer, with
`text lines + 1` fuel (e.g. `len x + 1`) the closure returns — no panic (`parseLine` and `read` never panic:
`C04ReadGo.go_parseLine_no_panic`, `go_bed_read_no_panic`), and both loops end within the fuel. -/
theorem go_bed_reader_no_panic : GoSrc.bed_Reader_Found = true → GoSrc.bed_read_Found = true →
    GoSrc.parseLine_Found = true →
    ∀ (f : Bytes → Int × GoErr) (g : Bytes → Int → Int → Int × GoErr) (x : Bytes) (e : Ending)
      (y : List GoItem → Bool) (fuel : Nat),
    ((textLines e x).length + 1 ≤ fuel → GoSrc.bed_Reader f g fuel ⟨x, e⟩ y ≠ none)
    ∧ (x.length < fuel → GoSrc.bed_Reader f g fuel ⟨x, e⟩ y ≠ none) := by
  intro hR hF hP f g x e y fuel
  have h1 : (textLines e x).length + 1 ≤ fuel → GoSrc.bed_Reader f g fuel ⟨x, e⟩ y ≠ none := by
    intro hfuel
    rw [bed_Reader_raw hR hF hP f g fuel x e y hfuel]; simp
  exact ⟨h1, fun h => h1 (by have := go_bed_reader_fuel e x; omega)⟩

/-! ## 6. Write, then read -/

/-- The translated `Write` of every record of `bs` (well-formed with `N` fields: `Bed.WF` of
`Bio.Lemmas.Bed`) on a large enough writer, then the translated `Reader` on what was written, with the
consumer that never stops: exactly the records (restricted to their first `N` fields), each with a nil
error, and no error item.  Same hypotheses as `C04ReadGo.go_bed_roundtrip`: `AtoiModel` and the WEAK
`PUCanon` only. -/
theorem go_bed_reader_roundtrip : GoSrc.bed_Write_Found = true → GoSrc.bed_Reader_Found = true →
    GoSrc.bed_read_Found = true → GoSrc.parseLine_Found = true →
    ∀ (f : Bytes → Int × GoErr) (g : Bytes → Int → Int → Int × GoErr), AtoiModel f → PUCanon g →
    ∀ (N : Nat) (bs : List Bed.Bed), (∀ b ∈ bs, Bed.WF N b) →
    ∀ (k fuel : Nat), (bedEncodeAll bs).length ≤ k → (bedEncodeAll bs).length < fuel →
    ∃ w', bedWriteAll bs ⟨k, []⟩ = some (GoErr.nil, w')
      ∧ GoSrc.bed_Reader f g fuel ⟨w'.out, .eof⟩ (fun _ => true)
          = some (bs.map fun b => (some (tupleOf (Bed.truncate N b)), GoErr.nil))
      ∧ (GoSrc.bed_Reader f g fuel ⟨w'.out, .eof⟩ (fun _ => true)).map (·.map normItem)
          = some (bs.map fun b => Item.ok (Bed.truncate N b)) := by
  intro hW hR hF hP f g hf hg N bs h k fuel hk hfuel
  obtain ⟨w', hw, hdec⟩ := C04ReadGo.go_bed_roundtrip hW hF hP f g hf hg N bs h k fuel hk hfuel
  have hout : w'.out = bedEncodeAll bs := by
    rw [bedWriteAll_ok hW bs (fun b hb => (h b hb).n_range) k [] hk] at hw
    simp only [Option.some.injEq, Prod.mk.injEq, true_and] at hw
    rw [← hw]; simp
  have hfuel' : (textLines .eof w'.out).length + 1 ≤ fuel := by
    have := go_bed_reader_fuel .eof w'.out
    rw [hout] at this ⊢; omega
  have hall := go_bed_reader_all hR hF hP f g w'.out .eof fuel hfuel'
  have hitems : goBedItems f g .eof w'.out = bs.map fun b => Item.ok (Bed.truncate N b) := by
    have := goBedDecode_items hF hP f g fuel w'.out .eof hfuel'
    rw [hdec] at this
    exact (Option.some.inj this).symm
  refine ⟨w', hw, ?_, ?_⟩
  · rw [hall.1, hitems, List.map_map]; rfl
  · rw [hall.2, hdec]

/-- Non-vacuity: the flags; records in the domain of C04; room and fuel (as for `go_bed_roundtrip`) -/
example : allFound = false ∨ (allFound = true
    ∧ (∀ b ∈ [Bed.ex12, { Bed.ex12 with name := [], blockCount := 0, blockSizes := [], blockStarts := [] }],
        Bed.WF 12 b)
    ∧ Bed.WF 3 Bed.ex3 ∧ Bed.WF 11 Bed.ex11) := by decide +kernel
example : (bedEncodeAll [Bed.ex12, { Bed.ex12 with name := [], blockCount := 0, blockSizes := [], blockStarts := [] }]).length
    ≤ 200 ∧
    (bedEncodeAll [Bed.ex12, { Bed.ex12 with name := [], blockCount := 0, blockSizes := [], blockStarts := [] }]).length
    < 201 := by decide +kernel
example : AtoiModel atoiP ∧ PUModel puP ∧ PUCanon puP := ⟨atoiP_model, puP_model, puP_model.canon⟩

/-! ## Concrete runs of the translated closure -/

/-- `a<TAB>1<TAB>2<LF>b<TAB>3<TAB>4<LF>`: two records -/
def exIn2 : Bytes := [97, 9, 49, 9, 50, 10, 98, 9, 51, 9, 52, 10]
def exB : Bed.Bed := { Bed.exA with chrom := [98], chromStart := 3, chromEnd := 4 }
def r1 : GoItem := (some (tupleOf Bed.exA), GoErr.nil)
def r2 : GoItem := (some (tupleOf exB), GoErr.nil)
/-- `a<TAB>1<TAB>2<LF>b<TAB>x<TAB>4<LF>a<TAB>1<TAB>2<LF>`: the second line is malformed; the third is never read -/
def exInBad : Bytes := [97, 9, 49, 9, 50, 10, 98, 9, 120, 9, 52, 10, 97, 9, 49, 9, 50, 10]
/-- `#c<CR><LF>`, a blank line, then three records (the last without a final newline) -/
def exIn3 : Bytes := [35, 99, 13, 10, 10, 97, 9, 49, 9, 50, 10, 98, 9, 51, 9, 52, 13, 10, 97, 9, 49, 9, 50]

/-- the fuel hypothesis on the samples -/
example : (textLines .eof exIn2).length + 1 ≤ 3 ∧ (textLines .fail exIn2).length + 1 ≤ 3
    ∧ (textLines .eof exInBad).length + 1 ≤ 4 ∧ (textLines .eof exIn3).length + 1 ≤ 6
    ∧ (textLines .fail exIn3).length + 1 ≤ 5 := by decide +kernel

/-- the two-line text read completely; the model says the same; `goBedDecode` (C04ReadGo) as well -/
example : allFound = false ∨ (
    GoSrc.bed_Reader atoiP puP 3 ⟨exIn2, .eof⟩ (fun _ => true) = some [r1, r2]
    ∧ Bed.decodeSrc .eof exIn2 = [.ok Bed.exA, .ok exB]
    ∧ goBedDecode atoiP puP 3 exIn2 .eof = some [.ok Bed.exA, .ok exB]
    ∧ goBedItems atoiP puP .eof exIn2 = [.ok Bed.exA, .ok exB]) := by
  decide +kernel

/-- the same, stopped after the first item: by a consumer that always declines, by the stateful "at most
one item", by "stop when the record's chrom is `a`"; and the hand-model closure -/
example : allFound = false ∨ (
    GoSrc.bed_Reader atoiP puP 3 ⟨exIn2, .eof⟩ (fun _ => false) = some [r1]
    ∧ GoSrc.bed_Reader atoiP puP 3 ⟨exIn2, .eof⟩ (fun l => decide (l.length < 1)) = some [r1]
    ∧ GoSrc.bed_Reader atoiP puP 3 ⟨exIn2, .eof⟩ (fun l => l.getLast? != some r1) = some [r1]
    ∧ IterH.bedReaderH .eof exIn2 (fun l => decide (l.length < 1)) = [.ok Bed.exA]
    -- an instance of the hypotheses of (c) of `go_bed_reader_early_stop` with `k = 1`: go on at item 1,
    -- decline at item 2
    ∧ (fun l : List GoItem => decide (l.length < 2)) ([r1, r2].take 1) = true
    ∧ (fun l : List GoItem => decide (l.length < 2)) ([r1, r2].take 2) = false) := by
  decide +kernel

/-- a malformed second line: the record, then ONE error item, and reading stops (the good third line is
not read); the consumer is not asked about the error item ("at most one item" would stop BEFORE it,
"at most two" sees the same as "never stop") -/
example : allFound = false ∨ (
    GoSrc.bed_Reader atoiP puP 4 ⟨exInBad, .eof⟩ (fun _ => true) = some [r1, (none, GoErr.other)]
    ∧ GoSrc.bed_Reader atoiP puP 4 ⟨exInBad, .eof⟩ (fun l => decide (l.length < 2)) = some [r1, (none, GoErr.other)]
    ∧ GoSrc.bed_Reader atoiP puP 4 ⟨exInBad, .eof⟩ (fun l => decide (l.length < 1)) = some [r1]
    ∧ Bed.decodeSrc .eof exInBad = [.ok Bed.exA, .err]
    -- a line with a fourth field after a three-field record: the same shape
    ∧ GoSrc.bed_Reader atoiP puP 3 ⟨[97, 9, 49, 9, 50, 10, 98, 9, 51, 9, 52, 9, 120, 10], .eof⟩ (fun _ => true)
      = some [r1, (none, GoErr.other)]) := by
  decide +kernel

/-- the source FAILS after these bytes: a final error item; cut inside the second line: the unterminated
tail is dropped; on the empty input: just the error item (even for a consumer that always declines: it
is not asked) -/
example : allFound = false ∨ (
    GoSrc.bed_Reader atoiP puP 3 ⟨exIn2, .fail⟩ (fun _ => true) = some [r1, r2, (none, GoErr.other)]
    ∧ GoSrc.bed_Reader atoiP puP 3 ⟨exIn2.take 9, .fail⟩ (fun _ => true) = some [r1, (none, GoErr.other)]
    ∧ GoSrc.bed_Reader atoiP puP 3 ⟨exIn2.take 9, .eof⟩ (fun _ => true) = some [r1, (none, GoErr.other)]
    ∧ GoSrc.bed_Reader atoiP puP 1 ⟨[], .fail⟩ (fun _ => false) = some [(none, GoErr.other)]
    ∧ GoSrc.bed_Reader atoiP puP 1 ⟨[], .eof⟩ (fun _ => false) = some []
    ∧ Bed.decodeSrc .fail exIn2 = [.ok Bed.exA, .ok exB, .err]
    ∧ ((GoSrc.bed_Reader atoiP puP 3 ⟨exIn2, .fail⟩ (fun _ => true)).map fun L => L.getLast?)
      = some (some ((none, GoErr.other) : GoItem))) := by
  decide +kernel

/-- a comment with CR LF, a blank line, CR LF after a record, no final newline; "at most two items";
too little fuel for the loop to reach the end of the input: `none` (no claim) — unless the consumer
stops it before -/
example : allFound = false ∨ (
    GoSrc.bed_Reader atoiP puP 6 ⟨exIn3, .eof⟩ (fun _ => true) = some [r1, r2, r1]
    ∧ GoSrc.bed_Reader atoiP puP 5 ⟨exIn3, .fail⟩ (fun _ => true) = some [r1, r2, (none, GoErr.other)]
    ∧ GoSrc.bed_Reader atoiP puP 6 ⟨exIn3, .eof⟩ (fun l => decide (l.length < 2)) = some [r1, r2]
    ∧ GoSrc.bed_Reader atoiP puP 2 ⟨exIn3, .eof⟩ (fun _ => true) = none
    ∧ GoSrc.bed_Reader atoiP puP 0 ⟨[], .eof⟩ (fun _ => true) = none
    ∧ GoSrc.bed_Reader atoiP puP 3 ⟨exIn3, .eof⟩ (fun l => decide (l.length < 1)) = some [r1]) := by
  decide +kernel

/-- `go_bed_reader_clean_end`'s hypothesis on a well-formed input, and its failure on the malformed one -/
example : (∀ it ∈ Bed.decode exIn3, it ≠ Item.err) ∧ ¬ (∀ it ∈ Bed.decode exInBad, it ≠ Item.err) := by
  decide +kernel

/-- arbitrary (absurd) `strconv` functions — every integer "parses" as 1000, every byte as 1000 (truncated
to 232): the closure still returns -/
example : allFound = false ∨ (
    (GoSrc.bed_Reader (fun _ => (1000, GoErr.nil)) (fun _ _ _ => (1000, GoErr.nil)) 4 ⟨exInBad, .eof⟩
        (fun _ => true)).map (·.map (·.2)) = some [GoErr.nil, GoErr.nil, GoErr.nil]) := by
  decide +kernel

/-- the round trip on C04's samples: the 12-field record with two blocks (odd bytes in the name, extreme
integers), twice the 3-field record, the 11-field record, through the translated `Write` and then the
translated `Reader` -/
example : allFound = false ∨ (
    ((bedWriteAll [Bed.ex12] ⟨100, []⟩).bind fun p =>
        GoSrc.bed_Reader atoiP puP 100 ⟨p.2.out, .eof⟩ (fun _ => true))
      = some [(some (tupleOf Bed.ex12), GoErr.nil)]
    ∧ ((bedWriteAll [Bed.ex3, Bed.ex3] ⟨100, []⟩).bind fun p =>
        (GoSrc.bed_Reader atoiP puP 100 ⟨p.2.out, .eof⟩ (fun _ => true)).map (·.map normItem))
      = some [Item.ok (Bed.truncate 3 Bed.ex3), Item.ok (Bed.truncate 3 Bed.ex3)]
    ∧ ((bedWriteAll [Bed.ex11] ⟨100, []⟩).bind fun p =>
        (GoSrc.bed_Reader atoiP puP 100 ⟨p.2.out, .eof⟩ (fun _ => true)).map (·.map normItem))
      = some [Item.ok (Bed.truncate 11 Bed.ex11)]) := by
  decide +kernel

end Bio.Props.C04IterGo

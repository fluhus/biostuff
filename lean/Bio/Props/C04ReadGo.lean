/-
  C04 (BED), READER half, for the Go SOURCE TEXT of `parseLine` and `(*reader).read`
  (formats/bed/bed.go), as translated on every run into `Bio.Generated.GoSrc.parseLine` and
  `Bio.Generated.GoSrc.bed_read`, iterated as `Reader` of formats/bed/iter.go does (`goBedDecode`).

  `strconv.Atoi` and `strconv.ParseUint` are PARAMETERS `f`, `g` of the translated code; what is
  assumed about them is stated as explicit hypotheses:
  * `AtoiModel f`: no error and the model's value where the model's `atoi` accepts, an error (any
    error, any value) where it rejects;
  * `PUCanon g` (weak): `g (natDigits n) 0 8 = (n, nil)` for `n < 256` — all the round trip needs;
  * `PUModel g` (strong): `g · 0 8` accepts exactly the canonical decimals `0…255` (the model's
    `parseU8`; the real `ParseUint(s, 0, 8)` also accepts `0x…`, `0b…`, `0o…`, a leading `0` as octal and
    underscores, so it satisfies `PUCanon` but NOT `PUModel`).

  Guarded by the translator's `_Found` flags (see `Bio.Lemmas.GoSrc`).
-/
import Bio.Lemmas.GoSrcBedRead
import Bio.Props.C04Go
namespace Bio.Props.C04ReadGo
open Bio Bio.GoRt Bio.Generated Bio.GoSrcLemmas Bio.GoSrcLemmas.BedRd

/-- every translator flag this file depends on; the non-vacuity examples below are stated as
`allFound = false ∨ …` so that a source the translator no longer recognises is not an alarm -/
def allFound : Bool := GoSrc.parseLine_Found && GoSrc.bed_read_Found && GoSrc.bed_Write_Found

/-! ## 1. `parseLine` -/

/-- For ARBITRARY `strconv` parameters: the translated `parseLine` is the model's parser with the
integer parser `reqA f` (value of `f s` when its error is nil) and the byte parser `u8G g`
(`byte(value)` of `g s 0 8` when its error is nil). -/
theorem go_parseLine_param : GoSrc.parseLine_Found = true →
    ∀ (f : Bytes → Int × GoErr) (g : Bytes → Int → Int → Int × GoErr) (fields : List Bytes),
    GoSrc.parseLine f g fields = some (resultOf (parseSpec (reqA f) (u8G g) fields)) :=
  fun hF f g fields => go_parseLine_spec hF f g fields

/-- `parseLine` never panics, whatever the two `strconv` functions return: every index is in range
(the padded slice has 12 elements; the RGB loop runs over exactly 3 pieces and writes `ItemRGB[0..2]`;
each block loop runs over the pieces its slice was allocated for). -/
theorem go_parseLine_no_panic : GoSrc.parseLine_Found = true →
    ∀ (f : Bytes → Int × GoErr) (g : Bytes → Int → Int → Int × GoErr) (fields : List Bytes),
    GoSrc.parseLine f g fields ≠ none := by
  intro hF f g fields
  rw [go_parseLine_spec hF]; simp

/-- Under `AtoiModel` and the strong `PUModel`: the translated `parseLine` IS the hand model, on all
inputs (any number of fields, any bytes). -/
theorem go_parseLine_model : GoSrc.parseLine_Found = true →
    ∀ (f : Bytes → Int × GoErr) (g : Bytes → Int → Int → Int × GoErr), AtoiModel f → PUModel g →
    ∀ (fields : List Bytes),
    GoSrc.parseLine f g fields = some (match Bed.parseLine fields with
      | some b => (some (tupleOf b), GoErr.nil)
      | none => (none, GoErr.other)) := by
  intro hF f g hf hg fields
  rw [go_parseLine_spec hF, parseSpec_of_models hf hg]
  rfl

/-- The hypotheses are satisfiable: the model's own `atoi` / `parseU8` as Go functions. -/
example : AtoiModel atoiP ∧ PUModel puP ∧ PUCanon puP := ⟨atoiP_model, puP_model, puP_model.canon⟩
/-- concrete consequences on sample strings: `-5`, `+7`, `x`, the empty string, `9223372036854775808`
(out of range); `255`, `0`, `256`, `07` (leading zero), `0x1` (hex: the real function accepts it) -/
example : atoiP [45, 53] = (-5, GoErr.nil) ∧ atoiP [43, 55] = (7, GoErr.nil) ∧ atoiP [120] = (0, GoErr.other)
    ∧ atoiP [] = (0, GoErr.other)
    ∧ atoiP [57, 50, 50, 51, 51, 55, 50, 48, 51, 54, 56, 53, 52, 55, 55, 53, 56, 48, 56] = (0, GoErr.other) := by
  decide +kernel
example : puP [50, 53, 53] 0 8 = (255, GoErr.nil) ∧ puP [48] 0 8 = (0, GoErr.nil) ∧ puP [50, 53, 54] 0 8 = (0, GoErr.other)
    ∧ puP [48, 55] 0 8 = (0, GoErr.other) ∧ puP [48, 120, 49] 0 8 = (0, GoErr.other) := by
  decide +kernel
/-- `PUCanon` at `n = 255` and `n = 7` -/
example : puP (natDigits 255) 0 8 = (255, GoErr.nil) ∧ puP (natDigits 7) 0 8 = (7, GoErr.nil) := by
  decide +kernel
/-- `PUCanon` is strictly weaker: a function that also reads `0x10` as 16 satisfies it, not `PUModel` -/
example : ∃ g, PUCanon g ∧ ¬ PUModel g := by
  refine ⟨fun s b n => if s = [48, 120, 49, 48] then (16, GoErr.nil) else puP s b n, ?_, ?_⟩
  · intro n hn
    have hne : natDigits n ≠ [48, 120, 49, 48] :=
      fun h => not_mem_natDigits n (c := 120) (by decide) (by rw [h]; simp)
    simp only [hne, if_false]
    exact puP_model.canon n hn
  · intro h
    have := h.bad [48, 120, 49, 48] (by decide +kernel)
    simp at this

/-- the translated code itself on the fields of `chr1 -5 maxInt64 … 255,0,7 2 10,-20 0,300` (the line
written for `ex12`), on three fields, on a bad integer, a bad strand, a bad RGB value, a block count
that disagrees with the sizes, and on two / thirteen fields -/
example : allFound = false ∨ (
    GoSrc.parseLine atoiP puP (splitOn 9 ((Bed.encodeLine Bed.ex12).getD [])) = some (some (tupleOf Bed.ex12), GoErr.nil)
    ∧ GoSrc.parseLine atoiP puP [[97], [49], [50]] = some (some (tupleOf Bed.exA), GoErr.nil)
    ∧ GoSrc.parseLine atoiP puP [[97], [49], [120]] = some (none, GoErr.other)
    ∧ GoSrc.parseLine atoiP puP [[97], [49], [50], [], [], [47]] = some (none, GoErr.other)
    ∧ GoSrc.parseLine atoiP puP [[97], [49], [50], [], [], [], [], [], [49, 44, 50]] = some (none, GoErr.other)
    ∧ GoSrc.parseLine atoiP puP [[97], [49], [50], [], [], [], [], [], [], [50], [49]] = some (none, GoErr.other)
    ∧ GoSrc.parseLine atoiP puP [[97], [49]] = some (none, GoErr.other)
    ∧ GoSrc.parseLine atoiP puP (List.replicate 13 [49]) = some (none, GoErr.other)) := by
  decide +kernel

/-! ## 2. One call of `read` -/

/-- One call of the translated `read` on the reader state `(⟨rest, e⟩, nf)` (`rest` = bytes not yet
read, `e` = how the source ends, `nf` = `r.nfields`, 0 = not fixed yet), in terms of the model's text
lines `textLines e rest`, with more fuel than there are leading skipped lines (blank or `#`):
* no record line left: `(nil, io.EOF)` at a clean end, `(nil, err)` when the source fails — nothing is
  left to read;
* otherwise, for the first record line `t` (`lineOut`): with `nf ≠ 0` and a different number of fields,
  `(nil, error)`; else what the model's `parseLine` says about the fields (the record, or `(nil, error)`),
  with `nfields` set to the number of fields if it was 0; the reader is left at bytes `rest'` whose
  text lines are exactly the lines after `t`. -/
theorem go_bed_read_step : GoSrc.bed_read_Found = true → GoSrc.parseLine_Found = true →
    ∀ (f : Bytes → Int × GoErr) (g : Bytes → Int → Int → Int × GoErr), AtoiModel f → PUModel g →
    ∀ (e : Ending) (rest : Bytes) (nf : Int) (fuel : Nat), leadSkips (textLines e rest) < fuel →
      match (textLines e rest).dropWhile Bed.isSkipped with
      | [] => GoSrc.bed_read f g fuel ⟨rest, e⟩ nf = some (none, endErr e, ⟨[], e⟩, nf)
      | t :: more => ∃ rest', textLines e rest' = more ∧ rest'.length < rest.length
          ∧ GoSrc.bed_read f g fuel ⟨rest, e⟩ nf = some (lineOut Bed.parseLine nf t ⟨rest', e⟩) := by
  intro hF hP f g hf hg e rest nf fuel hfuel
  rw [bed_read_spec hF hP, parseSpec_of_models hf hg]
  exact readSpec_lines Bed.parseLine e rest fuel nf hfuel

/-- The same call, byte by byte (`l` = the bytes up to the next LF, `dropCR l` = the line with one
trailing CR removed):
* nothing left: the source's end (`io.EOF` or the read error);
* an unterminated tail and a failing source: the read error, the tail is dropped;
* an unterminated tail at a clean end: a skipped line gives `io.EOF`, a record line its outcome;
* a terminated line: a skipped line costs one unit of fuel and the call goes on with the bytes after
  it, a record line gives its outcome and leaves the reader after the LF. -/
theorem go_bed_read_cases : GoSrc.bed_read_Found = true → GoSrc.parseLine_Found = true →
    ∀ (f : Bytes → Int × GoErr) (g : Bytes → Int → Int → Int × GoErr), AtoiModel f → PUModel g →
    ∀ (fuel : Nat) (nf : Int),
    (∀ e, GoSrc.bed_read f g (fuel + 1) ⟨[], e⟩ nf = some (none, endErr e, ⟨[], e⟩, nf))
    ∧ (∀ l : Bytes, (∀ b ∈ l, b ≠ 10) →
        GoSrc.bed_read f g (fuel + 1) ⟨l, .fail⟩ nf = some (none, GoErr.other, ⟨[], .fail⟩, nf))
    ∧ (∀ l : Bytes, l ≠ [] → (∀ b ∈ l, b ≠ 10) →
        GoSrc.bed_read f g (fuel + 1) ⟨l, .eof⟩ nf
          = if Bed.isSkipped (dropCR l) = true then some (none, GoErr.eof, ⟨[], .eof⟩, nf)
            else some (lineOut Bed.parseLine nf (dropCR l) ⟨[], .eof⟩))
    ∧ (∀ (l rest' : Bytes) (e : Ending), (∀ b ∈ l, b ≠ 10) →
        GoSrc.bed_read f g (fuel + 1) ⟨l ++ 10 :: rest', e⟩ nf
          = if Bed.isSkipped (dropCR l) = true then GoSrc.bed_read f g fuel ⟨rest', e⟩ nf
            else some (lineOut Bed.parseLine nf (dropCR l) ⟨rest', e⟩)) := by
  intro hF hP f g hf hg fuel nf
  simp only [bed_read_spec hF hP, parseSpec_of_models hf hg]
  exact ⟨fun e => readSpec_nil _ fuel e nf, fun l hl => readSpec_tail_fail _ fuel nf (fun hm => hl _ hm rfl),
    fun l hne hl => readSpec_tail_eof _ fuel nf hne (fun hm => hl _ hm rfl),
    fun l rest' e hl => readSpec_line _ fuel rest' e nf (fun hm => hl _ hm rfl)⟩

/-- hypotheses of `go_bed_read_cases`: LF-free pieces (`a<TAB>1<TAB>2<CR>`, `#c`) -/
example : (∀ b ∈ ([97, 9, 49, 9, 50, 13] : Bytes), b ≠ 10) ∧ ([35, 99] : Bytes) ≠ [] ∧ (∀ b ∈ ([35, 99] : Bytes), b ≠ 10) := by
  decide +kernel

/-- `lineOut`, spelled out: the `nfields` rule and the parse. -/
theorem lineOut_eq : ∀ (nf : Int) (t : Bytes) (r' : BufRd),
    lineOut Bed.parseLine nf t r' =
      if nf ≠ 0 ∧ len (splitOn 9 t) ≠ nf then (none, GoErr.other, r', nf)
      else match Bed.parseLine (splitOn 9 t) with
        | some b => (some (tupleOf b), GoErr.nil, r', if nf = 0 then len (splitOn 9 t) else nf)
        | none => (none, GoErr.other, r', if nf = 0 then len (splitOn 9 t) else nf) := by
  intro nf t r'
  rw [lineOut_eq']
  split
  · rfl
  · cases Bed.parseLine (splitOn 9 t) <;> rfl

/-- Non-vacuity: `#c`, a blank line (CR LF), then `a<TAB>1<TAB>2` and more: two skipped lines, so fuel 3. -/
example : leadSkips (textLines .eof [35, 99, 10, 13, 10, 97, 9, 49, 9, 50, 10, 120]) < 3 := by decide +kernel
set_option synthInstance.maxSize 1024 in
example : allFound = false ∨ (
    GoSrc.bed_read atoiP puP 3 ⟨[35, 99, 10, 13, 10, 97, 9, 49, 9, 50, 10, 120], .eof⟩ 0
      = some (some (tupleOf Bed.exA), GoErr.nil, ⟨[120], .eof⟩, 3)
    -- not enough fuel: no claim
    ∧ GoSrc.bed_read atoiP puP 2 ⟨[35, 99, 10, 13, 10, 97, 9, 49, 9, 50, 10, 120], .eof⟩ 0 = none
    -- `nfields` already 4: wrong number of fields
    ∧ GoSrc.bed_read atoiP puP 3 ⟨[35, 99, 10, 13, 10, 97, 9, 49, 9, 50, 10, 120], .eof⟩ 4
      = some (none, GoErr.other, ⟨[120], .eof⟩, 4)
    -- the unterminated tail: a record line at a clean end (one field: a parse error), dropped when the source fails
    ∧ GoSrc.bed_read atoiP puP 1 ⟨[120], .eof⟩ 0 = some (none, GoErr.other, ⟨[], .eof⟩, 1)
    ∧ GoSrc.bed_read atoiP puP 1 ⟨[120], .fail⟩ 3 = some (none, GoErr.other, ⟨[], .fail⟩, 3)
    ∧ GoSrc.bed_read atoiP puP 1 ⟨[], .eof⟩ 3 = some (none, GoErr.eof, ⟨[], .eof⟩, 3)
    ∧ GoSrc.bed_read atoiP puP 2 ⟨[35, 13], .eof⟩ 3 = some (none, GoErr.eof, ⟨[], .eof⟩, 3)) := by
  decide +kernel

/-! ## 3. `read` never panics -/

/-- For ARBITRARY `strconv` parameters: with more fuel than leading skipped lines — in particular
with more fuel than bytes left — `read` returns (no panic: `line[0]` is only evaluated on a non-empty
line; no running out of fuel). -/
theorem go_bed_read_no_panic : GoSrc.bed_read_Found = true → GoSrc.parseLine_Found = true →
    ∀ (f : Bytes → Int × GoErr) (g : Bytes → Int → Int → Int × GoErr) (e : Ending) (rest : Bytes)
      (nf : Int) (fuel : Nat),
    (leadSkips (textLines e rest) < fuel → GoSrc.bed_read f g fuel ⟨rest, e⟩ nf ≠ none)
    ∧ (rest.length < fuel → GoSrc.bed_read f g fuel ⟨rest, e⟩ nf ≠ none) := by
  intro hF hP f g e rest nf fuel
  have h1 : leadSkips (textLines e rest) < fuel → GoSrc.bed_read f g fuel ⟨rest, e⟩ nf ≠ none := by
    intro h
    rw [bed_read_spec hF hP]
    have := readSpec_isSome (parseSpec (reqA f) (u8G g)) e rest fuel nf h
    intro h0; rw [h0] at this; cases this
  exact ⟨h1, fun h => h1 (by have := leadSkips_le e rest; omega)⟩

/-- arbitrary (even absurd) `strconv` functions: every integer "parses" as 1000 without error -/
example : allFound = false ∨ (
    GoSrc.bed_read (fun _ => (1000, GoErr.nil)) (fun _ _ _ => (1000, GoErr.nil)) 1
        ⟨[97, 9, 9, 9, 9, 9, 9, 9, 9, 120, 44, 121, 44, 122, 9, 9, 9], .eof⟩ 0
      = some (some (12, [97], 1000, 1000, [], 0, [], 0, 0, [232, 232, 232], 0, [], []), GoErr.nil, ⟨[], .eof⟩, 12)) := by
  decide +kernel

/-! ## 4. The translated reader is the model decoder -/

/-- Under `AtoiModel` and `PUModel`, for EVERY input `x` (CR LF, a missing final newline, comments,
blank lines, NUL bytes … included) and both endings: iterating the translated `read` as `Reader` does
gives exactly the items of the model decoder, with any fuel above `len(x)`. -/
theorem go_bed_decode : GoSrc.bed_read_Found = true → GoSrc.parseLine_Found = true →
    ∀ (f : Bytes → Int × GoErr) (g : Bytes → Int → Int → Int × GoErr), AtoiModel f → PUModel g →
    ∀ (x : Bytes) (e : Ending) (fuel : Nat), x.length < fuel →
    goBedDecode f g fuel x e = some (Bed.decodeSrc e x) := by
  intro hF hP f g hf hg x e fuel hfuel
  apply goBedDecode_eq hF hP f g fuel x e hfuel
  intro l _
  rw [parseSpec_of_models hf hg]

/-- a comment (CR LF), a blank line, a record (CR LF), a record with a fourth field: the record, then
the error for the wrong field count; the last line is never looked at -/
def exInput : Bytes :=
  [35, 99, 13, 10, 10, 97, 9, 49, 9, 50, 13, 10, 98, 9, 51, 9, 52, 9, 120, 10, 122, 9, 49, 9, 50, 10]

example : exInput.length < 30 := by decide +kernel
example : allFound = false ∨ (
    goBedDecode atoiP puP 30 exInput .eof = some (Bed.decode exInput)
    ∧ Bed.decode exInput = [Item.ok Bed.exA, Item.err]
    -- a failing source after the first record (cut inside the second): the record, then the read error
    ∧ goBedDecode atoiP puP 30 (exInput.take 15) .fail = some (Bed.decodeSrc .fail (exInput.take 15))
    ∧ Bed.decodeSrc .fail (exInput.take 15) = [Item.ok Bed.exA, Item.err]
    -- a clean end without a final newline: the last line counts
    ∧ goBedDecode atoiP puP 30 [97, 9, 49, 9, 50] .eof = some [Item.ok Bed.exA]) := by
  decide +kernel

/-! ## 5. Write, then read: the source-level round trip of C04 -/

/-- The translated `Write` of every record of `bs` (well-formed with `N` fields: `Bed.WF` of
`Bio.Lemmas.Bed`) on a large enough writer, then the translated reader on what was written: exactly the
records, restricted to their first `N` fields.  Only `AtoiModel` and the WEAK `PUCanon` are assumed
about the `strconv` functions. -/
theorem go_bed_roundtrip : GoSrc.bed_Write_Found = true → GoSrc.bed_read_Found = true →
    GoSrc.parseLine_Found = true →
    ∀ (f : Bytes → Int × GoErr) (g : Bytes → Int → Int → Int × GoErr), AtoiModel f → PUCanon g →
    ∀ (N : Nat) (bs : List Bed.Bed), (∀ b ∈ bs, Bed.WF N b) →
    ∀ (k fuel : Nat), (bedEncodeAll bs).length ≤ k → (bedEncodeAll bs).length < fuel →
    ∃ w', bedWriteAll bs ⟨k, []⟩ = some (GoErr.nil, w')
      ∧ goBedDecode f g fuel w'.out .eof = some (bs.map fun b => Item.ok (Bed.truncate N b)) := by
  intro hW hF hP f g hf hg N bs h k fuel hk hfuel
  refine ⟨_, bedWriteAll_ok hW bs (fun b hb => (h b hb).n_range) k [] hk, ?_⟩
  simp only [List.nil_append]
  by_cases hbs : bs = []
  · subst hbs
    have : goBedDecode f g fuel (bedEncodeAll []) .eof = some (Bed.decodeSrc .eof (bedEncodeAll [])) :=
      goBedDecode_eq hF hP f g fuel _ .eof hfuel (by intro l hl; simp [bedEncodeAll, textLines, scanLines] at hl)
    rw [this]; rfl
  · have h3 : 3 ≤ N := by
      obtain ⟨b, hb⟩ := List.exists_mem_of_ne_nil bs hbs
      exact (h b hb).1
    have henc : bedEncodeAll bs = (bs.map fun b => joinWith TAB ((Bed.allFields b).take N) ++ [10]).flatten := by
      unfold bedEncodeAll
      congr 1
      apply List.map_congr_left
      intro b hb
      obtain ⟨h3, h12, hbn, _⟩ := h b hb
      simp [Bed.encode, Bed.encodeLine_eq b N hbn h3 h12, LF]
    rw [henc] at hfuel ⊢
    rw [goBedDecode_written hF hP f g hf hg N h3 bs (fun b hb => (h b hb).textOK_allFields) fuel hfuel, ← henc]
    exact congrArg some (Bed.file_roundtrip_encode N bs h)

/-- Non-vacuity: the flags; records in the domain of C04 (12 fields with two blocks, odd bytes and
extreme integers; 3 fields; 11 fields); room and fuel. -/
example : allFound = false ∨ (allFound = true
    ∧ (∀ b ∈ [Bed.ex12, { Bed.ex12 with name := [], blockCount := 0, blockSizes := [], blockStarts := [] }],
        Bed.WF 12 b)
    ∧ Bed.WF 3 Bed.ex3 ∧ Bed.WF 11 Bed.ex11) := by decide +kernel
example : (bedEncodeAll [Bed.ex12, { Bed.ex12 with name := [], blockCount := 0, blockSizes := [], blockStarts := [] }]).length
    ≤ 200 ∧
    (bedEncodeAll [Bed.ex12, { Bed.ex12 with name := [], blockCount := 0, blockSizes := [], blockStarts := [] }]).length
    < 201 := by decide +kernel
/-- the 12-field record with two blocks (`"a"\0\xFF# ` as name, maxInt64, minInt64, `255,0,7`,
`10,-20`, `0,300`) through the translated `Write`, then through the translated reader -/
example : allFound = false ∨ (
    ((bedWriteAll [Bed.ex12] ⟨100, []⟩).bind fun p => goBedDecode atoiP puP 100 p.2.out .eof)
      = some [Item.ok Bed.ex12]
    ∧ ((bedWriteAll [Bed.ex3, Bed.ex3] ⟨100, []⟩).bind fun p => goBedDecode atoiP puP 100 p.2.out .eof)
      = some [Item.ok (Bed.truncate 3 Bed.ex3), Item.ok (Bed.truncate 3 Bed.ex3)]
    ∧ ((bedWriteAll [Bed.ex11] ⟨100, []⟩).bind fun p => goBedDecode atoiP puP 100 p.2.out .eof)
      = some [Item.ok (Bed.truncate 11 Bed.ex11)]) := by
  decide +kernel

end Bio.Props.C04ReadGo

/-
  C03 for the Go SOURCE TEXT, the tag writer: `tagToText` (a type switch over the `any` value, here a
  match on the model's sum type `Sam.TagVal`) and `tagsToText` (a range over the tag map followed by
  `sort.Strings`) of formats/sam/tags.go, translated on every run into `Bio.Generated.GoSrc`, are
  the model's `Sam.tagToText` / `Sam.tagsToText` — for every list that represents the map (= every
  iteration order Go may choose), provided `FormatFloat(v, 'e', -1, 64)` prints the canonical token
  the model holds (`FFModel`).  This is the value that `sam_Write` takes as its parameter
  `s_TagTexts` (`Props/C03Go`), so with it the write side of C03 is closed on the source text.
  `strconv.Itoa` and `hex.EncodeToString` are read as the model's `itoa` / `hexEnc` (trusted base).
-/
import Bio.Props.C03Go
namespace Bio.Props.C03TagsGo
open Bio Bio.GoRt Bio.Generated

def allFound : Bool := GoSrc.tagToText_Found && GoSrc.tagsToText_Found

/-- `FormatFloat` on the canonical token of a float is that token. -/
def FFModel (ff : Bytes → UInt8 → Int → Int → Bytes) : Prop := ∀ t, ff t 101 (-1) 64 = t

theorem go_tagToText : GoSrc.tagToText_Found = true →
    ∀ ff, FFModel ff → ∀ (name : Bytes) (v : Sam.TagVal),
      GoSrc.tagToText ff name v = some (Sam.tagToText name v) := by
  intro hF ff hff name v
  first
  | exact absurd hF (by decide)
  | (unfold GoSrc.tagToText Sam.tagToText
     cases v <;> simp [hff _, Sam.COLON])

/-- never panics, whatever `FormatFloat` returns -/
theorem go_tagToText_no_panic : GoSrc.tagToText_Found = true →
    ∀ ff (name : Bytes) (v : Sam.TagVal), GoSrc.tagToText ff name v ≠ none := by
  intro hF ff name v
  first
  | exact absurd hF (by decide)
  | (unfold GoSrc.tagToText
     cases v <;> simp)

theorem tagsLoop (ff : Bytes → UInt8 → Int → Int → Bytes) (hF : GoSrc.tagToText_Found = true) (hff : FFModel ff)
    (tags : List (Bytes × Sam.TagVal)) (acc : List Bytes) :
    forIn tags acc (fun (p : Bytes × Sam.TagVal) (r : List Bytes) =>
        (GoSrc.tagToText ff p.1 p.2).bind fun t => some (ForInStep.yield (r ++ [t])))
      = some (acc ++ tags.map fun p => Sam.tagToText p.1 p.2) := by
  simp only [go_tagToText hF ff hff, Option.bind_some]
  exact forIn_append_map (fun p : Bytes × Sam.TagVal => Sam.tagToText p.1 p.2) tags acc

/-- For EVERY list representing the tag map: the sorted `NAME:T:VALUE` texts of the model. -/
theorem go_tagsToText : GoSrc.tagsToText_Found = true → GoSrc.tagToText_Found = true →
    ∀ ff, FFModel ff → ∀ tags : List (Bytes × Sam.TagVal),
      GoSrc.tagsToText ff tags = some (Sam.tagsToText tags) := by
  intro hS hF ff hff tags
  first
  | exact absurd hS (by decide)
  | (unfold GoSrc.tagsToText Sam.tagsToText
     have := tagsLoop ff hF hff tags []
     simp only [List.nil_append] at this
     simp [this] )

example : allFound = false ∨
    (GoSrc.tagsToText (fun t _ _ _ => t) [([90, 90], .Z [97, 58, 98]), ([78, 77], .I (-3)), ([88, 65], .A 99), ([88, 72], .H [1, 255]), ([88, 70], .F [49, 101, 43, 48, 48])]
      = some [[78, 77, 58, 105, 58, 45, 51], [88, 65, 58, 65, 58, 99], [88, 70, 58, 102, 58, 49, 101, 43, 48, 48],
              [88, 72, 58, 72, 58, 48, 49, 102, 102], [90, 90, 58, 90, 58, 97, 58, 98]]) := by decide +kernel

example : FFModel (fun t _ _ _ => t) := fun _ => rfl

end Bio.Props.C03TagsGo

/-
  C07 (failing writers), and the writer half of C01 / C02, for the Go SOURCE TEXT of the `Write`
  methods: `(*Fasta).Write` of formats/fasta/fasta.go and `(*Fastq).Write` of formats/fastq/fastq.go,
  as translated on every run into `Bio.Generated.GoSrc.fasta_Write` / `fastq_Write` over the abstract
  writer `Bio.GoRt.Wr` (`room` = bytes it still accepts, `out` = bytes accepted so far; one
  `fmt.Fprintf` = one `wrWrite`).  For every record and every number `k` of bytes the destination
  accepts before it starts failing:

  * the translated `Write` IS the model's writer `runWriter k (writeCalls …)` of `Bio.Props.C07`:
    the `Write` calls of the model, in order, stopping at the first error;
  * it returns an error iff `k < len(text)`, the bytes accepted are the first `k` bytes of the text,
    and with enough room the output is exactly `Fasta.encode 80 r` / `Fastq.encode r`;
  * writing records into a large enough writer and reading the output back with the translated
    readers (`C01Go.goDecode`, `C02Go.goDecode`) returns the records.

  Guarded by the translator's `<f>_Found` flags (see `Bio.Lemmas.GoSrc`).
-/
import Bio.Lemmas.GoSrcIterWrite
import Bio.Props.C01Go
import Bio.Props.C02Go
import Bio.Props.C07
namespace Bio.Props.C07Go
open Bio Bio.GoRt Bio.Generated Bio.GoSrcLemmas

/-- every translator flag this file depends on; the non-vacuity examples below are stated as
`allFound = false ∨ …` so that a source the translator no longer recognises is not an alarm -/
def allFound : Bool :=
  GoSrc.fasta_Write_Found && GoSrc.fastq_Write_Found && GoSrc.fasta_read_Found && GoSrc.fastq_read_Found

/-! ## The translated `Write` is the model's sequence of `Write` calls -/

/-- FASTA: on ANY writer, the header call and one call per 80-byte line (`Fasta.writeCalls 80`), in
order, stopping at the first error (`wrWriteAll`); never a panic (the slice bounds are in range). -/
theorem go_fasta_write_calls : GoSrc.fasta_Write_Found = true → ∀ (r : Fasta.Fa) (w : Wr),
    GoSrc.fasta_Write r.name r.seq w
      = some ((wrWriteAll w (Fasta.writeCalls 80 r)).2, (wrWriteAll w (Fasta.writeCalls 80 r)).1) :=
  fun hF r w => fasta_Write_eq hF r.name r.seq w

/-- FASTQ: a single call with the whole text. -/
theorem go_fastq_write_calls : GoSrc.fastq_Write_Found = true → ∀ (r : Fastq.Fq) (w : Wr),
    GoSrc.fastq_Write r.name r.seq r.quals w
      = some ((wrWrite w (Fastq.encode r)).2, (wrWrite w (Fastq.encode r)).1) :=
  fun hF r w => fastq_Write_eq hF r.name r.seq r.quals w

/-- `wrWriteAll` on a fresh writer with room `k` is `runWriter k` of `Bio.Props.C07`: the same
bytes, an error iff `runWriter` reports one, and the room left (`0` after a failure). -/
theorem go_wrWriteAll_runWriter (k : Nat) (calls : List Bytes) :
    wrWriteAll ⟨k, []⟩ calls
      = (⟨k - (runWriter k calls).1.length, (runWriter k calls).1⟩,
         if (runWriter k calls).2 then GoErr.nil else GoErr.other) :=
  wrWriteAll_runWriter k calls

example : wrWriteAll ⟨3, []⟩ [[1, 2], [], [3, 4, 5], [6]] = (⟨0, [1, 2, 3]⟩, GoErr.other) := by decide +kernel
example : wrWriteAll ⟨7, [9]⟩ [[1, 2], [], [3, 4, 5]] = (⟨2, [9, 1, 2, 3, 4, 5]⟩, GoErr.nil) := by decide +kernel

/-- The translated FASTA `Write` on a writer that accepts `k` bytes is C07's `runWriter k` on the
model's calls at width 80. -/
theorem go_fasta_write_runWriter : GoSrc.fasta_Write_Found = true → ∀ (r : Fasta.Fa) (k : Nat),
    GoSrc.fasta_Write r.name r.seq ⟨k, []⟩
      = some (if (runWriter k (Fasta.writeCalls 80 r)).2 then GoErr.nil else GoErr.other,
          ⟨k - (runWriter k (Fasta.writeCalls 80 r)).1.length, (runWriter k (Fasta.writeCalls 80 r)).1⟩) := by
  intro hF r k
  rw [fasta_Write_eq hF, wrWriteAll_runWriter]

theorem go_fastq_write_runWriter : GoSrc.fastq_Write_Found = true → ∀ (r : Fastq.Fq) (k : Nat),
    GoSrc.fastq_Write r.name r.seq r.quals ⟨k, []⟩
      = some (if (runWriter k [Fastq.encode r]).2 then GoErr.nil else GoErr.other,
          ⟨k - (runWriter k [Fastq.encode r]).1.length, (runWriter k [Fastq.encode r]).1⟩) := by
  intro hF r k
  rw [fastq_Write_eq hF, ← wrWriteAll_singleton, wrWriteAll_runWriter]

/-! ## C07: the destination starts failing after `k` bytes -/

/-- FASTA: an error iff `k < len(text)`; the bytes accepted are the first `k` bytes of the text. -/
theorem go_fasta_write_fault : GoSrc.fasta_Write_Found = true → ∀ (r : Fasta.Fa) (k : Nat),
    ∃ err w', GoSrc.fasta_Write r.name r.seq ⟨k, []⟩ = some (err, w')
      ∧ (err ≠ GoErr.nil ↔ k < (Fasta.encode 80 r).length)
      ∧ w'.out = (Fasta.encode 80 r).take k := by
  intro hF r k
  refine ⟨_, _, fasta_Write_fault hF r.name r.seq k [], ?_, by simp⟩
  by_cases h : (Fasta.encode 80 r).length ≤ k
  · simp only [h, if_true]; constructor
    · intro h'; exact absurd rfl h'
    · intro h'; omega
  · simp only [h, if_false]; constructor
    · intro _; omega
    · intro _ h'; cases h'

/-- FASTQ: the same. -/
theorem go_fastq_write_fault : GoSrc.fastq_Write_Found = true → ∀ (r : Fastq.Fq) (k : Nat),
    ∃ err w', GoSrc.fastq_Write r.name r.seq r.quals ⟨k, []⟩ = some (err, w')
      ∧ (err ≠ GoErr.nil ↔ k < (Fastq.encode r).length)
      ∧ w'.out = (Fastq.encode r).take k := by
  intro hF r k
  refine ⟨_, _, fastq_Write_fault hF r.name r.seq r.quals k [], ?_, by simp⟩
  by_cases h : (Fastq.encode r).length ≤ k
  · simp only [h, if_true]; constructor
    · intro h'; exact absurd rfl h'
    · intro h'; omega
  · simp only [h, if_false]; constructor
    · intro _; omega
    · intro _ h'; cases h'

/-- The exact result, on a writer that has already accepted `o`: the error value, the room left and
the bytes accepted. -/
theorem go_fasta_write_exact : GoSrc.fasta_Write_Found = true → ∀ (r : Fasta.Fa) (k : Nat) (o : Bytes),
    GoSrc.fasta_Write r.name r.seq ⟨k, o⟩
      = some (if (Fasta.encode 80 r).length ≤ k then GoErr.nil else GoErr.other,
          ⟨k - ((Fasta.encode 80 r).take k).length, o ++ (Fasta.encode 80 r).take k⟩) :=
  fun hF r k o => fasta_Write_fault hF r.name r.seq k o

theorem go_fastq_write_exact : GoSrc.fastq_Write_Found = true → ∀ (r : Fastq.Fq) (k : Nat) (o : Bytes),
    GoSrc.fastq_Write r.name r.seq r.quals ⟨k, o⟩
      = some (if (Fastq.encode r).length ≤ k then GoErr.nil else GoErr.other,
          ⟨k - ((Fastq.encode r).take k).length, o ++ (Fastq.encode r).take k⟩) :=
  fun hF r k o => fastq_Write_fault hF r.name r.seq r.quals k o

example : allFound = false ∨ (GoSrc.fasta_Write_Found = true ∧ GoSrc.fastq_Write_Found = true) := by decide
-- the line width in the source text is the one observed on the running code
example : allFound = false ∨ Generated.fastaLineLen = 80 := by decide
-- ">ab\nACGT\n" into a writer with room for 5 bytes: the header call fits, the sequence line is cut;
-- into one with room for 2: the header call is cut and no further call is made
example : allFound = false ∨ (
    GoSrc.fasta_Write [97, 98] [65, 67, 71, 84] ⟨5, []⟩ = some (GoErr.other, ⟨0, [62, 97, 98, 10, 65]⟩)
    ∧ GoSrc.fasta_Write [97, 98] [65, 67, 71, 84] ⟨2, []⟩ = some (GoErr.other, ⟨0, [62, 97]⟩)
    ∧ GoSrc.fasta_Write [97, 98] [65, 67, 71, 84] ⟨9, [7]⟩
        = some (GoErr.nil, ⟨0, [7, 62, 97, 98, 10, 65, 67, 71, 84, 10]⟩)
    ∧ GoSrc.fasta_Write [97] [] ⟨9, []⟩ = some (GoErr.nil, ⟨6, [62, 97, 10]⟩)) := by decide +kernel
example : allFound = false ∨ (
    GoSrc.fastq_Write [114] [65, 67] [73, 73] ⟨4, []⟩ = some (GoErr.other, ⟨0, [64, 114, 10, 65]⟩)
    ∧ GoSrc.fastq_Write [114] [65, 67] [73, 73] ⟨20, []⟩
        = some (GoErr.nil, ⟨9, [64, 114, 10, 65, 67, 10, 43, 10, 73, 73, 10]⟩)) := by decide +kernel

/-! ## With enough room: the text, and the round trip through the translated readers -/

/-- FASTA: with enough room the output is exactly `Fasta.encode 80 r`, and no error. -/
theorem go_fasta_write_bytes : GoSrc.fasta_Write_Found = true → ∀ (r : Fasta.Fa) (k : Nat) (o : Bytes),
    (Fasta.encode 80 r).length ≤ k →
    GoSrc.fasta_Write r.name r.seq ⟨k, o⟩
      = some (GoErr.nil, ⟨k - (Fasta.encode 80 r).length, o ++ Fasta.encode 80 r⟩) := by
  intro hF r k o h
  rw [fasta_Write_fault hF r.name r.seq k o]
  simp only [h, if_true, List.take_of_length_le h]

theorem go_fastq_write_bytes : GoSrc.fastq_Write_Found = true → ∀ (r : Fastq.Fq) (k : Nat) (o : Bytes),
    (Fastq.encode r).length ≤ k →
    GoSrc.fastq_Write r.name r.seq r.quals ⟨k, o⟩
      = some (GoErr.nil, ⟨k - (Fastq.encode r).length, o ++ Fastq.encode r⟩) := by
  intro hF r k o h
  rw [fastq_Write_fault hF r.name r.seq r.quals k o]
  simp only [h, if_true, List.take_of_length_le h]

/-- Writing records one after the other (`fastaWriteAll`: `r.Write(w)` for each record, stop at the
first error) into a writer with enough room gives `Fasta.encodeAll 80 rs`. -/
theorem go_fasta_write_all : GoSrc.fasta_Write_Found = true → ∀ (rs : List Fasta.Fa) (k : Nat) (o : Bytes),
    (Fasta.encodeAll 80 rs).length ≤ k →
    fastaWriteAll rs ⟨k, o⟩
      = some (GoErr.nil, ⟨k - (Fasta.encodeAll 80 rs).length, o ++ Fasta.encodeAll 80 rs⟩) :=
  fun hF rs k o h => writeAll_ok _ (Fasta.encode 80) fastaWriteAll (fun _ => rfl)
    (fun r rs w w' h => by rw [fastaWriteAll, h]) (fun r k o => fasta_Write_fault hF r.name r.seq k o) rs k o h

theorem go_fastq_write_all : GoSrc.fastq_Write_Found = true → ∀ (rs : List Fastq.Fq) (k : Nat) (o : Bytes),
    (Fastq.encodeAll rs).length ≤ k →
    fastqWriteAll rs ⟨k, o⟩
      = some (GoErr.nil, ⟨k - (Fastq.encodeAll rs).length, o ++ Fastq.encodeAll rs⟩) :=
  fun hF rs k o h => writeAll_ok _ Fastq.encode fastqWriteAll (fun _ => rfl)
    (fun r rs w w' h => by rw [fastqWriteAll, h]) (fun r k o => fastq_Write_fault hF r.name r.seq r.quals k o) rs k o h

/-- C01 at source level, both halves translated: the translated `Write` of every record into a large
enough writer, then the translated `read` iterated over the output, returns the records. -/
theorem go_fasta_write_read : GoSrc.fasta_Write_Found = true → GoSrc.fasta_read_Found = true →
    ∀ (rs : List Fasta.Fa), (∀ r ∈ rs, Fasta.WF r) → ∀ (k : Nat), (Fasta.encodeAll 80 rs).length ≤ k →
      ∃ w', fastaWriteAll rs ⟨k, []⟩ = some (GoErr.nil, w')
        ∧ C01Go.goDecode (w'.out.length + 1) .eof w'.out = rs.map Item.ok := by
  intro hW hR rs h k hk
  refine ⟨_, go_fasta_write_all hW rs k [] hk, ?_⟩
  simp only [List.nil_append]
  exact C01Go.go_roundtrip hR 80 (by decide) rs h

/-- C02 at source level, both halves translated. -/
theorem go_fastq_write_read : GoSrc.fastq_Write_Found = true → GoSrc.fastq_read_Found = true →
    ∀ (rs : List Fastq.Fq), (∀ r ∈ rs, Fastq.WF r) → ∀ (k : Nat), (Fastq.encodeAll rs).length ≤ k →
      ∃ w', fastqWriteAll rs ⟨k, []⟩ = some (GoErr.nil, w')
        ∧ C02Go.goDecode ((scanLines w'.out).length + 1) .eof (scanLines w'.out) = rs.map Item.ok := by
  intro hW hR rs h k hk
  refine ⟨_, go_fastq_write_all hW rs k [] hk, ?_⟩
  simp only [List.nil_append]
  exact C02Go.go_roundtrip hR rs h

/-- Non-vacuity: the flags, records in the domains of C01 / C02 (a 7-byte sequence, an empty
record, odd bytes), and a writer large enough for them. -/
example : allFound = false ∨ (allFound = true ∧
    (∀ r ∈ ([⟨[115, 32, 49], [65, 67, 71, 84, 65, 67, 71]⟩, ⟨[], []⟩, ⟨[62, 64], [255, 0, 43]⟩] : List Fasta.Fa),
      Fasta.WF r)
    ∧ (∀ r ∈ ([⟨[114, 32, 49], [65, 67, 71, 84], [43, 64, 73, 73]⟩, ⟨[], [], []⟩] : List Fastq.Fq), Fastq.WF r)) := by
  decide
example : (Fasta.encodeAll 80 [⟨[115, 32, 49], [65, 67, 71, 84, 65, 67, 71]⟩, ⟨[], []⟩]).length ≤ 40 := by
  simp [Fasta.encodeAll, Fasta.encode, Fasta.writeCalls, Fasta.wrap]
example : (Fastq.encodeAll [⟨[114, 32, 49], [65, 67, 71, 84], [43, 64, 73, 73]⟩, ⟨[], [], []⟩]).length ≤ 40 := by
  decide
-- two records through the translated `Write`, a sequence longer than one line (85 bytes: 80 + 5)
example : allFound = false ∨ (
    fastaWriteAll [⟨[97], [65, 67]⟩, ⟨[], [71]⟩] ⟨20, []⟩
      = some (GoErr.nil, ⟨10, [62, 97, 10, 65, 67, 10, 62, 10, 71, 10]⟩)
    ∧ fastaWriteAll [⟨[97], [65, 67]⟩, ⟨[], [71]⟩] ⟨7, []⟩
      = some (GoErr.other, ⟨0, [62, 97, 10, 65, 67, 10, 62]⟩)
    ∧ (GoSrc.fasta_Write [97] (List.replicate 85 65) ⟨100, []⟩).map (fun p => (p.1, p.2.room, p.2.out.length))
      = some (GoErr.nil, 10, 90)
    ∧ (GoSrc.fasta_Write [97] (List.replicate 85 65) ⟨100, []⟩).map (fun p => p.2.out.drop 82)
      = some [65, 10, 65, 65, 65, 65, 65, 10]) := by decide +kernel

end Bio.Props.C07Go

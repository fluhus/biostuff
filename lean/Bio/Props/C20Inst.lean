/-
  C20 for the byte-quoting table regenerated from /repo (`%q` of each byte as
  GoString prints it, `Gap` for 255): 256 entries, none empty or containing a
  line feed, pairwise distinct.  (That each text is the Go rune literal of
  its byte is checked on the real output with go/parser by the harness.)
-/
import Bio.Generated.Tables
import Bio.Lemmas.Distinct
namespace Bio.Matrix

/-- A byte string read as digits in base 256 behind a leading 1. -/
def quoteKey (q : Bytes) : Nat := q.foldl (fun n b => n * 256 + b.toNat) 1

theorem generated_quoteTable_ok :
    Generated.quoteTable.length = 256 ∧ Generated.quoteTable.Nodup ∧
    Generated.quoteTable.all (fun q => !q.isEmpty && !q.contains 10) = true :=
  have h : Generated.quoteTable.length = 256 ∧
      Distinct.distinctNat (Generated.quoteTable.map quoteKey) = true ∧
      Generated.quoteTable.all (fun q => !q.isEmpty && !q.contains 10) = true := by decide +kernel
  ⟨h.1, Distinct.nodup_of_distinctNat quoteKey _ h.2.1, h.2.2⟩

/-- The Gap symbol prints as the identifier `Gap`. -/
theorem generated_quote_gap : Generated.quoteTable[255]? = some [71, 97, 112] := by decide +kernel

end Bio.Matrix

/-
  C18 for the READERS — early stop of the range-over-func iterators of the
  five format readers.  `Bio/Model/IterReaders.lean` transcribes the Go
  closures with the consumer callback `f` as a parameter; an iterator is
  observed through the log of its calls to `f`.  Proved here, for all inputs,
  all endings of the byte source and ALL consumers:

    log with consumer f  =  takeThrough (fun it => !f it) (items of an uninterrupted run)

  i.e. after the first `false` no further call is made, and what was seen are
  the leading items of the uninterrupted run — which is the item list of the
  format's decoder model (`X.decodeSrc`).  `Reader`/`File` wrappers add no call
  and lose none; the SAM `Reader` wrapper drops the header items without a call.
-/
import Bio.Lemmas.IterReaders
import Bio.Props.C18
import Bio.Props.C01
import Bio.Props.C02
import Bio.Props.C04
import Bio.Props.C05

namespace Bio.Iter

/-! ## 1. Consequences of the take-through law, for any iterator -/

/-- Every call but the last was answered `true`: once the consumer answers
`false` the iterator is silent. -/
theorem stop_then_silent {α : Type} (it : Seq α) (L : List α) (h : TakeThroughLaw it L)
    (f : α → Bool) : ∀ x ∈ (it f).dropLast, f x = true := by
  rw [h f]; exact consumer_true_before_last f L

/-- Index form: a call answered `false` is the last call. -/
theorem declined_is_last {α : Type} (it : Seq α) (L : List α) (h : TakeThroughLaw it L)
    (f : α → Bool) (i : Nat) (x : α) (hx : (it f)[i]? = some x) (hf : f x = false) :
    i + 1 = (it f).length :=
  GoSrcLemmas.declined_is_last f _ (stop_then_silent it L h f) i x hx hf

/-- What was seen are leading items of the uninterrupted run. -/
theorem log_prefix {α : Type} (it : Seq α) (L : List α) (h : TakeThroughLaw it L)
    (f : α → Bool) : it f <+: L := by
  rw [h f]; exact takeThrough_prefix _ L

/-- A consumer that never stops sees the whole run. -/
theorem log_all {α : Type} (it : Seq α) (L : List α) (h : TakeThroughLaw it L) :
    it (fun _ => true) = L := by
  rw [h]; exact takeThrough_false L

/-- If the consumer declines some item of the run, the log is non-empty and ends
with a declined item. -/
theorem log_ends_declined {α : Type} (it : Seq α) (L : List α) (h : TakeThroughLaw it L)
    (f : α → Bool) (hex : ∃ x ∈ L, f x = false) :
    ∃ y, (it f).getLast? = some y ∧ f y = false := by
  rw [h f]
  obtain ⟨x, hx, hfx⟩ := hex
  obtain ⟨y, hy, hpy⟩ := takeThrough_last_stops (fun x => !f x) L ⟨x, hx, by simp [hfx]⟩
  exact ⟨y, hy, by simpa using hpy⟩

example : ∃ x ∈ [1, 2, 3], (fun n : Nat => n != 2) x = false := by decide

/-- In the log of any early-stopping run of an iterator whose uninterrupted run has
its errors last, an error is the last call. -/
theorem err_last_any_consumer {ρ : Type} (it : Seq (Item ρ)) (L : List (Item ρ))
    (h : TakeThroughLaw it L)
    (hL : ∀ i, L[i]? = some Item.err → i + 1 = L.length)
    (f : Item ρ → Bool) (i : Nat) (hi : (it f)[i]? = some Item.err) :
    i + 1 = (it f).length := by
  obtain ⟨t, ht⟩ := log_prefix it L h f
  have hlt : i < (it f).length := (List.getElem?_eq_some_iff.1 hi).1
  have := hL i (by rw [← ht, List.getElem?_append_left hlt]; exact hi)
  rw [← ht, List.length_append] at this
  omega

/-! ## 2. The readers log `takeThrough` of the decoder's item list -/

/-- fasta `newReader(r).iter()`. -/
theorem fastaIter_log (e : Ending) (x : Bytes) (f : Item Fasta.Fa → Bool) :
    fastaIter e x f = takeThrough (fun it => !f it) (Fasta.decodeSrc e x) :=
  fastaIter_law e x f

/-- `fasta.Reader`. -/
theorem readerFasta_log (e : Ending) (x : Bytes) (f : Item Fasta.Fa → Bool) :
    fastaReader e x f = takeThrough (fun it => !f it) (Fasta.decodeSrc e x) := by
  rw [fastaReader, wrap_eq]; exact fastaIter_law e x f

theorem readerFasta_all (e : Ending) (x : Bytes) :
    fastaReader e x (fun _ => true) = Fasta.decodeSrc e x :=
  log_all _ _ (readerFasta_log e x)

/-- fastq `newReader(r).iter()`. -/
theorem fastqIter_log (e : Ending) (x : Bytes) (f : Item Fastq.Fq → Bool) :
    fastqIter e x f = takeThrough (fun it => !f it) (Fastq.decodeSrc e x) :=
  fastqIter_law e x f

/-- `fastq.Reader`. -/
theorem readerFastq_log (e : Ending) (x : Bytes) (f : Item Fastq.Fq → Bool) :
    fastqReader e x f = takeThrough (fun it => !f it) (Fastq.decodeSrc e x) := by
  rw [fastqReader, wrap_eq]; exact fastqIter_law e x f

theorem readerFastq_all (e : Ending) (x : Bytes) :
    fastqReader e x (fun _ => true) = Fastq.decodeSrc e x :=
  log_all _ _ (readerFastq_log e x)

/-- `bed.Reader`. -/
theorem readerBed_log (e : Ending) (x : Bytes) (f : Item Bed.Bed → Bool) :
    bedReader e x f = takeThrough (fun it => !f it) (Bed.decodeSrc e x) :=
  bedReader_law e x f

theorem readerBed_all (e : Ending) (x : Bytes) :
    bedReader e x (fun _ => true) = Bed.decodeSrc e x :=
  log_all _ _ (bedReader_law e x)

/-- `newick.Reader`. -/
theorem readerNewick_log (pd : Bytes → Option Newick.Dist) (e : Ending) (x : Bytes)
    (f : Item Newick.Tree → Bool) :
    newickReader pd e x f = takeThrough (fun it => !f it) (Newick.decodeSrc pd e x) :=
  newickReader_law pd e x f

theorem readerNewick_all (pd : Bytes → Option Newick.Dist) (e : Ending) (x : Bytes) :
    newickReader pd e x (fun _ => true) = Newick.decodeSrc pd e x :=
  log_all _ _ (newickReader_law pd e x)

/-- The progress guard in `newickNext` (the one of `Newick.decodeSrc`) is dead:
one `read()` is `readTree`, nothing else. -/
theorem newickNext_eq (pd : Bytes → Option Newick.Dist) (e : Ending) (x : Bytes) :
    newickNext pd e x =
      match Newick.readTree pd e x with
      | .eof => .done
      | .err => .err
      | .tree t rest => .item t rest := by
  unfold newickNext
  cases h : Newick.readTree pd e x with
  | eof => rfl
  | err => rfl
  | tree t rest => simp only []; rw [if_pos (Newick.read_consumes pd e x t rest h)]

/-- `sam.ReaderHeader`: a line that does not parse is an ordinary item; only a
failed read ends the iteration. -/
theorem readerHeaderSam_log (pf : Bytes → Option Bytes) (e : Ending) (x : Bytes)
    (f : Item Sam.Entry → Bool) :
    samReaderHeader pf e x f = takeThrough (fun it => !f it) (Sam.decodeHeaderSrc pf e x) :=
  samReaderHeader_law pf e x f

theorem readerHeaderSam_all (pf : Bytes → Option Bytes) (e : Ending) (x : Bytes) :
    samReaderHeader pf e x (fun _ => true) = Sam.decodeHeaderSrc pf e x :=
  log_all _ _ (samReaderHeader_law pf e x)

/-- `sam.Reader`: the headers that `ReaderHeader` hands to the loop body are
passed over by `continue` — no callback for them, and no stop either. -/
theorem readerSam_log (pf : Bytes → Option Bytes) (e : Ending) (x : Bytes)
    (f : Item Sam.Sam → Bool) :
    samReader pf e x f = takeThrough (fun it => !f it) (Sam.decodeSrc pf e x) :=
  samReader_law pf e x f

theorem readerSam_all (pf : Bytes → Option Bytes) (e : Ending) (x : Bytes) :
    samReader pf e x (fun _ => true) = Sam.decodeSrc pf e x :=
  log_all _ _ (samReader_law pf e x)

/-! ## 3. The wrappers -/

/-- `for x, err := range inner { if !yield(x, err) { break } }` is `inner`:
the same calls, in the same order, for every consumer. -/
theorem wrap_transparent {α : Type} (inner : Seq α) : wrap inner = inner := wrap_eq inner

theorem wrap_log {α : Type} (inner : Seq α) (f : α → Bool) : wrap inner f = inner (fun x => f x) :=
  wrap_apply inner f

/-- `File` on an opened file is the `Reader` on it. -/
theorem file_opened {ρ : Type} (inner : Seq (Item ρ)) : file (some inner) = inner := file_some inner

/-- `File` on a path that cannot be opened: one error item whatever the consumer answers. -/
theorem file_unopened {ρ : Type} (f : Item ρ → Bool) :
    file (none : Option (Seq (Item ρ))) f = [.err] := file_none f

/-- A loop body that, per inner item, either `continue`s without a callback
(`g x = none`) or does `if !yield(y) { break }` (`g x = some y`), around an
inner iterator with the take-through law for `L`: take-through law for
`L.filterMap g`. -/
theorem wrapFilterMap_log {α β : Type} (g : α → Option β) (inner : Seq α) (L : List α)
    (h : TakeThroughLaw inner L) (f : β → Bool) :
    wrapFilterMap g inner f = takeThrough (fun y => !f y) (L.filterMap g) :=
  wrapFilterMap_law g inner L h f

example : TakeThroughLaw (fun f => takeThrough (fun x => !f x) [1, 2, 3, 4, 5, 6]) [1, 2, 3, 4, 5, 6] :=
  fun _ => rfl
-- keep the even numbers, halved; the consumer declines 2: the odd 5 after it is never looked at
example :
    wrapFilterMap (fun n : Nat => if n % 2 = 0 then some (n / 2) else none)
      (fun f => takeThrough (fun x => !f x) [1, 2, 3, 4, 5, 6]) (fun y => y != 2) = [1, 2] := by
  decide

/-- The SAM wrapper over ANY inner iterator with the take-through law. -/
theorem samWrap_log (inner : Seq (Item Sam.Entry)) (L : List (Item Sam.Entry))
    (h : TakeThroughLaw inner L) (f : Item Sam.Sam → Bool) :
    samWrap inner f = takeThrough (fun it => !f it) (Sam.dropHeaders L) :=
  samWrap_law inner L h f

/-- `sam.Reader` as the wrapper around `sam.ReaderHeader`. -/
theorem samReader_over_header (pf : Bytes → Option Bytes) (e : Ending) (x : Bytes)
    (f : Item Sam.Sam → Bool) :
    samWrap (samReaderHeader pf e x) f
      = takeThrough (fun it => !f it) (Sam.dropHeaders (Sam.decodeHeaderSrc pf e x)) :=
  samWrap_law _ _ (samReaderHeader_law pf e x) f

/-- The `File` functions of the five packages (`none` = the path cannot be opened). -/
theorem fileFasta_log (o : Option Input) (f : Item Fasta.Fa → Bool) :
    fastaFile o f = takeThrough (fun it => !f it)
      (match o with | none => [.err] | some i => Fasta.decodeSrc i.1 i.2) := by
  cases o <;> exact file_law _ _ (fun i : Input => readerFasta_log i.1 i.2) _ f

theorem fileFastq_log (o : Option Input) (f : Item Fastq.Fq → Bool) :
    fastqFile o f = takeThrough (fun it => !f it)
      (match o with | none => [.err] | some i => Fastq.decodeSrc i.1 i.2) := by
  cases o <;> exact file_law _ _ (fun i : Input => readerFastq_log i.1 i.2) _ f

theorem fileBed_log (o : Option Input) (f : Item Bed.Bed → Bool) :
    bedFile o f = takeThrough (fun it => !f it)
      (match o with | none => [.err] | some i => Bed.decodeSrc i.1 i.2) := by
  cases o <;> exact file_law _ _ (fun i : Input => bedReader_law i.1 i.2) _ f

theorem fileNewick_log (pd : Bytes → Option Newick.Dist) (o : Option Input)
    (f : Item Newick.Tree → Bool) :
    newickFile pd o f = takeThrough (fun it => !f it)
      (match o with | none => [.err] | some i => Newick.decodeSrc pd i.1 i.2) := by
  cases o <;> exact file_law _ _ (fun i : Input => newickReader_law pd i.1 i.2) _ f

theorem fileSam_log (pf : Bytes → Option Bytes) (o : Option Input) (f : Item Sam.Sam → Bool) :
    samFile pf o f = takeThrough (fun it => !f it)
      (match o with | none => [.err] | some i => Sam.decodeSrc pf i.1 i.2) := by
  cases o <;> exact file_law _ _ (fun i : Input => samReader_law pf i.1 i.2) _ f

theorem fileHeaderSam_log (pf : Bytes → Option Bytes) (o : Option Input)
    (f : Item Sam.Entry → Bool) :
    samFileHeader pf o f = takeThrough (fun it => !f it)
      (match o with | none => [.err] | some i => Sam.decodeHeaderSrc pf i.1 i.2) := by
  cases o <;> exact file_law _ _ (fun i : Input => samReaderHeader_law pf i.1 i.2) _ f

/-- The law holds for all the reader iterators (instances of the hypothesis of
the theorems of section 1). -/
theorem readers_lawful (pf : Bytes → Option Bytes) (pd : Bytes → Option Newick.Dist)
    (e : Ending) (x : Bytes) :
    TakeThroughLaw (fastaReader e x) (Fasta.decodeSrc e x) ∧
    TakeThroughLaw (fastqReader e x) (Fastq.decodeSrc e x) ∧
    TakeThroughLaw (samReaderHeader pf e x) (Sam.decodeHeaderSrc pf e x) ∧
    TakeThroughLaw (samReader pf e x) (Sam.decodeSrc pf e x) ∧
    TakeThroughLaw (bedReader e x) (Bed.decodeSrc e x) ∧
    TakeThroughLaw (newickReader pd e x) (Newick.decodeSrc pd e x) :=
  ⟨readerFasta_log e x, readerFastq_log e x, readerHeaderSam_log pf e x, readerSam_log pf e x,
   readerBed_log e x, readerNewick_log pd e x⟩

/-- Hypothesis-free instances of `stop_then_silent`. -/
theorem readerFasta_silent (e : Ending) (x : Bytes) (f : Item Fasta.Fa → Bool) :
    ∀ it ∈ (fastaReader e x f).dropLast, f it = true :=
  stop_then_silent _ _ (readerFasta_log e x) f

theorem readerFastq_silent (e : Ending) (x : Bytes) (f : Item Fastq.Fq → Bool) :
    ∀ it ∈ (fastqReader e x f).dropLast, f it = true :=
  stop_then_silent _ _ (readerFastq_log e x) f

theorem readerHeaderSam_silent (pf : Bytes → Option Bytes) (e : Ending) (x : Bytes)
    (f : Item Sam.Entry → Bool) : ∀ it ∈ (samReaderHeader pf e x f).dropLast, f it = true :=
  stop_then_silent _ _ (readerHeaderSam_log pf e x) f

theorem readerSam_silent (pf : Bytes → Option Bytes) (e : Ending) (x : Bytes)
    (f : Item Sam.Sam → Bool) : ∀ it ∈ (samReader pf e x f).dropLast, f it = true :=
  stop_then_silent _ _ (readerSam_log pf e x) f

theorem readerBed_silent (e : Ending) (x : Bytes) (f : Item Bed.Bed → Bool) :
    ∀ it ∈ (bedReader e x f).dropLast, f it = true :=
  stop_then_silent _ _ (readerBed_log e x) f

theorem readerNewick_silent (pd : Bytes → Option Newick.Dist) (e : Ending) (x : Bytes)
    (f : Item Newick.Tree → Bool) : ∀ it ∈ (newickReader pd e x f).dropLast, f it = true :=
  stop_then_silent _ _ (readerNewick_log pd e x) f

/-! ## 4. An error item is the last item (fasta, fastq, bed, newick) -/

/-- In an uninterrupted run an error item is the last item (C01/C02/C04/C05 through
`reader… (fun _ => true) = decodeSrc …`). -/
theorem readerFasta_err_last (e : Ending) (x : Bytes) (i : Nat)
    (h : (fastaReader e x (fun _ => true))[i]? = some Item.err) :
    i + 1 = (fastaReader e x (fun _ => true)).length := by
  rw [readerFasta_all] at h ⊢; exact Fasta.err_only_last e x i h

theorem readerFastq_err_last (e : Ending) (x : Bytes) (i : Nat)
    (h : (fastqReader e x (fun _ => true))[i]? = some Item.err) :
    i + 1 = (fastqReader e x (fun _ => true)).length := by
  rw [readerFastq_all] at h ⊢; exact Fastq.err_only_last e x i h

theorem readerBed_err_last (e : Ending) (x : Bytes) (i : Nat)
    (h : (bedReader e x (fun _ => true))[i]? = some Item.err) :
    i + 1 = (bedReader e x (fun _ => true)).length := by
  rw [readerBed_all] at h ⊢; exact Bed.err_only_last_idx e x i h

theorem readerNewick_err_last (pd : Bytes → Option Newick.Dist) (e : Ending) (x : Bytes) (i : Nat)
    (h : (newickReader pd e x (fun _ => true))[i]? = some Item.err) :
    i + 1 = (newickReader pd e x (fun _ => true)).length := by
  rw [readerNewick_all] at h ⊢; exact Newick.err_only_last pd e x i h

/-- The same for every consumer. -/
theorem readerFasta_err_last_any (e : Ending) (x : Bytes) (f : Item Fasta.Fa → Bool) (i : Nat)
    (h : (fastaReader e x f)[i]? = some Item.err) : i + 1 = (fastaReader e x f).length :=
  err_last_any_consumer _ _ (readerFasta_log e x) (Fasta.err_only_last e x) f i h

theorem readerFastq_err_last_any (e : Ending) (x : Bytes) (f : Item Fastq.Fq → Bool) (i : Nat)
    (h : (fastqReader e x f)[i]? = some Item.err) : i + 1 = (fastqReader e x f).length :=
  err_last_any_consumer _ _ (readerFastq_log e x) (Fastq.err_only_last e x) f i h

theorem readerBed_err_last_any (e : Ending) (x : Bytes) (f : Item Bed.Bed → Bool) (i : Nat)
    (h : (bedReader e x f)[i]? = some Item.err) : i + 1 = (bedReader e x f).length :=
  err_last_any_consumer _ _ (readerBed_log e x) (Bed.err_only_last_idx e x) f i h

theorem readerNewick_err_last_any (pd : Bytes → Option Newick.Dist) (e : Ending) (x : Bytes)
    (f : Item Newick.Tree → Bool) (i : Nat)
    (h : (newickReader pd e x f)[i]? = some Item.err) : i + 1 = (newickReader pd e x f).length :=
  err_last_any_consumer _ _ (readerNewick_log pd e x) (Newick.err_only_last pd e x) f i h

/-! ## 5. Concrete runs: three or more items, the consumer stops at the second -/

/-- ">a\nAC\n>b\nG\n>c\nT\n" -/
def exFasta : Bytes := [62, 97, 10, 65, 67, 10, 62, 98, 10, 71, 10, 62, 99, 10, 84, 10]

example : Fasta.decodeSrc .eof exFasta
    = [.ok ⟨[97], [65, 67]⟩, .ok ⟨[98], [71]⟩, .ok ⟨[99], [84]⟩] := by decide +kernel
example : fastaReader .eof exFasta (fun it => it != .ok ⟨[98], [71]⟩)
    = [.ok ⟨[97], [65, 67]⟩, .ok ⟨[98], [71]⟩] := by decide +kernel
example : fastaReader .eof exFasta (fun _ => false) = [.ok ⟨[97], [65, 67]⟩] := by decide +kernel
example : fastaReader .eof exFasta (fun _ => true) = Fasta.decodeSrc .eof exFasta := by
  decide +kernel
-- a failing source: the error is handed over although nobody asks the consumer afterwards
example : fastaReader .fail exFasta (fun _ => true)
    = [.ok ⟨[97], [65, 67]⟩, .ok ⟨[98], [71]⟩, .err] := by decide +kernel
example : fastaFile (some (.eof, exFasta)) (fun it => it != .ok ⟨[98], [71]⟩)
    = [.ok ⟨[97], [65, 67]⟩, .ok ⟨[98], [71]⟩] := by decide +kernel
example : fastaFile none (fun _ => true) = [.err] := by decide
-- an instance of the hypothesis of `readerFasta_err_last`
example : (fastaReader .fail exFasta (fun _ => true))[2]? = some Item.err := by decide +kernel
-- an instance of the hypothesis of `readerFasta_err_last_any` (a consumer that stops at the error)
example : (fastaReader .fail exFasta (fun it => it != .err))[2]? = some Item.err := by
  decide +kernel

/-- "@a\nAC\n+\nII\n@b\nG\n+\nI\n@c\nT\n+\nI\n" -/
def exFastq : Bytes :=
  [64, 97, 10, 65, 67, 10, 43, 10, 73, 73, 10, 64, 98, 10, 71, 10, 43, 10, 73, 10,
   64, 99, 10, 84, 10, 43, 10, 73, 10]

example : Fastq.decodeSrc .eof exFastq
    = [.ok ⟨[97], [65, 67], [73, 73]⟩, .ok ⟨[98], [71], [73]⟩, .ok ⟨[99], [84], [73]⟩] := by
  decide +kernel
example : fastqReader .eof exFastq (fun it => it != .ok ⟨[98], [71], [73]⟩)
    = [.ok ⟨[97], [65, 67], [73, 73]⟩, .ok ⟨[98], [71], [73]⟩] := by decide +kernel
example : (fastqReader .fail exFastq (fun _ => true))[3]? = some Item.err := by decide +kernel

/-- "a\t1\t2\n#c\nb\t3\t4\n\nc\t5\t6\n" — a comment and a blank line are skipped inside `read`. -/
def exBed : Bytes :=
  [97, 9, 49, 9, 50, 10, 35, 99, 10, 98, 9, 51, 9, 52, 10, 10, 99, 9, 53, 9, 54, 10]

def stopAtChromB : Item Bed.Bed → Bool
  | .ok b => b.chrom != [98]
  | .err => true

example : (Bed.decodeSrc .eof exBed).length = 3 := by decide +kernel
example : bedReader .eof exBed stopAtChromB = (Bed.decodeSrc .eof exBed).take 2 := by
  decide +kernel
example : (bedReader .eof exBed stopAtChromB).length = 2 := by decide +kernel
example : (bedReader .fail exBed (fun _ => true))[3]? = some Item.err := by decide +kernel

/-- "a;(b,c);d;" -/
def exNewick : Bytes := [97, 59, 40, 98, 44, 99, 41, 59, 100, 59]

def stopAtUnnamed : Item Newick.Tree → Bool
  | .ok t => t.name != []
  | .err => true

example : (Newick.decodeSrc Newick.pdEx .eof exNewick).length = 3 := by decide +kernel
example : newickReader Newick.pdEx .eof exNewick stopAtUnnamed
    = (Newick.decodeSrc Newick.pdEx .eof exNewick).take 2 := by decide +kernel
example : (newickReader Newick.pdEx .eof exNewick stopAtUnnamed).length = 2 := by decide +kernel
example : (newickReader Newick.pdEx .fail exNewick (fun _ => true))[3]? = some Item.err := by
  decide +kernel

/-- "@HD\nr1\t0\t*\t0\t0\t*\t*\t0\t0\t*\t*\n\nbad\nr2\t16\tc\t5\t9\t3M\t*\t0\t0\tACG\t*\n":
a header, a record, a blank line, a line that does not parse, a record. -/
def exSam : Bytes :=
  [64, 72, 68, 10, 114, 49, 9, 48, 9, 42, 9, 48, 9, 48, 9, 42, 9, 42, 9, 48, 9, 48, 9, 42, 9, 42,
   10, 10, 98, 97, 100, 10, 114, 50, 9, 49, 54, 9, 99, 9, 53, 9, 57, 9, 51, 77, 9, 42, 9, 48, 9,
   48, 9, 65, 67, 71, 9, 42, 10]

def exR1 : Sam.Sam := ⟨[114, 49], 0, [42], 0, 0, [42], [42], 0, 0, [42], [42], []⟩
def exR2 : Sam.Sam := ⟨[114, 50], 16, [99], 5, 9, [51, 77], [42], 0, 0, [65, 67, 71], [42], []⟩
def noFloat : Bytes → Option Bytes := fun _ => none

example : Sam.decodeHeaderSrc noFloat .eof exSam
    = [.ok (.hdr [64, 72, 68]), .ok (.sam exR1), .err, .ok (.sam exR2)] := by decide +kernel
-- the parse error is in the middle and the iteration goes on after it
example : samReaderHeader noFloat .eof exSam (fun _ => true)
    = [.ok (.hdr [64, 72, 68]), .ok (.sam exR1), .err, .ok (.sam exR2)] := by decide +kernel
-- stop at the second item
example : samReaderHeader noFloat .eof exSam (fun it => it != .ok (.sam exR1))
    = [.ok (.hdr [64, 72, 68]), .ok (.sam exR1)] := by decide +kernel
-- `Reader`: the header gives no callback; stop at the second item (the error)
example : samReader noFloat .eof exSam (fun _ => true) = [.ok exR1, .err, .ok exR2] := by
  decide +kernel
example : samReader noFloat .eof exSam (fun it => it != .err) = [.ok exR1, .err] := by
  decide +kernel
-- a consumer that declines the very first record never hears of anything else
example : samReader noFloat .eof exSam (fun _ => false) = [.ok exR1] := by decide +kernel
-- a failing source: the read error is one more item, the last
example : samReader noFloat .fail exSam (fun _ => true) = [.ok exR1, .err, .ok exR2, .err] := by
  decide +kernel
example : samFile noFloat none (fun _ => false) = [.err] := by decide
example : samFileHeader noFloat (some (.eof, exSam)) (fun it => it != .ok (.sam exR1))
    = [.ok (.hdr [64, 72, 68]), .ok (.sam exR1)] := by decide +kernel

end Bio.Iter

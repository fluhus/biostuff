/-
  C17 for the Go SOURCE TEXT: `Add` of mash/mash.go, as translated statement by statement on every
  run into `Bio.Generated.GoSrc.mash_Add`.  The external sketch object (`*minhash.MinHash[uint64]`) is
  an abstract state `σ` whose methods `Push`/`Sort` are PARAMETERS, so are the murmur3 hash
  (`hash seed bytes`, applied to the package variable `Seed`) and `bytes.ToUpper`; the iterator is
  the translated (and proved, C12Go) `CanonicalSubsequences`.  `none` = Go panics.

  For ARBITRARY parameters the result is `Sort` of pushing, in order, the hashes of the canonical
  k-mers of the `ToUpper`ed sequences (`kmersWith`); with the parameters of the hand-written model
  (`Mash.push n` on descending lists, `Sort = id`, `Mash.upper`, a hash with values `< 2^64`) it is
  `Mash.addTo`, so the C17 theorems hold at the source level.
  Guarded by the translator's `<f>_Found` flags (see `Bio.Lemmas.GoSrc`).
-/
import Bio.Lemmas.GoSrcMash
import Bio.Props.C17Inst
namespace Bio.Props.C17Go
open Bio Bio.Generated Bio.GoSrcLemmas

/-- every translator flag this file depends on; the non-vacuity examples below are stated as
`allFound = false ∨ …` so that a source the translator no longer recognises is not an alarm -/
def allFound : Bool := GoSrc.mash_Add_Found && GoSrc.CanonicalSubsequences_Found &&
  GoSrc.ReverseComplement_Found && GoSrc.complementByte_Found

/-! ### Example data for the non-vacuity checks -/

/-- A small concrete seeded 64-bit hash. -/
def exHash64 (seed : UInt32) (b : Bytes) : UInt64 :=
  b.foldl (fun acc x => (acc * 31 + x.toUInt64) % 101) seed.toUInt64

/-- A small concrete hash with `Nat` values (below 101). -/
def exH (b : Bytes) : Nat := (b.foldl (fun acc x => acc * 31 + x.toNat) 7) % 101

/-- A `Push` that makes the pushed order visible: append. -/
def exPush (s : List UInt64) (x : UInt64) : List UInt64 := s ++ [x]

/-- A sketch object with a "sorted" flag: `Push` adds to a sum and clears the flag, `Sort` sets it. -/
def flagPush (s : Nat × Bool) (x : UInt64) : Nat × Bool := (s.1 + x.toNat, false)
def flagSort (s : Nat × Bool) : Nat × Bool := (s.1, true)

example : allFound = false ∨ (GoSrc.mash_Add_Found = true ∧ GoSrc.CanonicalSubsequences_Found = true
    ∧ GoSrc.ReverseComplement_Found = true ∧ GoSrc.complementByte_Found = true) := by decide

/-! ## 1. The translated `Add`, arbitrary parameters -/

/-- For ARBITRARY `Seed`, complement table, `ToUpper`, hash, `Push`, `Sort`, every state `mh`,
every `k : Nat` and all sequences: `Add(mh, k, seqs...)` leaves the object in the state
`Sort(Push(… Push(mh, hash(Seed, b₁)) …, hash(Seed, b_m)))` where `b₁ … b_m` are the canonical
k-mers of `ToUpper(seq)` for the sequences in order (`kmersWith`, defined from the model's
`Sequtil.canonical`); it panics exactly when `kmersWith` is `none`. -/
theorem go_mash_Add : GoSrc.mash_Add_Found = true → GoSrc.CanonicalSubsequences_Found = true →
    GoSrc.ReverseComplement_Found = true → GoSrc.complementByte_Found = true →
    ∀ {σ : Type} (seed : UInt32) (tbl : List UInt8) (up : Bytes → Bytes) (hash : UInt32 → Bytes → UInt64)
      (push : σ → UInt64 → σ) (sort : σ → σ) (mh : σ) (k : Nat) (seqs : List Bytes),
      GoSrc.mash_Add seed tbl up hash push sort mh (k : Int) seqs
        = (kmersWith tbl up k seqs).map fun ks => sort ((ks.map (hash seed)).foldl push mh) :=
  fun hF hI hR hC _ seed tbl up hash push sort mh k seqs =>
    mash_Add_eq hF hI hR hC seed tbl up hash push sort mh k seqs

theorem go_kmersWith_upper (tbl : List UInt8) (k : Nat) (seqs : List Bytes) :
    kmersWith tbl Mash.upper k seqs = Mash.kmers tbl k seqs :=
  kmersWith_upper tbl k seqs

-- "aCgT", "ttA", k = 3: ACG|CGT -> ACG, CGT|ACG -> ACG, TTA|TAA -> TAA; the hashes are appended to
-- the state [1000] in that order, then `Sort` (here: reverse)
example : kmersWith Generated.compTable Mash.upper 3 [[97, 67, 103, 84], [116, 116, 65]]
    = some [[65, 67, 71], [65, 67, 71], [84, 65, 65]] := by decide +kernel
example : [[65, 67, 71], [65, 67, 71], [84, 65, 65]].map (exHash64 7) = [46, 46, 57] := by decide +kernel
example : allFound = false ∨
    (GoSrc.mash_Add 7 Generated.compTable Mash.upper exHash64 exPush List.reverse [1000] 3
        [[97, 67, 103, 84], [116, 116, 65]] = some [57, 46, 46, 1000]
    -- a different `ToUpper` (none at all): different k-mers ("aCg" < "CgT" …), different pushes
    ∧ GoSrc.mash_Add 7 Generated.compTable id exHash64 exPush List.reverse [1000] 3
        [[97, 67, 103, 84], [116, 116, 65]] = some [71, 28, 25, 1000]
    -- `k` larger than every sequence: nothing is pushed, `Sort` still runs
    ∧ GoSrc.mash_Add 7 Generated.compTable Mash.upper exHash64 exPush List.reverse [1, 2] 9
        [[97, 67, 103, 84], [116, 116, 65]] = some [2, 1]
    -- an invalid base ('X'): panic
    ∧ GoSrc.mash_Add 7 Generated.compTable Mash.upper exHash64 exPush List.reverse [1000] 3
        [[97, 67, 103, 84], [116, 88, 65]] = none) := by decide +kernel

/-! ## 2. With the parameters of the model -/

/-- The sketch object as the model has it (a descending `List Nat` of capacity `n`, `Push` =
`Mash.push n` on the value of the hash, `Sort` = nothing to do), `ToUpper = Mash.upper`, and a
hash `h : Bytes → Nat` with 64-bit values: the translated `Add` on state `s` is `Mash.addTo`. -/
theorem go_mash_Add_model : GoSrc.mash_Add_Found = true → GoSrc.CanonicalSubsequences_Found = true →
    GoSrc.ReverseComplement_Found = true → GoSrc.complementByte_Found = true →
    ∀ (seed : UInt32) (tbl : List UInt8) (h : Bytes → Nat), (∀ b, h b < 2 ^ 64) →
    ∀ (n k : Nat) (s : List Nat) (seqs : List Bytes),
      GoSrc.mash_Add seed tbl Mash.upper (fun _ b => UInt64.ofNat (h b))
          (fun s x => Mash.push n s x.toNat) id s (k : Int) seqs
        = Mash.addTo tbl h n k s seqs := by
  intro hF hI hR hC seed tbl h hb n k s seqs
  rw [mash_Add_eq hF hI hR hC, kmersWith_upper, Mash.addTo]
  congr 1; funext ks
  exact foldl_push_ofNat h hb n ks s

example : ∀ b, exH b < 2 ^ 64 := fun _ => Nat.lt_trans (Nat.mod_lt _ (by decide)) (by decide)
-- hashes 46, 46, 81, 57 pushed into a sketch of capacity 2
example : allFound = false ∨
    (GoSrc.mash_Add 0 Generated.compTable Mash.upper (fun _ b => UInt64.ofNat (exH b))
        (fun s x => Mash.push 2 s x.toNat) id [] 3 [[97, 67, 103, 84, 84], [116, 116, 65]] = some [57, 46]
    ∧ Mash.addTo Generated.compTable exH 2 3 [] [[97, 67, 103, 84, 84], [116, 116, 65]] = some [57, 46]) := by
  decide +kernel

/-- `Sequences(n, k, seqs...)` (= `Add` on the empty sketch) at the source level is the model's
`sketch`, i.e. (C17 `sketch_is_bottom_n`) the `n` smallest distinct hash values of the canonical
k-mers, descending. -/
theorem go_sketch_is_bottom_n : GoSrc.mash_Add_Found = true → GoSrc.CanonicalSubsequences_Found = true →
    GoSrc.ReverseComplement_Found = true → GoSrc.complementByte_Found = true →
    ∀ (seed : UInt32) (tbl : List UInt8) (h : Bytes → Nat), (∀ b, h b < 2 ^ 64) →
    ∀ (n k : Nat) (seqs : List Bytes),
      GoSrc.mash_Add seed tbl Mash.upper (fun _ b => UInt64.ofNat (h b))
          (fun s x => Mash.push n s x.toNat) id [] (k : Int) seqs
        = (Mash.kmers tbl k seqs).map fun ks => Mash.bottomN n (ks.map h) := by
  intro hF hI hR hC seed tbl h hb n k seqs
  rw [go_mash_Add_model hF hI hR hC seed tbl h hb]
  exact Mash.sketch_eq tbl h n k seqs

/-- (C17 `C17_perm`/`C17_set` at the source level) only the set of sequences matters. -/
theorem go_perm : GoSrc.mash_Add_Found = true → GoSrc.CanonicalSubsequences_Found = true →
    GoSrc.ReverseComplement_Found = true → GoSrc.complementByte_Found = true →
    ∀ (seed : UInt32) (tbl : List UInt8) (h : Bytes → Nat), (∀ b, h b < 2 ^ 64) →
    ∀ (n k : Nat) (seqs seqs' : List Bytes), (∀ s, s ∈ seqs ↔ s ∈ seqs') →
      GoSrc.mash_Add seed tbl Mash.upper (fun _ b => UInt64.ofNat (h b))
          (fun s x => Mash.push n s x.toNat) id [] (k : Int) seqs
        = GoSrc.mash_Add seed tbl Mash.upper (fun _ b => UInt64.ofNat (h b))
          (fun s x => Mash.push n s x.toNat) id [] (k : Int) seqs' := by
  intro hF hI hR hC seed tbl h hb n k seqs seqs' hm
  rw [go_mash_Add_model hF hI hR hC seed tbl h hb, go_mash_Add_model hF hI hR hC seed tbl h hb]
  exact Mash.sketch_congr_mem tbl h n k hm

example : ∀ s, s ∈ ([[65, 67], [65, 67], [71]] : List Bytes) ↔ s ∈ ([[71], [65, 67]] : List Bytes) := by
  intro s; simp [or_comm]

/-- (C17 `C17_strand` at the source level) replacing a sequence by its reverse complement, for a
complement table that is an involution and commutes with upper-casing. -/
theorem go_strand : GoSrc.mash_Add_Found = true → GoSrc.CanonicalSubsequences_Found = true →
    GoSrc.ReverseComplement_Found = true → GoSrc.complementByte_Found = true →
    ∀ (seed : UInt32) (tbl : List UInt8) (h : Bytes → Nat), (∀ b, h b < 2 ^ 64) →
    (∀ b c, Sequtil.comp tbl b = some c → Sequtil.comp tbl c = some b) →
    (∀ b, Sequtil.comp tbl (Mash.upperByte b) = (Sequtil.comp tbl b).map Mash.upperByte) →
    ∀ (n k : Nat) (pre post : List Bytes) (s r : Bytes), Sequtil.revComp tbl [] s = some r →
      GoSrc.mash_Add seed tbl Mash.upper (fun _ b => UInt64.ofNat (h b))
          (fun s x => Mash.push n s x.toNat) id [] (k : Int) (pre ++ r :: post)
        = GoSrc.mash_Add seed tbl Mash.upper (fun _ b => UInt64.ofNat (h b))
          (fun s x => Mash.push n s x.toNat) id [] (k : Int) (pre ++ s :: post) := by
  intro hF hI hR hC seed tbl h hb hc hu n k pre post s r hr
  rw [go_mash_Add_model hF hI hR hC seed tbl h hb, go_mash_Add_model hF hI hR hC seed tbl h hb]
  exact Mash.sketch_revComp hc hu h n k pre post hr

example : (∀ b c, Sequtil.comp Generated.compTable b = some c → Sequtil.comp Generated.compTable c = some b)
    ∧ (∀ b, Sequtil.comp Generated.compTable (Mash.upperByte b)
        = (Sequtil.comp Generated.compTable b).map Mash.upperByte) :=
  ⟨Mash.generated_CompOK, Mash.generated_CaseOK⟩
example : Sequtil.revComp Generated.compTable [] [116, 116, 65] = some [84, 97, 97] := by decide +kernel

/-! ## 3. Discrete C17 facts for arbitrary `Push` / `Sort` / hash -/

/-- Only the canonical k-mers, in push order, matter: two argument lists with the same
`kmersWith` leave the object in the same state (or both panic). -/
theorem go_kmer_content_only : GoSrc.mash_Add_Found = true → GoSrc.CanonicalSubsequences_Found = true →
    GoSrc.ReverseComplement_Found = true → GoSrc.complementByte_Found = true →
    ∀ {σ : Type} (seed : UInt32) (tbl : List UInt8) (up : Bytes → Bytes) (hash : UInt32 → Bytes → UInt64)
      (push : σ → UInt64 → σ) (sort : σ → σ) (mh : σ) (k : Nat) (seqs seqs' : List Bytes),
      kmersWith tbl up k seqs = kmersWith tbl up k seqs' →
      GoSrc.mash_Add seed tbl up hash push sort mh (k : Int) seqs
        = GoSrc.mash_Add seed tbl up hash push sort mh (k : Int) seqs' := by
  intro hF hI hR hC σ seed tbl up hash push sort mh k seqs seqs' e
  rw [mash_Add_eq hF hI hR hC, mash_Add_eq hF hI hR hC, e]

-- "ACGT" as one sequence, or cut with an overlap of k-1 = 2 into "ACG", "CGT"
example : kmersWith Generated.compTable Mash.upper 3 [[65, 67, 71, 84]]
    = kmersWith Generated.compTable Mash.upper 3 [[65, 67, 71], [67, 71, 84]] := by decide +kernel
example : allFound = false ∨
    GoSrc.mash_Add 7 Generated.compTable Mash.upper exHash64 exPush List.reverse [1000] 3 [[65, 67, 71, 84]]
      = GoSrc.mash_Add 7 Generated.compTable Mash.upper exHash64 exPush List.reverse [1000] 3
          [[65, 67, 71], [67, 71, 84]] := by decide +kernel

/-- Letter case, for an arbitrary `ToUpper`: sequences that agree after `ToUpper` give the same
result. -/
theorem go_case_insensitive : GoSrc.mash_Add_Found = true → GoSrc.CanonicalSubsequences_Found = true →
    GoSrc.ReverseComplement_Found = true → GoSrc.complementByte_Found = true →
    ∀ {σ : Type} (seed : UInt32) (tbl : List UInt8) (up : Bytes → Bytes) (hash : UInt32 → Bytes → UInt64)
      (push : σ → UInt64 → σ) (sort : σ → σ) (mh : σ) (k : Nat) (seqs seqs' : List Bytes),
      seqs.map up = seqs'.map up →
      GoSrc.mash_Add seed tbl up hash push sort mh (k : Int) seqs
        = GoSrc.mash_Add seed tbl up hash push sort mh (k : Int) seqs' := by
  intro hF hI hR hC σ seed tbl up hash push sort mh k seqs seqs' e
  rw [mash_Add_eq hF hI hR hC, mash_Add_eq hF hI hR hC, kmersWith_congr_up tbl up k e]

example : ([[97, 67, 103, 84], [116, 116, 65]] : List Bytes).map Mash.upper
    = ([[65, 99, 71, 116], [84, 84, 97]] : List Bytes).map Mash.upper := by decide

/-- Letter case, with `ToUpper = Mash.upper`: upper-casing the arguments changes nothing (C17
`C17_case` at the source level, for arbitrary `Push`/`Sort`/hash). -/
theorem go_case_upper : GoSrc.mash_Add_Found = true → GoSrc.CanonicalSubsequences_Found = true →
    GoSrc.ReverseComplement_Found = true → GoSrc.complementByte_Found = true →
    ∀ {σ : Type} (seed : UInt32) (tbl : List UInt8) (hash : UInt32 → Bytes → UInt64)
      (push : σ → UInt64 → σ) (sort : σ → σ) (mh : σ) (k : Nat) (seqs : List Bytes),
      GoSrc.mash_Add seed tbl Mash.upper hash push sort mh (k : Int) (seqs.map Mash.upper)
        = GoSrc.mash_Add seed tbl Mash.upper hash push sort mh (k : Int) seqs := by
  intro hF hI hR hC σ seed tbl hash push sort mh k seqs
  rw [mash_Add_eq hF hI hR hC, mash_Add_eq hF hI hR hC,
    kmersWith_congr_up tbl Mash.upper k (xs := seqs.map Mash.upper) (ys := seqs)
      (by simp [List.map_map, Function.comp_def, Mash.upper_idem])]

example : allFound = false ∨
    (GoSrc.mash_Add 7 Generated.compTable Mash.upper exHash64 exPush List.reverse [1000] 3
        [[65, 67, 71, 84], [84, 84, 65]] = some [57, 46, 46, 1000]
    ∧ GoSrc.mash_Add 7 Generated.compTable Mash.upper exHash64 exPush List.reverse [1000] 3
        [[97, 99, 103, 116], [116, 116, 97]] = some [57, 46, 46, 1000]) := by decide +kernel

/-- Building incrementally: `Add(mh, k, xs...)` followed by `Add(mh, k, ys...)` leaves the object in
the same state as `Add(mh, k, xs ++ ys ...)` (a panic propagates) PROVIDED the intermediate `Sort`
cannot be observed after the final one: `Sort` is idempotent, and `Push` on a sorted object gives,
after `Sort`, what `Push` on the unsorted one does.  Nothing else about `Push`/`Sort`/hash. -/
theorem go_incremental : GoSrc.mash_Add_Found = true → GoSrc.CanonicalSubsequences_Found = true →
    GoSrc.ReverseComplement_Found = true → GoSrc.complementByte_Found = true →
    ∀ {σ : Type} (seed : UInt32) (tbl : List UInt8) (up : Bytes → Bytes) (hash : UInt32 → Bytes → UInt64)
      (push : σ → UInt64 → σ) (sort : σ → σ),
      (∀ s, sort (sort s) = sort s) → (∀ s x, sort (push (sort s) x) = sort (push s x)) →
    ∀ (mh : σ) (k : Nat) (xs ys : List Bytes),
      (GoSrc.mash_Add seed tbl up hash push sort mh (k : Int) xs).bind
          (fun mh' => GoSrc.mash_Add seed tbl up hash push sort mh' (k : Int) ys)
        = GoSrc.mash_Add seed tbl up hash push sort mh (k : Int) (xs ++ ys) := by
  intro hF hI hR hC σ seed tbl up hash push sort h1 h2 mh k xs ys
  simp only [mash_Add_eq hF hI hR hC, kmersWith_append]
  cases kmersWith tbl up k xs <;> cases kmersWith tbl up k ys <;>
    simp [List.foldl_append, sort_foldl_sort push sort h1 h2]

example : (∀ s, flagSort (flagSort s) = flagSort s)
    ∧ (∀ s x, flagSort (flagPush (flagSort s) x) = flagSort (flagPush s x)) :=
  ⟨fun _ => rfl, fun _ _ => rfl⟩
example : allFound = false ∨
    ((GoSrc.mash_Add 7 Generated.compTable Mash.upper exHash64 flagPush flagSort (5, false) 3
        [[97, 67, 103, 84]]).bind
        (fun mh' => GoSrc.mash_Add 7 Generated.compTable Mash.upper exHash64 flagPush flagSort mh' 3
          [[116, 116, 65]]) = some (154, true)
    ∧ GoSrc.mash_Add 7 Generated.compTable Mash.upper exHash64 flagPush flagSort (5, false) 3
        [[97, 67, 103, 84], [116, 116, 65]] = some (154, true)) := by decide +kernel

/-- The same when `Sort` does nothing observable at all (`sort = id`, as in the model). -/
theorem go_incremental_id : GoSrc.mash_Add_Found = true → GoSrc.CanonicalSubsequences_Found = true →
    GoSrc.ReverseComplement_Found = true → GoSrc.complementByte_Found = true →
    ∀ {σ : Type} (seed : UInt32) (tbl : List UInt8) (up : Bytes → Bytes) (hash : UInt32 → Bytes → UInt64)
      (push : σ → UInt64 → σ) (mh : σ) (k : Nat) (xs ys : List Bytes),
      (GoSrc.mash_Add seed tbl up hash push id mh (k : Int) xs).bind
          (fun mh' => GoSrc.mash_Add seed tbl up hash push id mh' (k : Int) ys)
        = GoSrc.mash_Add seed tbl up hash push id mh (k : Int) (xs ++ ys) :=
  fun hF hI hR hC _ seed tbl up hash push mh k xs ys =>
    go_incremental hF hI hR hC seed tbl up hash push id (fun _ => rfl) (fun _ _ => rfl) mh k xs ys

/-- `Add` panics exactly when some sequence, after `ToUpper`, contains a byte the complement
table rejects (`Sequtil.comp tbl b = none`: entry 0 or outside the table) — for every `k : Nat`
(no `k` makes the iterator panic: `k = 0` yields `len+1` empty k-mers, `k > len(seq)` none), every
state and whatever `Push`/`Sort`/hash are. -/
theorem go_panics_iff : GoSrc.mash_Add_Found = true → GoSrc.CanonicalSubsequences_Found = true →
    GoSrc.ReverseComplement_Found = true → GoSrc.complementByte_Found = true →
    ∀ {σ : Type} (seed : UInt32) (tbl : List UInt8) (up : Bytes → Bytes) (hash : UInt32 → Bytes → UInt64)
      (push : σ → UInt64 → σ) (sort : σ → σ) (mh : σ) (k : Nat) (seqs : List Bytes),
      GoSrc.mash_Add seed tbl up hash push sort mh (k : Int) seqs = none
        ↔ ∃ s ∈ seqs, ∃ b ∈ up s, Sequtil.comp tbl b = none := by
  intro hF hI hR hC σ seed tbl up hash push sort mh k seqs
  rw [mash_Add_eq hF hI hR hC, Option.map_eq_none_iff, kmersWith_eq_none_iff]
  simp only [Sequtil.canonical_eq_none_iff]

example : Sequtil.comp Generated.compTable 88 = none ∧ (88 : UInt8) ∈ Mash.upper [116, 88, 65] := by
  decide +kernel
example : ∀ b ∈ Mash.upper [97, 67, 103, 84], Sequtil.comp Generated.compTable b ≠ none := by
  decide +kernel

end Bio.Props.C17Go

/-
  Source-level tie for C14: facts extracted by go/ast from the SOURCE TEXT of /repo
  (Bio/Generated/Src.lean, regenerated on every run).  Best-effort: a fact whose
  source shape is not recognised is `none` and nothing is claimed about it (the
  behaviour-level tie through Bio/Generated/Tables.lean and the correspondence
  run remains); a fact that IS extracted must agree with the model and with the
  observed behaviour.  `holdsIfFound o p` is `true` for `none` and `p x` for
  `some x`; every theorem is closed by `decide` whichever it is.
-/
import Bio.Lemmas.SrcFacts
import Bio.Lemmas.Sequtil
import Bio.Generated.Src
import Bio.Props.C14Inst
namespace Bio.SrcFacts
open Bio.Generated

def nodupKeys (t : List ((UInt8 × UInt8 × UInt8) × UInt8)) : Bool :=
  let ks := t.map fun e => e.1.1.toNat * 65536 + e.1.2.1.toNat * 256 + e.1.2.2.toNat
  ks.all fun k => (ks.filter (· == k)).length == 1

def codonSourceOK (t : List ((UInt8 × UInt8 × UInt8) × UInt8)) : Bool :=
  t.length == 64 &&
  t.all (fun e => Bio.Sequtil.stdCodon e.1.1 e.1.2.1 e.1.2.2 == some e.2) &&
  nodupKeys t &&
  t.all (fun e => Bio.Sequtil.codon Generated.codonTable e.1.1 e.1.2.1 e.1.2.2 == some e.2)

/-- The `codonToAmino` map literal in the source is the standard genetic code on the 64
upper-case codons (each key once), and agrees with the table observed on the running code. -/
theorem codon_source_table : holdsIfFound Src.codonToAmino codonSourceOK = true := by
  -- the observed table is the standard code (C14Inst), so the fourth clause repeats the second
  have h : ∀ t, codonSourceOK t = (t.length == 64
      && t.all (fun e => Bio.Sequtil.stdCodon e.1.1 e.1.2.1 e.1.2.2 == some e.2) && nodupKeys t) := by
    intro t
    simp only [codonSourceOK, Bio.Sequtil.codon_eq_std Bio.Sequtil.generated_codonTable_ok]
    cases t.length == 64 <;> cases t.all _ <;> cases nodupKeys t <;> rfl
  rw [funext h]
  decide +kernel

/-- The `AminoAcids` constant in the source is the one the running code exports. -/
theorem amino_acids_const : holdsIfFound Src.aminoAcids (· == Generated.aminoAcids) = true := by decide

end Bio.SrcFacts

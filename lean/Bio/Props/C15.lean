/-
  C15 — The trie behaves as a set of sequences under any history of updates.

  "After any sequence of Add and Delete calls the trie is observationally the
  set M of maximal sequences defined by: Add(b) inserts a non-empty b unless b
  is already a prefix of a member, absorbing members that are proper prefixes
  of b (adding the empty sequence changes nothing); Delete(b) (b non-empty)
  removes every member that has prefix b and returns whether there was one.
  Has(x) is true exactly when x is empty or a prefix of a member, ForEach
  reports every member exactly once and nothing else, and a trie rebuilt from
  its JSON form is indistinguishable from the original."

  The abstraction `abs t` (leaf paths, root excluded), the invariant
  `NoDupKeys` (a Go map has distinct keys) and all helper lemmas live in
  `Bio/Lemmas/Trie.lean`.
-/
import Bio.Lemmas.Trie
namespace Bio.Trie

/-! ## The specification: sets of byte strings -/

/-- A set of sequences, as a predicate (no order, no multiplicity). -/
abbrev SSet := Bytes → Prop

def SSet.empty : SSet := fun _ => False

/-- The set of sequences a trie stands for. -/
def absSet (t : T) : SSet := fun y => y ∈ abs t

/-- Members are non-empty and pairwise prefix-incomparable ("maximal sequences"). -/
def IsAntichain (M : SSet) : Prop :=
  (∀ m, M m → m ≠ []) ∧ ∀ m1 m2, M m1 → M m2 → m1 <+: m2 → m1 = m2

/-- `b` is a prefix of a member. -/
def prefixOfMember (b : Bytes) (M : SSet) : Prop := ∃ m, M m ∧ b <+: m

/-- `Has(x)`: x is empty or a prefix of a member. -/
def specHas (x : Bytes) (M : SSet) : Prop := x = [] ∨ prefixOfMember x M

/-- `Add(b)`: nothing changes when b is empty or already a prefix of a member;
otherwise b is inserted and the members that are proper prefixes of b go. -/
def specAdd (b : Bytes) (M : SSet) : SSet := fun y =>
  ((b = [] ∨ prefixOfMember b M) ∧ M y) ∨
  (¬ (b = [] ∨ prefixOfMember b M) ∧ (y = b ∨ (M y ∧ ¬ (y <+: b ∧ y ≠ b))))

/-- `Delete(b)`, b non-empty: every member that has prefix b is removed. -/
def specDel (b : Bytes) (M : SSet) : SSet := fun y => M y ∧ ¬ b <+: y

/-- What `Delete(b)` returns: whether there was a member with prefix b. -/
def specDelFlag (b : Bytes) (M : SSet) : Prop := prefixOfMember b M

/-! ## 1. The map invariant is preserved -/

theorem C15_inv_new : NoDupKeys .nil := noDupKeys_nil

theorem C15_inv_add (b : Bytes) (t : T) (h : NoDupKeys t) : NoDupKeys (add b t) :=
  noDupKeys_add b t h

theorem C15_inv_del (b : Bytes) (t t' : T) (hd : del b t = some t') (h : NoDupKeys t) :
    NoDupKeys t' :=
  noDupKeys_del b t t' hd h

example : NoDupKeys (add [97, 98] (add [98] (add [97, 99] .nil))) := by decide
example : del [97, 98] (add [97, 98] (add [98] (add [97, 99] .nil))) =
    some (.cons 97 (.cons 99 .nil .nil) (.cons 98 .nil .nil)) := by decide

/-! ## 2. Has -/

theorem C15_has_spec (t : T) (x : Bytes) (h : NoDupKeys t) :
    has x t = true ↔ specHas x (absSet t) :=
  has_iff_abs t x h

/-- Restates `C15_has_spec` with the specification unfolded. -/
theorem C15_has_spec' (t : T) (x : Bytes) (h : NoDupKeys t) :
    has x t = true ↔ x = [] ∨ ∃ m ∈ abs t, x <+: m :=
  has_iff_abs t x h

example : has [97] (add [97, 98] (add [98] .nil)) = true ∧
    has [99] (add [97, 98] (add [98] .nil)) = false := by decide

/-! ## 3. Add -/

theorem C15_add_empty (t : T) : add [] t = t := add_nil_left t

/-- Spelled out: if b is empty or already a prefix of a member, nothing
changes (the trie is even structurally the same). -/
theorem C15_add_present (b : Bytes) (t : T) (h : NoDupKeys t)
    (hb : b = [] ∨ ∃ m ∈ abs t, b <+: m) : add b t = t :=
  add_of_has b t ((has_iff_abs t b h).2 hb)

/-- Otherwise the members are b and the old members that are not proper
prefixes of b. -/
theorem C15_add_absent (b : Bytes) (t : T) (h : NoDupKeys t)
    (hb : ¬ (b = [] ∨ ∃ m ∈ abs t, b <+: m)) (y : Bytes) :
    y ∈ abs (add b t) ↔ y = b ∨ (y ∈ abs t ∧ ¬ (y <+: b ∧ y ≠ b)) := by
  have hh : has b t = false := by
    cases hx : has b t with
    | false => rfl
    | true => exact absurd ((has_iff_abs t b h).1 hx) hb
  rw [mem_abs_add_of_not_has b t h hh y]
  constructor
  · rintro (rfl | ⟨h1, h2⟩)
    · exact Or.inl rfl
    · exact Or.inr ⟨h1, fun h3 => h2 h3.1⟩
  · rintro (rfl | ⟨h1, h2⟩)
    · exact Or.inl rfl
    · by_cases hyb : y = b
      · exact Or.inl hyb
      · exact Or.inr ⟨h1, fun h3 => h2 ⟨h3, hyb⟩⟩

theorem C15_add_spec (b : Bytes) (t : T) (h : NoDupKeys t) :
    absSet (add b t) = specAdd b (absSet t) := by
  funext y
  apply propext
  show y ∈ abs (add b t) ↔ specAdd b (absSet t) y
  by_cases hb : b = [] ∨ ∃ m ∈ abs t, b <+: m
  · rw [C15_add_present b t h hb]
    exact ⟨fun hy => Or.inl ⟨hb, hy⟩, fun hy => hy.elim (·.2) (fun h' => absurd hb h'.1)⟩
  · rw [C15_add_absent b t h hb]
    exact ⟨fun hy => Or.inr ⟨hb, hy⟩, fun hy => hy.elim (fun h' => absurd h'.1 hb) (·.2)⟩

example : abs (add [97, 98, 99] (add [98] (add [97, 98] .nil))) = [[97, 98, 99], [98]] := by
  decide
-- the hypotheses of `C15_add_present` / `C15_add_absent` are satisfiable
example : NoDupKeys (add [98] (add [97, 98] .nil)) ∧
    ([97] = [] ∨ ∃ m ∈ abs (add [98] (add [97, 98] .nil)), [97] <+: m) ∧
    ¬ ([97, 98, 99] = [] ∨ ∃ m ∈ abs (add [98] (add [97, 98] .nil)), [97, 98, 99] <+: m) := by
  decide
example : abs (add [97] (add [98] (add [97, 98] .nil))) = [[97, 98], [98]] := by decide

/-! ## 4. Delete -/

theorem C15_del_empty (t : T) : del [] t = some t := del_nil_left t

/-- `Delete(b)` returns false (and, by the meaning of `none`, changes nothing)
exactly when no member has prefix b. -/
theorem C15_del_flag (b : Bytes) (t : T) (hb : b ≠ []) (h : NoDupKeys t) :
    (del b t).isSome = true ↔ specDelFlag b (absSet t) := by
  rw [isSome_del, has_iff_abs t b h]
  exact or_iff_right hb

theorem C15_del_none (b : Bytes) (t : T) (hb : b ≠ []) (h : NoDupKeys t) :
    del b t = none ↔ ¬ ∃ m ∈ abs t, b <+: m := by
  rw [← Option.not_isSome_iff_eq_none, C15_del_flag b t hb h]
  rfl

/-- When it returns true, exactly the members with prefix b are gone: in
particular no proper prefix of b is left behind as a spurious member. -/
theorem C15_del_spec (b : Bytes) (t t' : T) (hb : b ≠ []) (h : NoDupKeys t)
    (hd : del b t = some t') : absSet t' = specDel b (absSet t) := by
  funext y
  exact propext (mem_abs_del b t t' hb h hd y)

/-- Restates `C15_del_spec` with the specification unfolded. -/
theorem C15_del_spec' (b : Bytes) (t t' : T) (hb : b ≠ []) (h : NoDupKeys t)
    (hd : del b t = some t') (y : Bytes) : y ∈ abs t' ↔ (y ∈ abs t ∧ ¬ b <+: y) :=
  mem_abs_del b t t' hb h hd y

example : (del [97, 98] (add [97, 99] (add [97, 98, 99] (add [97, 98, 100] .nil)))).map abs
    = some [[97, 99]] := by decide
-- pruning: deleting the only member below "a" does not leave "a" behind
example : (del [97, 98, 99] (add [98] (add [97, 98, 99] .nil))).map abs = some [[98]] := by
  decide
example : del [97, 99] (add [97, 98] .nil) = none := by decide

/-! ## 5. The members are maximal sequences -/

theorem C15_abs_antichain (t : T) (h : NoDupKeys t) :
    IsAntichain (absSet t) ∧ (abs t).Nodup :=
  ⟨⟨fun _ hm => ne_nil_of_mem_abs hm,
    fun m1 m2 h1 h2 hp => abs_antichain t h m1 h1 m2 h2 hp⟩, abs_nodup t h⟩

/-! ## 6. Every history

A history is a list of calls `Op`; `run` / `results` (`Bio/Lemmas/Trie.lean`) are the model's final
trie and the flags the calls returned. -/

/-- The specification of one call.  `Delete` of the empty sequence is outside
the property (it says "b non-empty"); the code returns true and changes
nothing, and the specification is extended with exactly that so that *all*
histories are covered. -/
def specStep : Op → SSet → SSet
  | .add b, M => specAdd b M
  | .del b, M => if b = [] then M else specDel b M

def specResult : Op → SSet → Option Prop
  | .add _, _ => none
  | .del b, M => some (if b = [] then True else specDelFlag b M)

def runSpec : List Op → SSet → SSet
  | [], M => M
  | op :: ops, M => runSpec ops (specStep op M)

def specResults : List Op → SSet → List (Option Prop)
  | [], _ => []
  | op :: ops, M => specResult op M :: specResults ops (specStep op M)

/-- A returned value agrees with the specified one. -/
def Agrees : Option Bool → Option Prop → Prop
  | none, none => True
  | some f, some p => f = true ↔ p
  | _, _ => False

/-- The two lists have the same length and agree position by position. -/
def AgreeAll : List (Option Bool) → List (Option Prop) → Prop
  | [], [] => True
  | f :: fs, p :: ps => Agrees f p ∧ AgreeAll fs ps
  | _, _ => False

theorem C15_step (op : Op) (t : T) (h : NoDupKeys t) :
    NoDupKeys (step op t).1 ∧ absSet (step op t).1 = specStep op (absSet t) ∧
      Agrees (step op t).2 (specResult op (absSet t)) := by
  cases op with
  | add b => exact ⟨noDupKeys_add b t h, C15_add_spec b t h, trivial⟩
  | del b =>
    by_cases hb : b = []
    · subst hb
      simp [step, specStep, specResult, Agrees, h]
    · have hflag := C15_del_flag b t hb h
      simp only [step, specStep, specResult, if_neg hb]
      cases hd : del b t with
      | none =>
        rw [hd] at hflag
        have hno : ¬ specDelFlag b (absSet t) := fun hp => by simpa using hflag.2 hp
        refine ⟨h, ?_, by simpa [Agrees] using hno⟩
        funext y
        apply propext
        constructor
        · intro hy
          exact ⟨hy, fun hp => hno ⟨y, hy, hp⟩⟩
        · exact fun hy => hy.1
      | some t' =>
        rw [hd] at hflag
        exact ⟨noDupKeys_del b t t' hd h, C15_del_spec b t t' hb h hd,
          by simpa [Agrees] using hflag.1 rfl⟩

theorem C15_run (ops : List Op) : ∀ (t : T), NoDupKeys t →
    NoDupKeys (run ops t) ∧ absSet (run ops t) = runSpec ops (absSet t) ∧
      AgreeAll (results ops t) (specResults ops (absSet t)) := by
  induction ops with
  | nil => intro t h; exact ⟨h, rfl, trivial⟩
  | cons op ops ih =>
    intro t h
    obtain ⟨h1, h2, h3⟩ := C15_step op t h
    obtain ⟨i1, i2, i3⟩ := ih (step op t).1 h1
    simp only [run, runSpec, results, specResults, AgreeAll]
    rw [← h2]
    exact ⟨i1, i2, h3, i3⟩

theorem absSet_nil : absSet .nil = SSet.empty := by
  funext y; simp [absSet, SSet.empty]

/-- After any history from `New()`: the invariant holds, the trie stands for
the set the specification computes, and every returned flag was the specified one. -/
theorem C15_reachable (ops : List Op) :
    NoDupKeys (run ops .nil) ∧
    (∀ y, y ∈ abs (run ops .nil) ↔ runSpec ops SSet.empty y) ∧
    IsAntichain (runSpec ops SSet.empty) ∧
    AgreeAll (results ops .nil) (specResults ops SSet.empty) := by
  obtain ⟨h1, h2, h3⟩ := C15_run ops .nil noDupKeys_nil
  rw [absSet_nil] at h2 h3
  refine ⟨h1, fun y => ?_, ?_, h3⟩
  · rw [← h2]; rfl
  · rw [← h2]; exact (C15_abs_antichain _ h1).1

/-- What can be observed after any history: `Has` and `ForEach`. -/
theorem C15_reachable_observe (ops : List Op) :
    (∀ x, has x (run ops .nil) = true ↔ specHas x (runSpec ops SSet.empty)) ∧
    (∀ y, y ∈ members (run ops .nil) ↔ runSpec ops SSet.empty y) ∧
    (members (run ops .nil)).Nodup := by
  obtain ⟨h1, h2, _, _⟩ := C15_reachable ops
  have hset : absSet (run ops .nil) = runSpec ops SSet.empty := by
    funext y; exact propext (h2 y)
  refine ⟨fun x => ?_, fun y => ?_, ?_⟩
  · rw [← hset]; exact C15_has_spec _ x h1
  · rw [members_eq_abs]; exact h2 y
  · rw [members_eq_abs]; exact abs_nodup _ h1

-- add "ab", add "abc", add "b", del "ab", add "a", del "x"
example : run [.add [97, 98], .add [97, 98, 99], .add [98], .del [97, 98], .add [97],
      .del [120]] .nil = .cons 98 .nil (.cons 97 .nil .nil) ∧
    results [.add [97, 98], .add [97, 98, 99], .add [98], .del [97, 98], .add [97],
      .del [120]] .nil = [none, none, none, some true, none, some false] := by decide

/-! ## 7. ForEach -/

/-- With a consumer that never stops `ForEach` reports exactly the members,
each once (and never the root / the empty sequence). -/
theorem C15_forEach_members (t : T) (h : NoDupKeys t) :
    (∀ y, y ∈ members t ↔ y ∈ abs t) ∧ (members t).Nodup ∧ [] ∉ members t := by
  rw [members_eq_abs]
  exact ⟨fun _ => Iff.rfl, abs_nodup t h, fun hm => ne_nil_of_mem_abs hm rfl⟩

/-- In the model's edge order the report is even the list `abs t` itself. -/
theorem C15_members_eq (t : T) : members t = abs t := members_eq_abs t

example : members (add [97, 98, 99] (add [98] (add [97, 98] .nil))) = [[97, 98, 99], [98]] := by
  decide
example : members .nil = [] := by decide

/-! ## 8. JSON

`fromJSON` (in `Bio/Lemmas/Trie.lean`) reads exactly the text `toJSON` writes:
`{"m":{` entries `}}`, an entry being `"<canonical decimal < 256>":<object>`,
entries separated by commas.  The rebuilt trie has its edges in the sorted key
order of the text, so it is equal to the original only up to edge order — which
no observation can see. -/

theorem C15_json_roundtrip (t : T) (h : NoDupKeys t) :
    ∃ t', fromJSON (toJSON t) = some t' ∧ NoDupKeys t' ∧
      (∀ y, y ∈ abs t' ↔ y ∈ abs t) ∧
      (∀ x, has x t' = has x t) ∧
      (∀ y, y ∈ members t' ↔ y ∈ members t) ∧ (members t').Nodup := by
  obtain ⟨t', hj, hs⟩ := fromJSON_toJSON t
  have h' : NoDupKeys t' := hs.noDupKeys.2 h
  refine ⟨t', hj, h', hs.mem_abs, has_congr h h' hs.mem_abs, fun y => ?_, ?_⟩
  · rw [members_eq_abs, members_eq_abs]; exact hs.mem_abs y
  · rw [members_eq_abs]; exact abs_nodup t' h'

/-- The round trip needs no invariant to succeed and to give the same trie up
to the order of edges. -/
theorem C15_json_roundtrip_sim (t : T) : ∃ t', fromJSON (toJSON t) = some t' ∧ Sim t t' :=
  fromJSON_toJSON t

-- {"m":{"97":{"m":{"98":{"m":{}}}},"98":{"m":{}}}} is read back (edges re-sorted by key text)
example :
    toJSON (.cons 98 .nil (.cons 97 (.cons 98 .nil .nil) .nil)) =
      [123, 34, 109, 34, 58, 123, 34, 57, 55, 34, 58, 123, 34, 109, 34, 58, 123, 34, 57, 56, 34,
       58, 123, 34, 109, 34, 58, 123, 125, 125, 125, 125, 44, 34, 57, 56, 34, 58, 123, 34, 109, 34,
       58, 123, 125, 125, 125, 125] ∧
    fromJSON (toJSON (.cons 98 .nil (.cons 97 (.cons 98 .nil .nil) .nil))) =
      some (.cons 97 (.cons 98 .nil .nil) (.cons 98 .nil .nil)) := by
  have nd97 : natDigits 97 = [57, 55] := by
    rw [natDigits, dif_neg (by decide), natDigits, dif_pos (by decide)]; decide
  have nd98 : natDigits 98 = [57, 56] := by
    rw [natDigits, dif_neg (by decide), natDigits, dif_pos (by decide)]; decide
  have h97 : (97 : UInt8).toNat = 97 := rfl
  have h98 : (98 : UInt8).toNat = 98 := rfl
  have tj : toJSON (.cons 98 .nil (.cons 97 (.cons 98 .nil .nil) .nil)) =
      [123, 34, 109, 34, 58, 123, 34, 57, 55, 34, 58, 123, 34, 109, 34, 58, 123, 34, 57, 56, 34,
       58, 123, 34, 109, 34, 58, 123, 125, 125, 125, 125, 44, 34, 57, 56, 34, 58, 123, 34, 109, 34,
       58, 123, 125, 125, 125, 125] := by
    simp [toJSON, toJSON.entries, toJSON.insertE, renderEntries, h97, h98, nd97, nd98, bytesLe,
      bytesLt]
  refine ⟨tj, ?_⟩
  rw [tj]
  simp [fromJSON, parseEntries, dropPre, openB, closeB, isDigit, parseNat, parseNatAux, nd97, nd98]

-- the reader is exact: no trailing bytes, no non-canonical key ("07")
example : fromJSON (toJSON .nil ++ [32]) = none := by
  simp [toJSON, toJSON.entries, renderEntries, fromJSON, parseEntries, dropPre, openB, closeB]
example : fromJSON [123, 34, 109, 34, 58, 123, 34, 48, 55, 34, 58, 123, 34, 109, 34, 58, 123,
    125, 125, 125, 125] = none := by
  have nd7 : natDigits 7 = [55] := by rw [natDigits, dif_pos (by decide)]; decide
  simp [fromJSON, parseEntries, dropPre, openB, closeB, isDigit, parseNat, parseNatAux, nd7]

end Bio.Trie

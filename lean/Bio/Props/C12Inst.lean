/-
  C12 for the tables regenerated from /repo: the complement table the running
  code implements is the standard one, so every C12 theorem applies to it.
  Re-checked by `decide +kernel` on every run.
-/
import Bio.Props.C12
import Bio.Generated.Tables
namespace Bio.Sequtil

theorem generated_compTable_ok : compTableOK Generated.compTable = true := by
  -- `exCompTable` is the tabulation (`exCompTable_ok`): compare the two literals
  rw [compTableOK, ← eq_of_beq exCompTable_ok]; decide +kernel

theorem generated_revComp_spec (dst src : Bytes) (hs : ∀ b ∈ src, isDNAN b = true) :
    revComp Generated.compTable dst src = some (dst ++ src.reverse.map stdComp) :=
  revComp_spec generated_compTable_ok dst src hs

example : (∀ b ∈ ([65, 99, 78] : Bytes), isDNAN b = true) := by decide

end Bio.Sequtil

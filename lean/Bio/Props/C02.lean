/-
  Property C02: FASTQ write → read; malformed input rejected.
  Model: `Bio/Model/Fastq.lean`; helper lemmas: `Bio/Lemmas/Fastq.lean`.
-/
import Bio.Lemmas.Fastq
namespace Bio.Fastq

/-- The domain of the property: no CR/LF anywhere, as many qualities as bases. -/
def WF (r : Fq) : Prop :=
  (∀ b ∈ r.name ++ r.seq ++ r.quals, b ≠ 10 ∧ b ≠ 13) ∧ r.seq.length = r.quals.length

instance (r : Fq) : Decidable (WF r) := by unfold WF; infer_instance

/-- A file made of the given lines, each terminated by LF. -/
def fileOf (ls : List Bytes) : Bytes := (ls.map (· ++ [10])).flatten

/-- The lines of the records `rs` as written (`recLines r = ['@'name, seq, "+", quals]`). -/
def allLines (rs : List Fq) : List Bytes := (rs.map recLines).flatten

example (r : Fq) : recLines r = [64 :: r.name, r.seq, [43], r.quals] := rfl

/-- The written file is the file of the records' lines. -/
theorem encodeAll_lines (rs : List Fq) : encodeAll rs = fileOf (allLines rs) :=
  encodeAll_eq_lines rs

/-! ## 1. Round trip -/

/-- Write then read returns the records: every record count, every length (no line-length
ceiling), every content in the domain. -/
theorem roundtrip (rs : List Fq) (h : ∀ r ∈ rs, WF r) :
    decode (encodeAll rs) = rs.map Item.ok := by
  have := decodeSrc_pre .eof rs [] h (by simp)
  simpa [decode, encodeAll_eq_lines, fromLines] using this

/-- `pre`, then arbitrary clean lines: the records of `pre`, then what the lines give. -/
theorem decode_fileOf_pre (pre : List Fq) (tail : List Bytes) (hpre : ∀ q ∈ pre, WF q)
    (ht : ∀ l ∈ tail, Clean l) :
    decode (fileOf (allLines pre ++ tail)) = pre.map Item.ok ++ fromLines .eof tail :=
  decodeSrc_pre .eof pre tail hpre ht

/-- The four lines of a record in the domain are clean. -/
theorem WF.lines {r : Fq} (h : WF r) :
    Clean (64 :: r.name) ∧ Clean r.seq ∧ Clean ([43] : Bytes) ∧ Clean r.quals := by
  have := recLines_clean r h.1
  exact ⟨this _ (by simp [recLines]), this _ (by simp [recLines]), this _ (by simp [recLines]),
    this _ (by simp [recLines])⟩

/-- Clean lines in front of the lines of records in the domain. -/
theorem clean_append {head : List Bytes} {post : List Fq} (hh : ∀ l ∈ head, Clean l)
    (hpost : ∀ q ∈ post, WF q) : ∀ l ∈ head ++ allLines post, Clean l :=
  fun l hl => (List.mem_append.mp hl).elim (hh l) (allLines_clean post hpost l)

/-- Non-vacuity: names with spaces / `'@'` / `'+'`, a quality line starting with `'+'` and one
starting with `'@'`, an empty read. -/
example :
    ∀ r ∈ ([⟨[114, 32, 49], [65, 67, 71, 84], [43, 64, 73, 73]⟩, ⟨[], [], []⟩,
            ⟨[64, 43], [78], [64]⟩] : List Fq), WF r := by
  decide

/-! ## 2. Shape of the writer's output -/

/-- A written record is four lines. -/
theorem encode_four_lines (r : Fq) (h : WF r) :
    scanLines (encode r) = [64 :: r.name, r.seq, [43], r.quals] := by
  rw [encode_eq_lines]
  exact scanLines_lfFile_clean _ (recLines_clean r h.1)

example : WF ⟨[114, 49], [65, 67, 71], [73, 43, 64]⟩ := by decide

/-- The length `MarshalText` pre-computes is the length written: its panic is unreachable. -/
theorem encode_length (r : Fq) : (encode r).length = marshalLen r := by
  simp [encode, marshalLen]; omega

/-! ## 3. Corrupted records are rejected

The file is `pre`, then the corrupted four lines of `r`, then `post`.  In every case the
reader delivers the records of `pre` intact, then exactly one error, and nothing else
(no fabricated record). -/

/-- (a) The first line is replaced by any line (CR/LF-free, possibly empty) that does not
start with `'@'`. -/
theorem corrupt_no_at (pre post : List Fq) (r : Fq) (l1 : Bytes)
    (hpre : ∀ q ∈ pre, WF q) (hpost : ∀ q ∈ post, WF q) (hr : WF r)
    (hl1 : ∀ b ∈ l1, b ≠ 10 ∧ b ≠ 13) (hat : l1.head? ≠ some 64) :
    decode (fileOf (allLines pre ++ ([l1, r.seq, [43], r.quals] ++ allLines post))) =
      pre.map Item.ok ++ [Item.err] := by
  obtain ⟨_, c2, c3, c4⟩ := hr.lines
  rw [decode_fileOf_pre pre _ hpre (clean_append (by simp [show Clean l1 from hl1, c2, c3, c4]) hpost), List.cons_append,
    fromLines_no_at _ _ _ hat]

example :
    let pre : List Fq := [⟨[97], [65, 67], [73, 73]⟩]
    let post : List Fq := [⟨[99], [84], [73]⟩]
    let r : Fq := ⟨[98], [71, 71, 71], [73, 74, 75]⟩
    let l1 : Bytes := [98]          -- the '@' was dropped
    (∀ q ∈ pre, WF q) ∧ (∀ q ∈ post, WF q) ∧ WF r ∧ (∀ b ∈ l1, b ≠ 10 ∧ b ≠ 13) ∧
      l1.head? ≠ some 64 := by
  decide

/-- (b1) The `'+'` line is replaced by a line that does not start with `'+'`. -/
theorem corrupt_plus (pre post : List Fq) (r : Fq) (pl : Bytes)
    (hpre : ∀ q ∈ pre, WF q) (hpost : ∀ q ∈ post, WF q) (hr : WF r)
    (hpl : ∀ b ∈ pl, b ≠ 10 ∧ b ≠ 13) (hplus : pl.head? ≠ some 43) :
    decode (fileOf (allLines pre ++ ([64 :: r.name, r.seq, pl, r.quals] ++ allLines post))) =
      pre.map Item.ok ++ [Item.err] := by
  obtain ⟨c1, c2, _, c4⟩ := hr.lines
  rw [decode_fileOf_pre pre _ hpre (clean_append (by simp [show Clean pl from hpl, c1, c2, c4]) hpost)]
  exact congrArg _ (fromLines_no_plus _ _ _ _ _ _ hplus)

example :
    let pre : List Fq := [⟨[97], [65, 67], [73, 73]⟩]
    let post : List Fq := [⟨[99], [84], [73]⟩]
    let r : Fq := ⟨[98], [71, 71, 71], [73, 74, 75]⟩
    let pl : Bytes := [45]
    (∀ q ∈ pre, WF q) ∧ (∀ q ∈ post, WF q) ∧ WF r ∧ (∀ b ∈ pl, b ≠ 10 ∧ b ≠ 13) ∧
      pl.head? ≠ some 43 := by
  decide

/-- (b2) The `'+'` line is dropped.  The quality line then stands where the `'+'` line is
expected, and the next record's `'@'` line where the qualities are expected.  That is
rejected unless the quality string happens to start with `'+'` **and** the next record's
name line is exactly as long as the sequence — `hq` excludes precisely that coincidence
(see the example after the theorem: without `hq` a record is fabricated). -/
theorem corrupt_plus_dropped (pre post : List Fq) (r : Fq)
    (hpre : ∀ q ∈ pre, WF q) (hpost : ∀ q ∈ post, WF q) (hr : WF r)
    (hq : r.quals.head? = some 43 → ∀ r2 ∈ post.head?, r2.name.length + 1 ≠ r.seq.length) :
    decode (fileOf (allLines pre ++ ([64 :: r.name, r.seq, r.quals] ++ allLines post))) =
      pre.map Item.ok ++ [Item.err] := by
  obtain ⟨c1, c2, _, c4⟩ := hr.lines
  rw [decode_fileOf_pre pre _ hpre (clean_append (by simp [c1, c2, c4]) hpost)]
  congr 1
  cases post with
  | nil => simp [fromLines, allLines]
  | cons r2 post =>
    simp only [allLines, List.cons_append, List.nil_append, List.map_cons, List.flatten_cons,
      recLines]
    by_cases hp : r.quals.head? = some 43
    · have hne := hq hp r2 (by simp)
      obtain ⟨t, ht⟩ : ∃ t, r.quals = 43 :: t := by
        cases hqs : r.quals with
        | nil => simp [hqs] at hp
        | cons b t => simp [hqs] at hp; exact ⟨t, by rw [hp]⟩
      rw [ht]
      simp [fromLines, hne]
    · exact fromLines_no_plus _ _ _ _ _ _ hp

example :
    let pre : List Fq := [⟨[97], [65, 67], [73, 73]⟩]
    let post : List Fq := [⟨[99], [84], [73]⟩]
    let r : Fq := ⟨[98], [71, 71, 71], [43, 74, 75]⟩   -- qualities start with '+'
    (∀ q ∈ pre, WF q) ∧ (∀ q ∈ post, WF q) ∧ WF r ∧
      (r.quals.head? = some 43 → ∀ r2 ∈ post.head?, r2.name.length + 1 ≠ r.seq.length) := by
  decide

/-- Why `hq` is needed: qualities `"+JK"`, next name line `"@cc"` of length 3 = |seq|.  With
the `'+'` line dropped the reader fabricates the record `(b, GGG, "@cc")` and then fails on
the following line — the claim `pre ++ [err]` does not hold. -/
example :
    decode (fileOf ([64 :: [98], [71, 71, 71], [43, 74, 75]] ++ allLines [⟨[99, 99], [84], [73]⟩])) =
      [Item.ok ⟨[98], [71, 71, 71], [64, 99, 99]⟩, Item.err] := by
  decide

/-- (c) The quality line is replaced by a CR/LF-free line of a different length. -/
theorem corrupt_quals_len (pre post : List Fq) (r : Fq) (q' : Bytes)
    (hpre : ∀ q ∈ pre, WF q) (hpost : ∀ q ∈ post, WF q) (hr : WF r)
    (hq' : ∀ b ∈ q', b ≠ 10 ∧ b ≠ 13) (hlen : q'.length ≠ r.seq.length) :
    decode (fileOf (allLines pre ++ ([64 :: r.name, r.seq, [43], q'] ++ allLines post))) =
      pre.map Item.ok ++ [Item.err] := by
  obtain ⟨c1, c2, c3, _⟩ := hr.lines
  rw [decode_fileOf_pre pre _ hpre (clean_append (by simp [show Clean q' from hq', c1, c2, c3]) hpost)]
  simp [fromLines, hlen]

example :
    let pre : List Fq := [⟨[97], [65, 67], [73, 73]⟩]
    let post : List Fq := [⟨[99], [84], [73]⟩]
    let r : Fq := ⟨[98], [71, 71, 71], [73, 74, 75]⟩
    let q' : Bytes := [73, 74]
    (∀ q ∈ pre, WF q) ∧ (∀ q ∈ post, WF q) ∧ WF r ∧ (∀ b ∈ q', b ≠ 10 ∧ b ≠ 13) ∧
      q'.length ≠ r.seq.length := by
  decide

/-- (d) The file ends after 1, 2 or 3 complete lines of `r`. -/
theorem corrupt_truncated (pre : List Fq) (r : Fq) (j : Nat)
    (hpre : ∀ q ∈ pre, WF q) (hr : WF r) (hj : 1 ≤ j ∧ j ≤ 3) :
    decode (fileOf (allLines pre ++ (recLines r).take j)) = pre.map Item.ok ++ [Item.err] := by
  rw [decode_fileOf_pre pre _ hpre fun l hl => recLines_clean r hr.1 l (List.mem_of_mem_take hl)]
  obtain ⟨h1, h3⟩ := hj
  have : j = 1 ∨ j = 2 ∨ j = 3 := by omega
  rcases this with rfl | rfl | rfl <;> simp [recLines, fromLines]

example :
    let pre : List Fq := [⟨[97], [65, 67], [73, 73]⟩]
    let r : Fq := ⟨[98], [71, 71, 71], [73, 74, 75]⟩
    (∀ q ∈ pre, WF q) ∧ WF r ∧ (1 ≤ 2 ∧ 2 ≤ 3) := by
  decide

/-! ## 4. Errors -/

/-- An error item is always the last item delivered (the iterator stops at the first error). -/
theorem err_only_last (e : Ending) (x : Bytes) :
    ∀ i, (decodeSrc e x)[i]? = some Item.err → i + 1 = (decodeSrc e x).length :=
  fromLines_err_last e (scanLines x)

/-! ## 5. Failing source (for C07) -/

/-- A source that delivers the first `k` bytes of a written file and then fails yields leading
records of the file, then exactly one error — never a record made from a cut line. -/
theorem fault_prefix_wf (rs : List Fq) (h : ∀ r ∈ rs, WF r) (k : Nat) :
    ∃ n, decodeSrc .fail ((encodeAll rs).take k) = (rs.take n).map Item.ok ++ [Item.err] := by
  obtain ⟨j, t, h1, h2⟩ := scanLines_take_lfFile _ (allLines_clean rs h) k
  rw [decodeSrc, encodeAll_eq_lines, h1]
  exact fromLines_fail_cut rs (fun r hr => (h r hr).2) j t h2

example :
    ∀ r ∈ ([⟨[114, 49], [65, 67, 71, 84], [73, 73, 73, 73]⟩, ⟨[114, 50], [71], [43]⟩] : List Fq),
      WF r := by
  decide

/-- The well-formedness hypothesis of `fault_prefix_wf` cannot be dropped (unlike FASTA): for
the malformed `x = "@a\nAC\n+\nIIII\n"` the clean decode is a single error, but a source failing
after 10 bytes delivers the record `(a, AC, II)` built from the cut quality line. -/
example :
    let x : Bytes := [64, 97, 10, 65, 67, 10, 43, 10, 73, 73, 73, 73, 10]
    decode x = [Item.err] ∧
      decodeSrc .fail (x.take 10) = [Item.ok ⟨[97], [65, 67], [73, 73]⟩, Item.err] := by
  decide

end Bio.Fastq

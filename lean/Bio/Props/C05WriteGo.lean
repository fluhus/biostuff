/-
  C05 for the Go SOURCE TEXT of the newick WRITER: `(*Node).newick` and `(*Node).MarshalText` of
  formats/newick/newick.go, as translated statement by statement on every run into
  `Bio.Generated.GoSrc.Node_newick` / `Node_MarshalText`, compute the hand-written model's text
  (`Newick.writeForest` of the single tree / `Newick.write`) on the quote set observed from the running
  code, for EVERY tree, buffer and fuel ≥ depth + 1 -- under `FFModel ff` (`%v` of the canonical distance
  token `t` is `t`) for the exact text; for ARBITRARY `ff`: append-only, no panic, `ff 0` never used, and
  the fuel bound `depth t + 1` is sharp.  Composed with the model's `tree_roundtrip`: what the translated
  `MarshalText` writes, the model reader decodes to the tree.

  Conventions: a `*Node` is `Newick.Tree`, `n.Children` is `kidsOf n`, `n.Distance` is `Tree.dist`
  (`none` = 0), the `*bytes.Buffer` is the list of bytes written so far, handed back; `none` = a Go panic
  or out of fuel.  Guarded by the translator's `<f>_Found` flags.
-/
import Bio.Lemmas.GoSrcNewickWrite
import Bio.Props.C05Inst
namespace Bio.Props.C05WriteGo
open Bio Bio.GoRt Bio.Generated Bio.Newick Bio.GoSrcLemmas Bio.GoSrcLemmas.NwkWr

/-- every translator flag this file depends on; the non-vacuity examples below are stated as
`allFound = false ∨ …` so that a source the translator no longer recognises is not an alarm -/
def allFound : Bool :=
  GoSrc.Node_newick_Found && GoSrc.Node_MarshalText_Found && GoSrc.nameToText_Found

/-! ## 1. `(*Node).newick` writes the model's text of the subtree -/

/-- For every tree, every buffer and every `fuel ≥ depth t + 1` (`depth` = height, a leaf has depth 0):
the translated `newick` appends to the buffer exactly what the model's `write` puts before the `;`. -/
theorem go_newick : GoSrc.Node_newick_Found = true → GoSrc.nameToText_Found = true →
    ∀ ff : Dist → Bytes, FFModel ff → ∀ (t : Tree) (buf : Bytes) (fuel : Nat), depth t + 1 ≤ fuel →
    GoSrc.Node_newick ff fuel t buf
      = some (buf ++ writeForest Generated.newickQuoteBytes (.cons t.name t.dist t.kids .nil)) := by
  intro hF hN ff hff t buf fuel hfuel
  rw [newick_char hF hN ff fuel t buf, if_pos hfuel, nodeText_model hff]; rfl

/-- … and the model's `write` is that text followed by `;`. -/
theorem write_eq_subtree_semicolon (qs : Bytes) (t : Tree) :
    write qs t = writeForest qs (.cons t.name t.dist t.kids .nil) ++ [59] := rfl

/-- The fuel bound is sharp: with `fuel ≤ depth t` the translation is out of fuel (`none`, no claim),
whatever `ff` and the buffer. -/
theorem go_newick_fuel_sharp : GoSrc.Node_newick_Found = true → GoSrc.nameToText_Found = true →
    ∀ (ff : Dist → Bytes) (t : Tree) (buf : Bytes) (fuel : Nat), fuel ≤ depth t →
    GoSrc.Node_newick ff fuel t buf = none := by
  intro hF hN ff t buf fuel hfuel
  rw [newick_char hF hN ff fuel t buf, if_neg (by omega)]

/-! ## 2. `MarshalText` is the model's `write` -/

theorem go_MarshalText : GoSrc.Node_MarshalText_Found = true → GoSrc.Node_newick_Found = true →
    GoSrc.nameToText_Found = true →
    ∀ ff : Dist → Bytes, FFModel ff → ∀ (t : Tree) (fuel : Nat), depth t + 1 ≤ fuel →
    GoSrc.Node_MarshalText ff fuel t = some (write Generated.newickQuoteBytes t, GoErr.nil) := by
  intro hM hF hN ff hff t fuel hfuel
  rw [marshal_char hM hF hN ff fuel t, if_pos hfuel, nodeText_model hff]; rfl

/-! ## 3. The buffer is only appended to (ARBITRARY `ff`, ARBITRARY fuel) -/

theorem go_newick_append_only : GoSrc.Node_newick_Found = true → GoSrc.nameToText_Found = true →
    ∀ (ff : Dist → Bytes) (fuel : Nat) (t : Tree) (buf r : Bytes),
    GoSrc.Node_newick ff fuel t buf = some r → ∃ s, r = buf ++ s := by
  intro hF hN ff fuel t buf r h
  rw [newick_char hF hN ff fuel t buf] at h
  split at h
  · exact ⟨_, (Option.some.inj h).symm⟩
  · cases h

/-- … and what is appended does not depend on what the buffer held. -/
theorem go_newick_buf_independent : GoSrc.Node_newick_Found = true → GoSrc.nameToText_Found = true →
    ∀ (ff : Dist → Bytes) (fuel : Nat) (t : Tree) (buf : Bytes),
    GoSrc.Node_newick ff fuel t buf = (GoSrc.Node_newick ff fuel t []).map (buf ++ ·) := by
  intro hF hN ff fuel t buf
  rw [newick_char hF hN ff fuel t buf, newick_char hF hN ff fuel t []]
  split <;> simp

/-! ## 4. No panic (ARBITRARY `ff`, every tree however deep or wide) -/

theorem go_newick_no_panic : GoSrc.Node_newick_Found = true → GoSrc.nameToText_Found = true →
    ∀ (ff : Dist → Bytes) (t : Tree) (buf : Bytes) (fuel : Nat), depth t + 1 ≤ fuel →
    GoSrc.Node_newick ff fuel t buf ≠ none := by
  intro hF hN ff t buf fuel hfuel
  rw [newick_char hF hN ff fuel t buf, if_pos hfuel]; simp

theorem go_MarshalText_no_panic : GoSrc.Node_MarshalText_Found = true →
    GoSrc.Node_newick_Found = true → GoSrc.nameToText_Found = true →
    ∀ (ff : Dist → Bytes) (t : Tree) (fuel : Nat), depth t + 1 ≤ fuel →
    GoSrc.Node_MarshalText ff fuel t ≠ none := by
  intro hM hF hN ff t fuel hfuel
  rw [marshal_char hM hF hN ff fuel t, if_pos hfuel]; simp

/-- `ff 0` is never used (the code tests `n.Distance != 0` first): two `%v`s that agree on the non-zero
distances give the same result, for every fuel, tree and buffer. -/
theorem go_newick_ff_none_unused : GoSrc.Node_newick_Found = true → GoSrc.nameToText_Found = true →
    ∀ (ff ff' : Dist → Bytes), (∀ t : Bytes, ff (some t) = ff' (some t)) →
    ∀ (fuel : Nat) (t : Tree) (buf : Bytes),
    GoSrc.Node_newick ff fuel t buf = GoSrc.Node_newick ff' fuel t buf := by
  intro hF hN ff ff' h fuel t buf
  rw [newick_char hF hN ff fuel t buf, newick_char hF hN ff' fuel t buf, nodeText_congr h]

/-! ## 5. What the translated `MarshalText` writes, the model reader reads back -/

theorem go_write_read_model : GoSrc.Node_MarshalText_Found = true → GoSrc.Node_newick_Found = true →
    GoSrc.nameToText_Found = true →
    ∀ ff : Dist → Bytes, FFModel ff → ∀ (pd : Bytes → Option Dist) (t : Tree),
    t.AllDist (DistOK pd) → ∀ fuel : Nat, depth t + 1 ≤ fuel →
    ∃ txt : Bytes, GoSrc.Node_MarshalText ff fuel t = some (txt, GoErr.nil)
      ∧ Newick.decode pd txt = [Item.ok t]
      ∧ ∀ rest : Bytes, Newick.readTree pd .eof (txt ++ rest) = ReadRes.tree t rest := by
  intro hM hF hN ff hff pd t hd fuel hfuel
  refine ⟨_, go_MarshalText hM hF hN ff hff t fuel hfuel, ?_, ?_⟩
  · exact Newick.decodeSrc_write _ pd Newick.generated_quoteSet_ok t hd
  · exact fun rest => Newick.tree_roundtrip _ pd Newick.generated_quoteSet_ok t hd rest

/-! ## Non-vacuity -/

/-- the concrete `%v`: the canonical token itself (anything for 0) -/
def ffEx : Dist → Bytes := fun d => d.getD []

example : FFModel ffEx := fun _ => rfl

/-- (A:1,((z,)x_y:2.5)'b (c''')root:1 -- depth 3, two children at two places, distances on three nodes,
an unnamed leaf, a name with a space (written `_`), a name with `(` and `'` (quoted, the quote doubled). -/
def exT : Tree :=
  ⟨[114, 111, 111, 116], some [49],
    .cons [65] (some [49]) .nil
      (.cons [98, 32, 40, 99, 39] none
        (.cons [120, 32, 121] (some [50, 46, 53])
          (.cons [122] none .nil (.cons [] none .nil .nil)) .nil)
        .nil)⟩

example : depth exT = 3 := by decide +kernel
example : exT.AllDist (DistOK Newick.pdEx) := by decide +kernel
example : allFound = false ∨ allFound = true := by decide +kernel

-- the exact bytes, appended to a non-empty buffer, with fuel exactly depth + 1
example : allFound = false ∨ GoSrc.Node_newick ffEx 4 exT [1, 2] =
    some [1, 2, 40, 65, 58, 49, 44, 40, 40, 122, 44, 41, 120, 95, 121, 58, 50, 46, 53, 41,
      39, 98, 32, 40, 99, 39, 39, 39, 41, 114, 111, 111, 116, 58, 49] := by decide +kernel

-- "(A:1,((z,)x_y:2.5)'b (c''')root:1;"
example : allFound = false ∨ GoSrc.Node_MarshalText ffEx 4 exT =
    some ([40, 65, 58, 49, 44, 40, 40, 122, 44, 41, 120, 95, 121, 58, 50, 46, 53, 41,
      39, 98, 32, 40, 99, 39, 39, 39, 41, 114, 111, 111, 116, 58, 49, 59], GoErr.nil) := by decide +kernel

example : allFound = false ∨
    GoSrc.Node_MarshalText ffEx 4 exT = some (write Generated.newickQuoteBytes exT, GoErr.nil) := by
  decide +kernel

-- fuel = depth is out of fuel; more fuel changes nothing
example : allFound = false ∨ (GoSrc.Node_newick ffEx 3 exT [] = none
    ∧ GoSrc.Node_MarshalText ffEx 3 exT = none
    ∧ GoSrc.Node_MarshalText ffEx 9 exT = GoSrc.Node_MarshalText ffEx 4 exT) := by decide +kernel

-- a leaf needs (exactly) one unit of fuel
example : allFound = false ∨ (GoSrc.Node_newick ffEx 1 ⟨[97, 32, 98], none, .nil⟩ [] = some [97, 95, 98]
    ∧ GoSrc.Node_newick ffEx 0 ⟨[97, 32, 98], none, .nil⟩ [] = none) := by decide +kernel

-- `ff 0` is not looked at: a `%v` that writes garbage for 0 gives the same text
example : allFound = false ∨
    GoSrc.Node_MarshalText (fun d => match d with | none => [1, 2, 3] | some t => t) 4 exT
      = GoSrc.Node_MarshalText ffEx 4 exT := by decide +kernel

-- without `FFModel` the text is still produced (no panic), e.g. with a `%v` that writes "?" for everything
example : allFound = false ∨ GoSrc.Node_MarshalText (fun _ => [63]) 4 exT =
    some ([40, 65, 58, 63, 44, 40, 40, 122, 44, 41, 120, 95, 121, 58, 63, 41,
      39, 98, 32, 40, 99, 39, 39, 39, 41, 114, 111, 111, 116, 58, 63, 59], GoErr.nil) := by decide +kernel

-- the model reader reads the translated writer's text back
example : allFound = false ∨
    ((GoSrc.Node_MarshalText ffEx 4 exT).map fun r => Newick.decode Newick.pdEx r.1) = some [Item.ok exT] := by
  first
  | (left; decide)
  | (right
     obtain ⟨txt, h1, h2, _⟩ := go_write_read_model (by decide) (by decide) (by decide) ffEx (fun _ => rfl)
       Newick.pdEx exT (by decide) 4 (by decide)
     rw [h1]; simp [h2])

end Bio.Props.C05WriteGo

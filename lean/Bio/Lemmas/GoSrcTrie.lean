/-
  trie/trie.go at the Go SOURCE level: the interface (`HWF` / `Rep`) and histories.

  `Bio.Generated.GoSrc.New` / `Trie_Add` / `Trie_Has` / `Trie_Delete` are translated statement by
  statement from trie/trie.go over an explicit heap (see `GoSrcTrie1`).  This file packages the loop
  lemmas of parts 2 and 3 as a REFINEMENT of the hand model `Bio.Trie` (`add` / `has` / `del`):

    HWF heap root → Rep heap root t →
      Trie_Has  fuel heap root b = some (has b t)
      Trie_Add  fuel heap root b = some heap'        with  HWF heap' root ∧ Rep heap' root (add b t)
      Trie_Delete    heap root b = some (false, heap)                      if del b t = none
                                 = some (true, heap') with … Rep heap' root t'   if del b t = some t'

  and lifts it to every history of `Add` / `Delete` calls (`goRun`) from `New()`.
  Guarded by the translator's `<f>_Found` flags as in `Bio.Lemmas.GoSrc`.
-/
import Bio.Lemmas.GoSrcTrie3
namespace Bio.GoSrcLemmas
namespace TrieGo
open Bio Bio.GoRt Bio.Generated Bio.Trie

theorem of_good {heap : Heap} {n : Nat} {t : T} {S : List Nat} (hg : Good heap n t S) :
    HWF heap (n : Int) ∧ Rep heap (n : Int) t := by
  obtain ⟨es, hn, hr, hnd, hk⟩ := hg
  exact ⟨⟨n, t, S, rfl, es, hn, hr, hnd, hk⟩, ⟨n, es, S, rfl, hn, hr⟩⟩

theorem rep_of_hwf {heap : Heap} {root : Int} (hw : HWF heap root) : ∃ t, Rep heap root t := by
  obtain ⟨n, t, S, hroot, hg⟩ := hw
  exact ⟨t, hroot ▸ (of_good hg).2⟩

theorem rep_unique {heap : Heap} {root : Int} {t t' : T} (h : Rep heap root t) (h' : Rep heap root t') :
    t = t' := by
  obtain ⟨n, es, S, hroot, hn, hre⟩ := h
  obtain ⟨n', es', S', hroot', hn', hre'⟩ := h'
  have hnn : n = n' := Int.ofNat.inj (hroot.symm.trans hroot')
  subst hnn
  rw [hn] at hn'
  cases hn'
  exact (hre.det hre').1

theorem good_of {heap : Heap} {root : Int} {t : T} (hw : HWF heap root) (hr : Rep heap root t) :
    ∃ (n : Nat) (S : List Nat), root = (n : Int) ∧ Good heap n t S := by
  obtain ⟨n, t0, S, rfl, hg⟩ := hw
  cases rep_unique (of_good hg).2 hr
  exact ⟨n, S, rfl, hg⟩

theorem RepE.noDupKeys {heap : Heap} {es t S} (h : RepE heap es t S) :
    (es.map Prod.fst).Nodup → KeysOK heap S → NoDupKeys t := by
  induction h with
  | nil => intro _ _; exact noDupKeys_nil
  | @cons k v c es' es tc tr Sc Sr hv hc hc1 hr1 ih1 ih2 =>
    intro hnd hk
    rw [List.map_cons, List.nodup_cons] at hnd
    have hkr : hasKey k tr = false := by
      rw [← Bool.not_eq_true, hasKey_iff_mem_tkeys, hr1.keys]; exact hnd.1
    exact noDupKeys_cons.2 ⟨hkr, ih1 (hk c (by simp) es' hc) fun x hx => hk x (by simp [hx]),
      ih2 hnd.2 fun x hx => hk x (by simp [hx])⟩

theorem noDupKeys_of_good {heap : Heap} {n : Nat} {t : T} {S : List Nat} (hg : Good heap n t S) :
    NoDupKeys t := by
  obtain ⟨es, hn, hr⟩ := hg.cell
  exact hr.noDupKeys (hg.keysNodup hn) hg.keysOK

theorem good_new (heap : Heap) : Good (heap ++ [[]]) heap.length .nil [] := by
  refine ⟨[], by simp, .nil, by simp, ?_⟩
  intro x hx es hes
  simp only [List.mem_singleton] at hx
  subst hx
  simp at hes
  subst hes
  simp

theorem good_append {heap : Heap} {n : Nat} {t : T} {S : List Nat} (hg : Good heap n t S)
    (X : Heap) : Good (heap ++ X) n t S := by
  obtain ⟨es, hn, hr⟩ := hg.cell
  refine Good.frame hg fun x hx => List.getElem?_append_left ?_
  rcases List.mem_cons.1 hx with rfl | hx
  · exact (List.getElem?_eq_some_iff.1 hn).1
  · exact hr.lt x hx

/-! ## A decidable sufficient check (for concrete heaps) -/

/-- the abstraction as a function: the trie and the footprint of an edge list, `none` when a pointer
is nil / dangling or the fuel (nesting of children and siblings) runs out -/
def absE (heap : Heap) : Nat → List (UInt8 × Int) → Option (T × List Nat)
  | 0, _ => none
  | _ + 1, [] => some (.nil, [])
  | fuel + 1, (k, v) :: es =>
    if v < 0 then none else
      match heap[v.toNat]? with
      | none => none
      | some es' =>
        match absE heap fuel es', absE heap fuel es with
        | some (tc, Sc), some (tr, Sr) => some (.cons k tc tr, v.toNat :: (Sc ++ Sr))
        | _, _ => none

/-- the sub-trie below pointer `root`, with its footprint -/
def absT (heap : Heap) (fuel : Nat) (root : Int) : Option (T × List Nat) :=
  if root < 0 then none else
    match heap[root.toNat]? with
    | none => none
    | some es => absE heap fuel es

def keysOKb (heap : Heap) (S : List Nat) : Bool :=
  S.all fun x => match heap[x]? with
    | some es => decide (es.map Prod.fst).Nodup
    | none => true

def checkHWF (heap : Heap) (fuel : Nat) (root : Int) : Bool :=
  match absT heap fuel root with
  | none => false
  | some (_, S) => decide (root.toNat :: S).Nodup && keysOKb heap (root.toNat :: S)

theorem absE_sound (heap : Heap) : ∀ (fuel : Nat) (es : List (UInt8 × Int)) (t : T) (S : List Nat),
    absE heap fuel es = some (t, S) → RepE heap es t S := by
  intro fuel
  induction fuel with
  | zero => intro es t S h; simp [absE] at h
  | succ fuel ih =>
    intro es t S h
    cases es with
    | nil =>
      simp only [absE, Option.some.injEq, Prod.mk.injEq] at h
      obtain ⟨rfl, rfl⟩ := h
      exact .nil
    | cons e es =>
      obtain ⟨k, v⟩ := e
      simp only [absE] at h
      split at h
      · cases h
      · rename_i hv
        split at h
        · cases h
        · rename_i es' hes'
          split at h
          · rename_i tc Sc tr Sr h1 h2
            simp only [Option.some.injEq, Prod.mk.injEq] at h
            obtain ⟨rfl, rfl⟩ := h
            exact .cons (by omega) hes' (ih _ _ _ h1) (ih _ _ _ h2)
          · cases h

theorem keysOK_of_b {heap : Heap} {S : List Nat} (h : keysOKb heap S = true) : KeysOK heap S := by
  intro x hx es hes
  have := (List.all_eq_true.1 h) x hx
  simpa [hes] using this

theorem checkHWF_sound {heap : Heap} {fuel : Nat} {root : Int} (h : checkHWF heap fuel root = true) :
    ∀ t S, absT heap fuel root = some (t, S) → HWF heap root ∧ Rep heap root t := by
  intro t S ha
  simp only [checkHWF, ha, Bool.and_eq_true, decide_eq_true_eq] at h
  simp only [absT] at ha
  split at ha
  · cases ha
  · rename_i hroot
    split at ha
    · cases ha
    · rename_i es hes
      have hr := absE_sound heap fuel es t S ha
      have e : root = (root.toNat : Int) := by omega
      have hg : Good heap root.toNat t S := ⟨es, hes, hr, h.1, keysOK_of_b h.2⟩
      rw [e]
      exact of_good hg

theorem checkHWF_hwf {heap : Heap} {fuel : Nat} {root : Int} (h : checkHWF heap fuel root = true) :
    HWF heap root := by
  cases ha : absT heap fuel root with
  | none => simp [checkHWF, ha] at h
  | some p => exact (checkHWF_sound h p.1 p.2 ha).1

def opBytes : Op → Bytes
  | .add b => b
  | .del b => b

/-- one call of the history on the Go side: the flag returned (`Delete` only) and the new heap -/
def goStep (fuel : Nat) (op : Op) (heap : Heap) (root : Int) : Option (Option Bool × Heap) :=
  match op with
  | .add b => (GoSrc.Trie_Add fuel heap root b).map fun h => (none, h)
  | .del b => (GoSrc.Trie_Delete heap root b).map fun r => (some r.1, r.2)

/-- a history of calls on the Go side, all on the same root pointer: the flags and the final heap -/
def goRun (fuel : Nat) : List Op → Heap × Int → Option (List (Option Bool) × Heap)
  | [], (heap, _) => some ([], heap)
  | op :: ops, (heap, root) =>
    (goStep fuel op heap root).bind fun r =>
      (goRun fuel ops (r.2, root)).map fun rs => (r.1 :: rs.1, rs.2)

/-- `t := New(); <history>` -/
def goHistory (fuel : Nat) (ops : List Op) : Option (List (Option Bool) × Heap × Int) :=
  (GoSrc.New []).bind fun r => (goRun fuel ops (r.2, r.1)).map fun rs => (rs.1, rs.2, r.1)

theorem goStep_good (hN : GoSrc.New_Found = true) (hA : GoSrc.Trie_Add_Found = true)
    (hD : GoSrc.Trie_Delete_Found = true) (fuel : Nat) (op : Op) (heap : Heap) (n : Nat) (t : T)
    (S : List Nat) (hg : Good heap n t S) (hf : (opBytes op).length + 1 ≤ fuel) :
    ∃ heap' S', goStep fuel op heap (n : Int) = some ((step op t).2, heap') ∧
      Good heap' n (step op t).1 S' := by
  cases op with
  | add b =>
    obtain ⟨heap', S', h1, h2, _⟩ := Add_eq hN hA fuel heap n t S b hg hf
    exact ⟨heap', S', by simp [goStep, h1, step], h2⟩
  | del b =>
    obtain ⟨r, h1, h2⟩ := Delete_eq hD heap n t S b hg
    cases hd : del b t with
    | none =>
      rw [hd] at h2
      exact ⟨heap, S, by simp [goStep, h1, h2, step, hd], by simpa [step, hd] using hg⟩
    | some t' =>
      rw [hd] at h2
      obtain ⟨S', h3, h4, _⟩ := h2
      exact ⟨r.2, S', by simp [goStep, h1, ← h3, step, hd], by simpa [step, hd] using h4⟩

theorem goRun_good (hN : GoSrc.New_Found = true) (hA : GoSrc.Trie_Add_Found = true)
    (hD : GoSrc.Trie_Delete_Found = true) (fuel : Nat) :
    ∀ (ops : List Op) (heap : Heap) (n : Nat) (t : T) (S : List Nat), Good heap n t S →
      (∀ op ∈ ops, (opBytes op).length + 1 ≤ fuel) →
      ∃ heap' S', goRun fuel ops (heap, (n : Int)) = some (results ops t, heap') ∧
        Good heap' n (run ops t) S' := by
  intro ops
  induction ops with
  | nil => intro heap n t S hg _; exact ⟨heap, S, rfl, hg⟩
  | cons op ops ih =>
    intro heap n t S hg hf
    obtain ⟨heap1, S1, h1, g1⟩ := goStep_good hN hA hD fuel op heap n t S hg (hf op (by simp))
    obtain ⟨heap2, S2, h2, g2⟩ := ih heap1 n (step op t).1 S1 g1 fun o ho => hf o (by simp [ho])
    exact ⟨heap2, S2, by simp [goRun, h1, h2, results], by simpa [run] using g2⟩

theorem goHistory_good (hN : GoSrc.New_Found = true) (hA : GoSrc.Trie_Add_Found = true)
    (hD : GoSrc.Trie_Delete_Found = true) (fuel : Nat) (ops : List Op)
    (hf : ∀ op ∈ ops, (opBytes op).length + 1 ≤ fuel) :
    ∃ heap' S', goHistory fuel ops = some (results ops .nil, heap', 0) ∧
      Good heap' 0 (run ops .nil) S' := by
  have hnew := New_eq hN []
  have hg : Good ([] ++ [[]]) ([] : Heap).length .nil [] := good_new []
  obtain ⟨heap', S', h1, h2⟩ := goRun_good hN hA hD fuel ops _ _ _ _ hg hf
  refine ⟨heap', S', ?_, h2⟩
  simp only [List.length_nil, List.nil_append] at hnew h1
  have hnew' : GoSrc.New [] = some ((0 : Int), [[]]) := hnew
  have h1' : goRun fuel ops ([[]], (0 : Int)) = some (results ops .nil, heap') := h1
  simp [goHistory, hnew', h1']

end TrieGo
end Bio.GoSrcLemmas

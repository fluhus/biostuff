/-
  Generic lemmas for the shipped substitution matrices (`Bio/Generated/Tables.lean`,
  regenerated from the running Go code): an association list whose entries are
  "all pairs over an alphabet `s`, row-major" is a square matrix given by rows; an
  executable check (`tableCheck`: read the rows off the table in one pass, then symmetry of
  the square and the gap-open entry) with its soundness theorem.  Nothing here mentions a
  concrete table; `Bio/Props/C09Tables.lean` runs the check on each generated table by
  `decide +kernel`.

  Why not check `∀ x y ∈ alphabet, lookup T x y = lookup T y x` directly by `decide`: every one
  of the `|s|²` look-ups walks the list, so that check is quadratic in the size of the table; the
  check below is linear in it.
-/
import Bio.Lemmas.Align
import Bio.Lemmas.Assoc
namespace Bio.Tables
open Bio.Align

abbrev Table := List ((UInt8 × UInt8) × Int)

theorem lookup_cons_eq (a k : UInt8) (b : β) (as : List (UInt8 × β)) :
    ((k, b) :: as).lookup a = if a = k then some b else as.lookup a := by
  rw [List.lookup_cons]
  by_cases h : a = k
  · simp [h]
  · have : (a == k) = false := by simpa using h
    rw [this]; simp [h]

theorem lookup_zip_map (f : α → β) (s : List UInt8) (R : List α) (x : UInt8) :
    (s.zip (R.map f)).lookup x = ((s.zip R).lookup x).map f := by
  induction s generalizing R with
  | nil => simp
  | cons a s ih =>
    cases R with
    | nil => simp
    | cons r R =>
      simp only [List.map_cons, List.zip_cons_cons, lookup_cons_eq]
      by_cases h : x = a <;> simp [h, ih]

/-- Row/column matrix view: alphabet `s`, rows `R`. -/
def mlookup (s : List UInt8) (R : List (List Int)) (x y : UInt8) : Option Int :=
  ((s.zip R).lookup x).bind fun r => (s.zip r).lookup y

/-- Linear-time symmetry check of a square matrix given by rows: the rest of the first
row equals the rest of the first column, and the remaining minor is symmetric.  The `Nat` is the
dimension; it is there as fuel, since the recursion on `R'.map List.tail` is not structural. -/
def symRec : Nat → List (List Int) → Bool
  | 0, R => R.isEmpty
  | _ + 1, [] => true
  | _ + 1, [] :: _ => false
  | n + 1, (_ :: r) :: R' => (r.map some == R'.map List.head?) && symRec n (R'.map List.tail)

theorem mlookup_cons (a : UInt8) (s : List UInt8) (d : Int) (r : List Int) (R : List (List Int))
    (x y : UInt8) :
    mlookup (a :: s) ((d :: r) :: R) x y =
      if x = a then (if y = a then some d else (s.zip r).lookup y)
      else if y = a then ((s.zip R).lookup x).bind List.head?
      else mlookup s (R.map List.tail) x y := by
  unfold mlookup
  simp only [List.zip_cons_cons, lookup_cons_eq]
  by_cases hx : x = a
  · simp [hx, lookup_cons_eq]
  · simp only [hx, if_false]
    rw [lookup_zip_map]
    cases (s.zip R).lookup x with
    | none => simp
    | some row =>
      cases row with
      | nil => simp
      | cons h t => by_cases hy : y = a <;> simp [hy, lookup_cons_eq]

theorem symRec_sound (n : Nat) (R : List (List Int)) (h : symRec n R = true) (s : List UInt8)
    (x y : UInt8) : mlookup s R x y = mlookup s R y x := by
  induction n generalizing R s with
  | zero =>
    simp only [symRec, List.isEmpty_iff] at h
    subst h; simp [mlookup]
  | succ n ih =>
    match R, h with
    | [], _ => simp [mlookup]
    | (d :: r) :: R', h =>
      simp only [symRec, Bool.and_eq_true, beq_iff_eq] at h
      obtain ⟨hcol, hrec⟩ := h
      cases s with
      | nil => simp [mlookup]
      | cons a s =>
        have hB : ∀ z, (s.zip r).lookup z = ((s.zip R').lookup z).bind List.head? := by
          intro z
          have h1 : ((s.zip r).lookup z).map some = ((s.zip R').lookup z).map List.head? := by
            rw [← lookup_zip_map, ← lookup_zip_map, hcol]
          -- `h1` relates the two look-ups; only "both found" leaves something to say
          cases hr : (s.zip r).lookup z with
          | none => cases hR : (s.zip R').lookup z <;> simp [hr, hR] at h1 ⊢
          | some v =>
            cases hR : (s.zip R').lookup z with
            | none => simp [hr, hR] at h1
            | some row => simpa [hr, hR] using h1
        rw [mlookup_cons, mlookup_cons]
        by_cases hx : x = a <;> by_cases hy : y = a
        · simp [hx, hy]
        · simp [hx, hy, hB]
        · simp [hx, hy, hB]
        · simp only [hx, hy, if_false]
          exact ih _ hrec s


def rowEntries (s : List UInt8) (x : UInt8) (r : List Int) : Table :=
  (s.zip r).map fun p => ((x, p.1), p.2)

/-- The association list of the matrix with rows `P` (row label, row values), columns `s`. -/
def build (s : List UInt8) (P : List (UInt8 × List Int)) : Table :=
  P.flatMap fun p => rowEntries s p.1 p.2

/-! `lookup T x y` is `Assoc.get T (x, y)`. -/

theorem lookup_cons (e : (UInt8 × UInt8) × Int) (T : Table) (x y : UInt8) :
    lookup (e :: T) x y = if e.1 = (x, y) then some e.2 else lookup T x y :=
  Assoc.get_cons e T (x, y)

theorem lookup_append (A B : Table) (x y : UInt8) :
    lookup (A ++ B) x y = (lookup A x y).or (lookup B x y) := Assoc.get_append A B (x, y)

theorem lookup_rowEntries_aux (q : List (UInt8 × Int)) (x0 x y : UInt8) :
    lookup (q.map fun p => ((x0, p.1), p.2)) x y = if x = x0 then q.lookup y else none := by
  induction q with
  | nil => simp [lookup]
  | cons p q ih =>
    obtain ⟨k, v⟩ := p
    rw [List.map_cons, lookup_cons, ih, lookup_cons_eq]
    by_cases hx : x = x0 <;> by_cases hy : y = k <;> simp [hx, hy, Ne.symm, eq_comm]

theorem lookup_rowEntries (s : List UInt8) (r : List Int) (x0 x y : UInt8) :
    lookup (rowEntries s x0 r) x y = if x = x0 then (s.zip r).lookup y else none :=
  lookup_rowEntries_aux _ x0 x y

theorem lookup_build (s : List UInt8) (P : List (UInt8 × List Int)) (hP : (P.map Prod.fst).Nodup)
    (x y : UInt8) :
    lookup (build s P) x y = (P.lookup x).bind fun r => (s.zip r).lookup y := by
  induction P with
  | nil => simp [build, lookup]
  | cons p P ih =>
    obtain ⟨x0, r0⟩ := p
    rw [List.map_cons, List.nodup_cons] at hP
    have ih := ih hP.2
    have hb : build s ((x0, r0) :: P) = rowEntries s x0 r0 ++ build s P := by
      simp [build]
    rw [hb, lookup_append, lookup_rowEntries, lookup_cons_eq, ih]
    by_cases hx : x = x0
    · subst hx
      have : P.lookup x = none := by
        rw [List.lookup_eq_none_iff]
        intro p hp
        simp only [bne_iff_ne, ne_eq]
        intro e
        exact hP.1 (List.mem_map.2 ⟨p, hp, e.symm⟩)
      simp [this]
    · simp [hx]

theorem map_fst_zip_sublist (s : List α) (R : List β) : ((s.zip R).map Prod.fst).Sublist s := by
  induction s generalizing R with
  | nil => simp
  | cons a s ih =>
    cases R with
    | nil => simp
    | cons r R => simpa using ih R

theorem lookup_build_zip (s : List UInt8) (hs : s.Nodup) (R : List (List Int)) (x y : UInt8) :
    lookup (build s (s.zip R)) x y = mlookup s R x y :=
  lookup_build s _ ((map_fst_zip_sublist s R).nodup hs) x y

/-- All pairs over `s`, row-major. -/
def expectedKeys (s : List UInt8) : List (UInt8 × UInt8) :=
  s.flatMap fun x => s.map fun y => (x, y)

theorem mem_expectedKeys (s : List UInt8) (x y : UInt8) :
    (x, y) ∈ expectedKeys s ↔ x ∈ s ∧ y ∈ s := by
  simp [expectedKeys]

theorem length_expectedKeys (s : List UInt8) : (expectedKeys s).length = s.length * s.length := by
  simp [expectedKeys, List.length_flatMap, List.map_const', List.sum_replicate_nat]

theorem nodup_expectedKeys (s : List UInt8) (hs : s.Nodup) : (expectedKeys s).Nodup := by
  unfold expectedKeys
  rw [List.nodup_iff_pairwise_ne, List.pairwise_flatMap]
  constructor
  · intro a _
    rw [List.pairwise_map]
    exact hs.imp fun h e => h (by simpa using e)
  · exact hs.imp fun h p hp q hq e => by
      simp only [List.mem_map] at hp hq
      obtain ⟨_, _, rfl⟩ := hp
      obtain ⟨_, _, rfl⟩ := hq
      exact h (Prod.mk.inj e).1

theorem lookup_isSome_iff (T : Table) (x y : UInt8) :
    (lookup T x y).isSome ↔ (x, y) ∈ T.map (·.1) := Assoc.get_isSome_iff T (x, y)

/-- The values of the row of `x`: `T` must begin with the entries `(x, y)`, `y` over `cols` in that
order.  Also returns the rest of `T`. -/
def readRow (x : UInt8) : List UInt8 → Table → Option (List Int × Table)
  | [], T => some ([], T)
  | y :: ys, e :: T =>
    if e.1 = (x, y) then (readRow x ys T).map fun p => (e.2 :: p.1, p.2) else none
  | _ :: _, [] => none

/-- The rows of `T`: it must consist of the rows of `xs`, each over `cols`, and nothing else. -/
def readRows (cols : List UInt8) : List UInt8 → Table → Option (List (List Int))
  | [], T => if T.isEmpty then some [] else none
  | x :: xs, T => (readRow x cols T).bind fun p => (readRows cols xs p.2).map (p.1 :: ·)

theorem readRow_eq {x : UInt8} {cols : List UInt8} {T T' : Table} {vs : List Int}
    (h : readRow x cols T = some (vs, T')) :
    T = rowEntries cols x vs ++ T' ∧ (rowEntries cols x vs).map (·.1) = cols.map fun y => (x, y) := by
  induction cols generalizing T vs with
  | nil =>
    obtain ⟨rfl, rfl⟩ : [] = vs ∧ T = T' := by simpa [readRow] using h
    exact ⟨rfl, rfl⟩
  | cons y ys ih =>
    match T, h with
    | e :: T, h =>
      rw [readRow] at h
      split at h
      · rename_i he
        obtain ⟨p, hp, hv⟩ := Option.map_eq_some_iff.1 h
        obtain ⟨rfl, rfl⟩ : e.2 :: p.1 = vs ∧ p.2 = T' := by simpa using hv
        obtain ⟨rfl, hk⟩ := ih hp
        obtain ⟨k, v⟩ := e
        subst he
        exact ⟨rfl, congrArg ((x, y) :: ·) hk⟩
      · cases h

/-- One pass over `T` recovers its rows, and shows that `T` is their row-by-row layout with key
column all pairs over `xs` and `cols`. -/
theorem readRows_eq {cols xs : List UInt8} {T : Table} {R : List (List Int)}
    (h : readRows cols xs T = some R) :
    T = build cols (xs.zip R) ∧
      T.map (·.1) = xs.flatMap fun x => cols.map fun y => (x, y) := by
  induction xs generalizing T R with
  | nil =>
    rw [readRows] at h
    split at h
    · rename_i hT
      rw [List.isEmpty_iff.1 hT]; exact ⟨rfl, rfl⟩
    · cases h
  | cons x xs ih =>
    rw [readRows] at h
    obtain ⟨p, hp, h⟩ := Option.bind_eq_some_iff.1 h
    obtain ⟨R', hR', rfl⟩ := Option.map_eq_some_iff.1 h
    obtain ⟨hT, hk⟩ := readRow_eq (vs := p.1) (T' := p.2) hp
    obtain ⟨hT', hk'⟩ := ih hR'
    rw [hT, List.map_append, hk, hk']
    exact ⟨congrArg (rowEntries cols x p.1 ++ ·) hT', rfl⟩

/-- One pass over the table, plus work linear in its size:
* it consists of one entry for each pair over `s`, row-major (anything missing, extra or out of
  place makes `readRows` fail);
* the square of values read off is symmetric;
* the `(GAP, GAP)` entry is `0`. -/
def tableCheck (s : List UInt8) (T : Table) : Bool :=
  match readRows s s T with
  | some R => symRec s.length R && decide (mlookup s R GAP GAP = some 0)
  | none => false

theorem tableCheck_sound (s : List UInt8) (hs : s.Nodup) (T : Table)
    (h : tableCheck s T = true) :
    T.map (·.1) = expectedKeys s ∧ (∀ x y, lookup T x y = lookup T y x) ∧
      lookup T GAP GAP = some 0 := by
  unfold tableCheck at h
  split at h
  · rename_i R hR
    obtain ⟨hT, hk⟩ := readRows_eq hR
    rw [Bool.and_eq_true, decide_eq_true_eq] at h
    have hl : ∀ x y, lookup T x y = mlookup s R x y := by
      rw [hT]; exact lookup_build_zip s hs R
    exact ⟨hk, fun x y => by rw [hl, hl]; exact symRec_sound _ _ h.1 s x y, by rw [hl]; exact h.2⟩
  · cases h

theorem total_of_keys (s : List UInt8) (T : Table) (hk : T.map (·.1) = expectedKeys s) :
    ∀ x ∈ s, ∀ y ∈ s, (lookup T x y).isSome := by
  intro x hx y hy
  rw [lookup_isSome_iff, hk, mem_expectedKeys]
  exact ⟨hx, hy⟩

theorem none_of_keys (s : List UInt8) (T : Table) (hk : T.map (·.1) = expectedKeys s)
    (x y : UInt8) (h : ¬ (x ∈ s ∧ y ∈ s)) : lookup T x y = none := by
  cases hl : lookup T x y with
  | none => rfl
  | some v =>
    have : (lookup T x y).isSome := by rw [hl]; rfl
    rw [lookup_isSome_iff, hk, mem_expectedKeys] at this
    exact absurd this h

theorem length_of_keys (s : List UInt8) (T : Table) (hk : T.map (·.1) = expectedKeys s) :
    T.length = s.length * s.length := by
  rw [← length_expectedKeys, ← hk, List.length_map]

theorem nodup_of_keys (s : List UInt8) (hs : s.Nodup) (T : Table)
    (hk : T.map (·.1) = expectedKeys s) : (T.map (·.1)).Nodup := by
  rw [hk]; exact nodup_expectedKeys s hs

theorem total_symm (pm : PMat) (h : ∀ x y, pm x y = pm y x) (x y : UInt8) :
    total pm x y = total pm y x := by
  simp [total, h x y]

theorem needed_isSome (pm : PMat) (s : List UInt8) (hg : GAP ∈ s)
    (htot : ∀ x ∈ s, ∀ y ∈ s, (pm x y).isSome) (a b : Bytes)
    (ha : ∀ x ∈ a, x ∈ s) (hb : ∀ y ∈ b, y ∈ s) :
    ∀ p ∈ needed a b, (pm p.1 p.2).isSome := by
  intro p hp
  rw [mem_needed] at hp
  rcases hp with ⟨rfl, _⟩ | ⟨x, hx, rfl⟩ | ⟨y, hy, rfl⟩ | ⟨x, hx, y, hy, rfl⟩
  · exact htot _ hg _ hg
  · exact htot _ (ha x hx) _ hg
  · exact htot _ hg _ (hb y hy)
  · exact htot _ (ha x hx) _ (hb y hy)

end Bio.Tables

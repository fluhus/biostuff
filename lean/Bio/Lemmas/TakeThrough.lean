/-
  What a consumer that can stop sees of a run `l`.  `takeThrough p l`: the items up to and including
  the first one with `p` (a consumer without state declines it).  `takeThroughH h acc l`: the same
  for a consumer `h` that is asked about the whole history (`acc` = what it was handed before).
  `lastH f` is the consumer without state as a history consumer.  Core Lean only.
-/
import Bio.Model.GoRt

namespace Bio

/-! ## `takeThrough` -/

theorem takeThrough_false {α : Type} (l : List α) : takeThrough (fun _ => false) l = l := by
  induction l with
  | nil => rfl
  | cons x xs ih => simp [takeThrough, ih]

theorem takeThrough_cons {α : Type} (p : α → Bool) (x : α) (xs : List α) :
    takeThrough p (x :: xs) = x :: (if p x then [] else takeThrough p xs) := by
  simp only [takeThrough]; split <;> rfl

theorem takeThrough_isPrefix {α : Type} (p : α → Bool) (l : List α) : takeThrough p l <+: l := by
  induction l with
  | nil => simp [takeThrough]
  | cons x xs ih =>
    rw [takeThrough_cons]
    cases p x <;> simp [ih]

theorem takeThrough_dropLast {α : Type} (p : α → Bool) (l : List α) :
    ∀ x ∈ (takeThrough p l).dropLast, p x = false := by
  induction l with
  | nil => simp [takeThrough]
  | cons x xs ih =>
    rw [takeThrough_cons]
    cases hp : p x with
    | true => simp
    | false =>
      simp only [Bool.false_eq_true, ↓reduceIte]
      cases hq : takeThrough p xs with
      | nil => simp
      | cons y ys =>
        rw [List.dropLast_cons_cons]
        intro z hz
        rcases List.mem_cons.1 hz with rfl | hz
        · exact hp
        · exact ih z (hq ▸ hz)

theorem takeThrough_map {α β : Type} (p : β → Bool) (g : α → β) (l : List α) :
    takeThrough p (l.map g) = (takeThrough (fun a => p (g a)) l).map g := by
  induction l with
  | nil => rfl
  | cons a l ih =>
    rw [List.map_cons, takeThrough_cons, takeThrough_cons, ih]
    cases p (g a) <;> simp

end Bio

namespace Bio.GoSrcLemmas
open Bio.GoRt

/-- If every item of a log but the last was accepted, a declined item is the last one. -/
theorem declined_is_last {α : Type} (f : α → Bool) (L : List α) (h : ∀ x ∈ L.dropLast, f x = true)
    (i : Nat) (x : α) (hx : L[i]? = some x) (hf : f x = false) : i + 1 = L.length := by
  have hi : i < L.length := (List.getElem?_eq_some_iff.1 hx).1
  by_cases hlt : i < L.length - 1
  · have : L.dropLast[i]? = some x := by rw [List.getElem?_dropLast, if_pos hlt, hx]
    rw [h x (List.mem_of_getElem? this)] at hf; cases hf
  · omega

/-! ## `takeThroughH` -/

theorem takeThroughH_cons {α : Type} (h : List α → Bool) (acc : List α) (x : α) (xs : List α) :
    takeThroughH h acc (x :: xs)
      = if h (acc ++ [x]) then takeThroughH h (acc ++ [x]) xs else acc ++ [x] := rfl

theorem takeThroughH_singleton {α : Type} (h : List α → Bool) (acc : List α) (x : α) :
    takeThroughH h acc [x] = acc ++ [x] := by
  simp only [takeThroughH]; split <;> rfl

/-- The items handed over extend `acc` by a prefix of `xs`, and the consumer said "go on" after
every item but the last. -/
theorem takeThroughH_spec {α : Type} (h : List α → Bool) (xs : List α) : ∀ (acc : List α),
    ∃ t, takeThroughH h acc xs = acc ++ t ∧ t <+: xs
      ∧ ∀ j, j + 1 < t.length → h (acc ++ t.take (j + 1)) = true := by
  induction xs with
  | nil => intro acc; exact ⟨[], by simp [takeThroughH], List.prefix_refl _, by simp⟩
  | cons x xs ih =>
    intro acc
    by_cases hx : h (acc ++ [x]) = true
    · obtain ⟨t, h1, h2, h3⟩ := ih (acc ++ [x])
      refine ⟨x :: t, by simp [takeThroughH, hx, h1], by simpa using h2, ?_⟩
      intro j hj
      cases j with
      | zero => simpa using hx
      | succ j => simpa using h3 j (by simpa using hj)
    · exact ⟨[x], by simp [takeThroughH, hx], by simp, by simp⟩

theorem takeThroughH_prefix {α : Type} (h : List α → Bool) (xs : List α) :
    takeThroughH h [] xs <+: xs := by
  obtain ⟨t, h1, h2, _⟩ := takeThroughH_spec h xs []
  rw [h1]; simpa using h2

theorem takeThroughH_go_on {α : Type} (h : List α → Bool) (xs : List α) (i : Nat)
    (hi : i + 1 < (takeThroughH h [] xs).length) : h ((takeThroughH h [] xs).take (i + 1)) = true := by
  obtain ⟨t, h1, _, h3⟩ := takeThroughH_spec h xs []
  rw [h1] at hi ⊢
  simpa using h3 i (by simpa using hi)

theorem takeThroughH_stop {α : Type} (h : List α → Bool) (xs : List α) (i : Nat)
    (hi : i < (takeThroughH h [] xs).length) (hf : h ((takeThroughH h [] xs).take (i + 1)) = false) :
    i + 1 = (takeThroughH h [] xs).length := by
  by_cases hlt : i + 1 < (takeThroughH h [] xs).length
  · rw [takeThroughH_go_on h xs i hlt] at hf; cases hf
  · omega

/-- The verdict on the last item of the run does not matter: consumers that agree on every shorter
history hand over the same items. -/
theorem takeThroughH_congr {α : Type} (h g : List α → Bool) (xs : List α) : ∀ (acc : List α),
    (∀ l, l.length < acc.length + xs.length → h l = g l) → takeThroughH h acc xs = takeThroughH g acc xs := by
  induction xs with
  | nil => intro acc _; rfl
  | cons x xs ih =>
    intro acc hl
    cases xs with
    | nil => rw [takeThroughH_singleton, takeThroughH_singleton]
    | cons y ys =>
      rw [takeThroughH_cons h, takeThroughH_cons g, hl (acc ++ [x]) (by simp),
        ih (acc ++ [x]) (fun l hlen => hl l (by simp at hlen ⊢; omega))]

/-- A consumer without state: it judges the current item (the last of the history). -/
def lastH {α : Type} (f : α → Bool) : List α → Bool :=
  fun l => match l.getLast? with | some x => f x | none => true

@[simp] theorem lastH_append_singleton {α : Type} (f : α → Bool) (l : List α) (x : α) :
    lastH f (l ++ [x]) = f x := by
  simp [lastH]

theorem takeThroughH_lastH_acc {α : Type} (f : α → Bool) (xs : List α) : ∀ (acc : List α),
    takeThroughH (lastH f) acc xs = acc ++ takeThrough (fun x => !f x) xs := by
  induction xs with
  | nil => intro acc; simp [takeThroughH, takeThrough]
  | cons x xs ih =>
    intro acc
    rw [takeThroughH, lastH_append_singleton, takeThrough_cons, ih]
    cases f x <;> simp

theorem takeThroughH_lastH {α : Type} (f : α → Bool) (xs : List α) :
    takeThroughH (lastH f) [] xs = takeThrough (fun x => !f x) xs := by
  rw [takeThroughH_lastH_acc]; rfl

/-! `takeThroughH` under a map of the items, and for three kinds of consumer: one that first declines
at item `k`, one that never declines before the last item, one that counts. -/

theorem takeThroughH_map {α β : Type} (φ : α → β) (y' : List β → Bool) (xs : List α) : ∀ (acc : List α),
    (takeThroughH (fun l => y' (l.map φ)) acc xs).map φ = takeThroughH y' (acc.map φ) (xs.map φ) := by
  induction xs with
  | nil => intro acc; rfl
  | cons a xs ih =>
    intro acc
    rw [List.map_cons, takeThroughH_cons, takeThroughH_cons]
    simp only [List.map_append, List.map_cons, List.map_nil]
    split
    · rw [ih]; simp
    · simp

/-- the log of a consumer `y` that looks at the items only through `φ`, seen through `φ` -/
theorem map_takeThroughH {α β : Type} (φ : α → β) {y : List α → Bool} {y' : List β → Bool}
    (hy : ∀ l, y l = y' (l.map φ)) (xs : List α) :
    (takeThroughH y [] xs).map φ = takeThroughH y' [] (xs.map φ) := by
  obtain rfl : y = fun l => y' (l.map φ) := funext hy
  exact takeThroughH_map φ y' xs []

theorem takeThroughH_first_false {α : Type} (y : List α → Bool) (xs : List α) : ∀ (acc : List α) (k : Nat),
    k < xs.length → (∀ j, j < k → y (acc ++ xs.take (j + 1)) = true) → y (acc ++ xs.take (k + 1)) = false →
    takeThroughH y acc xs = acc ++ xs.take (k + 1) := by
  induction xs with
  | nil => intro acc k hk; simp at hk
  | cons a xs ih =>
    intro acc k hk ht hf
    rw [takeThroughH_cons]
    cases k with
    | zero =>
      have : y (acc ++ [a]) = false := by simpa using hf
      simp [this]
    | succ k =>
      have h0 : y (acc ++ [a]) = true := by simpa using ht 0 (by omega)
      rw [if_pos h0, ih (acc ++ [a]) k (by simpa using hk)]
      · simp
      · intro j hj
        have := ht (j + 1) (by omega)
        simpa using this
      · simpa using hf

theorem takeThroughH_all_true {α : Type} (y : List α → Bool) (xs : List α) : ∀ (acc : List α),
    (∀ j, j + 1 < xs.length → y (acc ++ xs.take (j + 1)) = true) → takeThroughH y acc xs = acc ++ xs := by
  induction xs with
  | nil => intro acc _; simp [takeThroughH]
  | cons a xs ih =>
    intro acc ht
    cases xs with
    | nil => rw [takeThroughH_singleton]
    | cons b xs =>
      rw [takeThroughH_cons]
      have h0 : y (acc ++ [a]) = true := by simpa using ht 0 (by simp)
      rw [if_pos h0, ih (acc ++ [a])]
      · simp
      · intro j hj
        have := ht (j + 1) (by simp at hj ⊢; omega)
        simpa using this

/-- the consumer "at most `k` items" sees the first `k` items -/
theorem takeThroughH_count_acc {α : Type} (k : Nat) : ∀ (xs acc : List α), acc.length < k →
    takeThroughH (fun l => decide (l.length < k)) acc xs = acc ++ xs.take (k - acc.length) := by
  intro xs
  induction xs with
  | nil => intro acc _; simp [takeThroughH]
  | cons x xs ih =>
    intro acc hk
    rw [takeThroughH_cons]
    by_cases c : acc.length + 1 < k
    · rw [if_pos (by simpa using c), ih _ (by simpa using c)]
      have : k - acc.length = (k - (acc ++ [x]).length) + 1 := by simp; omega
      rw [this, List.take_succ_cons]
      simp
    · rw [if_neg (by simpa using c)]
      have : k - acc.length = 1 := by omega
      rw [this]
      simp

theorem takeThroughH_count {α : Type} (xs : List α) (k : Nat) (hk : 1 ≤ k) :
    takeThroughH (fun l => decide (l.length < k)) [] xs = xs.take k := by
  simpa using takeThroughH_count_acc k xs [] (by simp; omega)

theorem takeThroughH_all_or_declined {α : Type} (y : List α → Bool) (xs : List α) : ∀ (acc : List α),
    takeThroughH y acc xs = acc ++ xs ∨ y (takeThroughH y acc xs) = false := by
  induction xs with
  | nil => intro acc; left; simp [takeThroughH]
  | cons a xs ih =>
    intro acc
    rw [takeThroughH_cons]
    by_cases h : y (acc ++ [a]) = true
    · rw [if_pos h]
      rcases ih (acc ++ [a]) with h1 | h1
      · left; rw [h1]; simp
      · right; exact h1
    · rw [if_neg h]; right; simpa using h

/-- everything `takeThroughH` says about early stops, in one place (`L` the log under `y`, `xs` the log
of the consumer that never stops) -/
theorem takeThroughH_early_stop {α : Type} (y : List α → Bool) (xs : List α) :
    takeThroughH (fun _ => true) [] xs = xs
    ∧ takeThroughH y [] xs <+: xs
    ∧ (∀ i, i + 1 < (takeThroughH y [] xs).length → y ((takeThroughH y [] xs).take (i + 1)) = true)
    ∧ (∀ i, i < (takeThroughH y [] xs).length → y ((takeThroughH y [] xs).take (i + 1)) = false →
        i + 1 = (takeThroughH y [] xs).length)
    ∧ (∀ k, k < xs.length → (∀ j, j < k → y (xs.take (j + 1)) = true) → y (xs.take (k + 1)) = false →
        takeThroughH y [] xs = xs.take (k + 1) ∧ (takeThroughH y [] xs).length = k + 1)
    ∧ ((∀ j, j + 1 < xs.length → y (xs.take (j + 1)) = true) → takeThroughH y [] xs = xs)
    ∧ (∀ k, 1 ≤ k → takeThroughH (fun l => decide (l.length < k)) [] xs = xs.take k) := by
  refine ⟨takeThroughH_all_true _ xs [] fun _ _ => rfl, takeThroughH_prefix _ _, takeThroughH_go_on _ _,
    takeThroughH_stop _ _, ?_, ?_, fun k hk => takeThroughH_count xs k hk⟩
  · intro k hk ht hf
    have := takeThroughH_first_false y xs [] k hk (by simpa using ht) (by simpa using hf)
    rw [this]
    refine ⟨by simp, ?_⟩
    simp only [List.nil_append, List.length_take]; omega
  · intro ht
    have := takeThroughH_all_true y xs [] (by simpa using ht)
    simpa using this

/-! ## The history law for a translated iterator -/

/-- `it` (a translated iterator: `none` = out of fuel or a panic) returns, for every consumer, the
items of `L` up to and including the first one after which the consumer said stop. -/
def LawO {α : Type} (it : (List α → Bool) → Option (List α)) (L : List α) : Prop :=
  ∀ y, it y = some (takeThroughH y [] L)

namespace LawO
variable {α β : Type} {it : (List α → Bool) → Option (List α)}

theorem all {L : List α} (hl : LawO it L) : it (fun _ => true) = some L := by
  rw [hl]; exact congrArg some (takeThroughH_all_true _ L [] fun _ _ => rfl)

theorem stops {L : List α} (hl : LawO it L) (y : List α → Bool) :
    ∃ l, it y = some l ∧ l <+: L
      ∧ (∀ i, i + 1 < l.length → y (l.take (i + 1)) = true)
      ∧ (∀ i, i < l.length → y (l.take (i + 1)) = false → i + 1 = l.length) :=
  ⟨_, hl y, takeThroughH_prefix _ _, takeThroughH_go_on _ _, takeThroughH_stop _ _⟩

/-- The run `L` is the image under `raw` of model items `M`, and `item` reads them back. -/
theorem stops_map {M : List β} {raw : β → α} {item : α → β} (hl : LawO it (M.map raw))
    (hri : ∀ b, item (raw b) = b) (y : List α → Bool) :
    ∃ l, it y = some l ∧ l <+: M.map raw ∧ l.map item <+: M
      ∧ (∀ i, i + 1 < l.length → y (l.take (i + 1)) = true)
      ∧ (∀ i, i < l.length → y (l.take (i + 1)) = false → i + 1 = l.length) := by
  obtain ⟨l, h1, h2, h3, h4⟩ := hl.stops y
  refine ⟨l, h1, h2, ?_, h3, h4⟩
  simpa [Function.comp_def, hri] using h2.map item

theorem pure {M : List β} {raw : β → α} (hl : LawO it (M.map raw)) (f : α → Bool) :
    it (lastH f) = some ((takeThrough (fun b => !f (raw b)) M).map raw) := by
  rw [hl, takeThroughH_lastH, takeThrough_map]

theorem pure_items {M : List β} {raw : β → α} {item : α → β} (hl : LawO it (M.map raw))
    (hri : ∀ b, item (raw b) = b) (f : α → Bool) :
    (it (lastH f)).map (·.map item) = some (takeThrough (fun b => !f (raw b)) M) := by
  rw [hl.pure f]; simp [Function.comp_def, hri]

theorem all_items {M : List β} {raw : β → α} {item : α → β} (hl : LawO it (M.map raw))
    (hri : ∀ b, item (raw b) = b) : (it (fun _ => true)).map (·.map item) = some M := by
  rw [hl.all]; simp [Function.comp_def, hri]

theorem stops_pure {M : List β} {raw : β → α} {item : α → β} (hl : LawO it (M.map raw))
    (hri : ∀ b, item (raw b) = b) (f : α → Bool) :
    ∃ l, it (lastH f) = some l ∧ l.map item <+: M
      ∧ (∀ x ∈ l.dropLast, f x = true)
      ∧ (∀ i x, l[i]? = some x → f x = false → i + 1 = l.length) := by
  have hd : ∀ x ∈ ((takeThrough (fun b => !f (raw b)) M).map raw).dropLast, f x = true := by
    intro x hx
    rw [← List.map_dropLast, List.mem_map] at hx
    obtain ⟨b, hb, rfl⟩ := hx
    simpa using takeThrough_dropLast (fun b => !f (raw b)) M b hb
  refine ⟨_, hl.pure f, ?_, hd, declined_is_last f _ hd⟩
  simpa [Function.comp_def, hri] using takeThrough_isPrefix (fun b => !f (raw b)) M

/-- The clauses of the `go_*_file_early_stop` theorems for any iterator with the history law; `P` is
whatever else is known of the uninterrupted log `I'`. -/
theorem early_stop {α : Type} {it : (List α → Bool) → Option (List α)}
    {I : List α} (hl : LawO it I) (P : List α → Prop) (hP : it (fun _ => true) = some I → P I)
    (y : List α → Bool) :
    ∃ L I', it y = some L ∧ it (fun _ => true) = some I' ∧ P I' ∧ L <+: I'
      ∧ (∀ i, i + 1 < L.length → y (L.take (i + 1)) = true)
      ∧ (∀ i, i < L.length → y (L.take (i + 1)) = false → i + 1 = L.length)
      ∧ (∀ k, k < I'.length → (∀ j, j < k → y (I'.take (j + 1)) = true) → y (I'.take (k + 1)) = false →
          L = I'.take (k + 1) ∧ L.length = k + 1)
      ∧ ((∀ j, j + 1 < I'.length → y (I'.take (j + 1)) = true) → L = I')
      ∧ (∀ k, 1 ≤ k → it (fun l => decide (l.length < k)) = some (I'.take k)) := by
  obtain ⟨h0, h1, h2, h3, h4, h5, h6⟩ := takeThroughH_early_stop y I
  exact ⟨_, _, hl y, hl.all, hP hl.all, h1, h2, h3, h4, h5, fun k hk => by rw [hl, h6 k hk]⟩

end LawO

end Bio.GoSrcLemmas

namespace Bio.IterH
open Bio.GoRt Bio.GoSrcLemmas

theorem takeThroughH_true {α : Type} (L : List α) :
    ∀ acc, takeThroughH (fun _ : List α => true) acc L = acc ++ L :=
  fun acc => takeThroughH_all_true _ L acc fun _ _ => rfl

/-- `takeThroughH` never asks about the empty history. -/
theorem takeThroughH_congr_ne {α : Type} (h g : List α → Bool) (hg : ∀ l, l ≠ [] → h l = g l)
    (xs : List α) : ∀ acc, takeThroughH h acc xs = takeThroughH g acc xs := by
  induction xs with
  | nil => intro acc; rfl
  | cons x xs ih =>
    intro acc
    rw [takeThroughH_cons, takeThroughH_cons, hg (acc ++ [x]) (by simp), ih]

end Bio.IterH

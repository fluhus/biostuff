/-
  trie/trie.go at the Go SOURCE level: `(*Trie).keys` and `(*Trie).ForEach`.

  `Bio.Generated.GoSrc.Trie_keys` / `Trie_ForEach` are translated statement by statement from
  trie/trie.go.  `*Trie` values live in the explicit `heap` (see `GoSrcTrie1`); the `*forEachStep`
  values never leave the function, so their cells live in a FUNCTION-LOCAL heap
  `lheap : List (Int × Bytes × Int)` (fields `t`, `k`, `i`) that starts empty; the Go stack is a
  list of indices into it, top frame LAST; `for k := range t.m` visits the association list in list
  order; the callback is a history consumer and the result is the log of items handed to it.

  `Sim heap lheap qs s`: the Go stack `qs` (top first here) and the model stack `s` of
  `IterH.eachLoopH` are frame by frame the same: frame `j` is a cell `(p, keys of node p, i)` of
  `lheap`, the model frame's `rem` is the sub-trie of the edges `i, i+1, …` of node `p`, and `leaf`
  says whether node `p` has no edges at all.  The nodes on the stack are maps (distinct keys) and so
  is everything below their unvisited edges.  One iteration of the translated `for { }` is one step
  of `eachLoopH` (`cont_step`), so for every number of iterations the loop is `eachLoopO`, the model
  machine with its fuel made visible (`each_loop`).  Each step uses up one unit of `Trie.work`: with
  `work s` iterations the walk is over (`eachLoopO_eq_some`), with fewer a consumer that never stops
  is not done (`eachLoopO_eq_none`).

  Guarded by the translator's `<f>_Found` flags as in `Bio.Lemmas.GoSrc`.
-/
import Bio.Lemmas.GoSrcTrie
import Bio.Lemmas.GoSrcTraverse
import Bio.Lemmas.IterH
set_option linter.unusedVariables false
namespace Bio.GoSrcLemmas
namespace TrieEach
open Bio Bio.GoRt Bio.Generated Bio.Trie Bio.GoSrcLemmas.TrieGo

/-- the function-local heap of `*forEachStep` cells: fields `t`, `k`, `i` -/
abbrev LHeap := List (Int × Bytes × Int)

theorem Trie_keys_idx (hK : GoSrc.Trie_keys_Found = true) (heap : Heap) (p : Int) :
    GoSrc.Trie_keys heap p = (idx heap p).map (List.map Prod.fst) := by
  first
  | exact absurd hK (by decide)
  | (unfold GoSrc.Trie_keys
     cases idx heap p with
     | none => rfl
     | some es =>
       have hc : makeCap (α := UInt8) (len es) = some [] := if_neg (by unfold len; omega)
       simp only [Option.pure_def, Option.bind_eq_bind, Option.bind_some, hc, Option.map_some]
       rw [forIn_append_map (fun x : UInt8 × Int => x.1) es []]
       rfl)

theorem Trie_keys_eq (hK : GoSrc.Trie_keys_Found = true) (heap : Heap) (n : Nat)
    (es : List (UInt8 × Int)) (hn : heap[n]? = some es) :
    GoSrc.Trie_keys heap (n : Int) = some (es.map Prod.fst) := by
  rw [Trie_keys_idx hK, idx_ofNat, hn]; rfl

theorem Trie_keys_none (hK : GoSrc.Trie_keys_Found = true) (heap : Heap) (p : Int) :
    GoSrc.Trie_keys heap p = none ↔ (p < 0 ∨ (heap.length : Int) ≤ p) := by
  rw [Trie_keys_idx hK, Option.map_eq_none_iff, idx]
  split
  · simp [*]
  · rw [List.getElem?_eq_none_iff]; omega

/-- the Go frame `q` (a cell of `lheap`) is the model frame `f` -/
def FrameOK (heap : Heap) (lheap : LHeap) (q : Int) (f : Bool × T) : Prop :=
  ∃ (qn p i : Nat) (es : List (UInt8 × Int)) (S : List Nat),
    q = (qn : Int) ∧ lheap[qn]? = some ((p : Int), es.map Prod.fst, (i : Int)) ∧
    heap[p]? = some es ∧ i ≤ es.length ∧ RepE heap (es.drop i) f.2 S ∧ f.1 = es.isEmpty ∧
    (es.map Prod.fst).Nodup ∧ KeysOK heap S

/-- the Go stack (top frame first here) is the model stack, frame by frame; the cells are distinct -/
inductive Sim (heap : Heap) (lheap : LHeap) : List Int → List (Bool × T) → Prop
  | nil : Sim heap lheap [] []
  | cons {q : Int} {qs : List Int} {f : Bool × T} {s : List (Bool × T)} :
      FrameOK heap lheap q f → q ∉ qs → Sim heap lheap qs s → Sim heap lheap (q :: qs) (f :: s)

theorem FrameOK.lt {heap : Heap} {lheap : LHeap} {q : Int} {f : Bool × T}
    (h : FrameOK heap lheap q f) : 0 ≤ q ∧ q < (lheap.length : Int) := by
  obtain ⟨qn, p, i, es, S, rfl, hq, _⟩ := h
  have := (List.getElem?_eq_some_iff.1 hq).1
  omega

theorem Sim.lt {heap : Heap} {lheap : LHeap} {qs s} (h : Sim heap lheap qs s) :
    ∀ q ∈ qs, 0 ≤ q ∧ q < (lheap.length : Int) := by
  induction h with
  | nil => simp
  | cons hf _ _ ih =>
    intro q hq
    rcases List.mem_cons.1 hq with rfl | hq
    · exact hf.lt
    · exact ih q hq

theorem Sim.length {heap : Heap} {lheap : LHeap} {qs s} (h : Sim heap lheap qs s) :
    qs.length = s.length := by
  induction h with
  | nil => rfl
  | cons _ _ _ ih => simp [ih]

theorem Sim.mono {heap : Heap} {lheap lheap' : LHeap} {qs s} (h : Sim heap lheap qs s)
    (hag : ∀ (qn : Nat), (qn : Int) ∈ qs → lheap'[qn]? = lheap[qn]?) : Sim heap lheap' qs s := by
  induction h with
  | nil => exact .nil
  | @cons q qs f s hf hnot _ ih =>
    refine .cons ?_ hnot (ih fun qn hqn => hag qn (List.mem_cons_of_mem _ hqn))
    obtain ⟨qn, p, i, es, S, rfl, hq, rest⟩ := hf
    exact ⟨qn, p, i, es, S, rfl, by rw [hag qn (by simp)]; exact hq, rest⟩

/-- loop state of `ForEach`: the log, the local heap, `stack` (top last), `cur`, and the flag "the
loop ended by itself" (`fin`: otherwise the fuel ran out) -/
abbrev EachSt := List Bytes × LHeap × List Int × Bytes × Bool

/-- what one iteration of the translated loop does after the leaf report, on the frame `qn` (cell
`(p, ks, i)`, node `p` with edges `es`) on top of the rest `A` of the stack, with log `log`; `b` is
the flag of `EachSt`, carried through -/
def contSpec (keysF : Int → Option Bytes) (lheap : LHeap) (A : List Int) (qn p i : Nat) (ks : Bytes)
    (es : List (UInt8 × Int)) (cur : Bytes) (b : Bool) (log : List Bytes) :
    Option (ForInStep EachSt) :=
  if i == es.length then
    if A.length == 0 then some (.done (log, lheap, A, cur, true))
    else (slice cur 0 (len cur - 1)).bind fun cur' => some (.yield (log, lheap, A, cur', b))
  else
    (ks[i]?).bind fun key =>
      (keysF (mapGet es key (-1))).bind fun ck =>
        some (.yield (log,
          (lheap ++ [(mapGet es key (-1), ck, (0 : Int))]).set qn ((p : Int), ks, ((i : Int) + 1)),
          A ++ [(qn : Int)] ++ [(lheap.length : Int)], cur ++ [key], b))

/-- one iteration of the translated loop -/
def stepSpec (f : List Bytes → Bool) (keysF : Int → Option Bytes) (lheap : LHeap) (A : List Int)
    (qn p i : Nat) (ks : Bytes) (es : List (UInt8 × Int)) (cur : Bytes) (b : Bool)
    (log : List Bytes) : Option (ForInStep EachSt) :=
  if es.isEmpty && !cur.isEmpty then
    if f (log ++ [cur]) then contSpec keysF lheap A qn p i ks es cur b (log ++ [cur])
    else some (.done (log ++ [cur], lheap, A ++ [(qn : Int)], cur, true))
  else contSpec keysF lheap A qn p i ks es cur b log

/-- the model's stack and path after the leaf report; `none`: the walk is over -/
def nextM (leaf : Bool) (rem : T) (s : List (Bool × T)) (cur : Bytes) :
    Option (List (Bool × T) × Bytes) :=
  match rem, s with
  | .nil, [] => none
  | .nil, _ :: _ => some (s, cur.drop 1)
  | .cons k c r, _ => some ((c.isNil, c) :: (leaf, r) :: s, k :: cur)

/-- the model's step after the leaf report -/
def contM (h : List Bytes → Bool) (m : Nat) (leaf : Bool) (rem : T) (s : List (Bool × T))
    (cur : Bytes) (acc : List Bytes) : List Bytes :=
  match nextM leaf rem s cur with
  | none => acc
  | some (s1, c1) => IterH.eachLoopH h m s1 c1 acc

theorem eachLoopH_succ (h : List Bytes → Bool) (m : Nat) (leaf : Bool) (rem : T)
    (s : List (Bool × T)) (cur : Bytes) (acc : List Bytes) :
    IterH.eachLoopH h (m + 1) ((leaf, rem) :: s) cur acc =
      if (leaf && !cur.isEmpty) = true then
        (if h (acc ++ [cur.reverse]) = true then contM h m leaf rem s cur (acc ++ [cur.reverse])
         else acc ++ [cur.reverse])
      else contM h m leaf rem s cur acc := by
  cases rem <;> cases s <;> rfl

/-- every step uses up one unit of `work`, and the last unit is the step that ends the walk -/
theorem work_of_nextM_some {leaf : Bool} {rem : T} {s s1 : List (Bool × T)} {cur c1 : Bytes}
    (h : nextM leaf rem s cur = some (s1, c1)) : work ((leaf, rem) :: s) = work s1 + 1 := by
  cases rem <;> cases s <;> cases h <;> simp only [work, T.size] <;> omega

theorem work_of_nextM_none {leaf : Bool} {rem : T} {s : List (Bool × T)} {cur : Bytes}
    (h : nextM leaf rem s cur = none) : work ((leaf, rem) :: s) = 1 := by
  cases rem <;> cases s <;> cases h <;> rfl

/-- the push step: the child cell is appended to the local heap, the index of the frame below is
advanced; everything further down is untouched -/
theorem Sim.push {heap : Heap} {lheap : LHeap} {qs' : List Int} {s' : List (Bool × T)}
    {qn p i c : Nat} {es es' : List (UInt8 × Int)} {tc tr : T} {Sc Sr : List Nat} {leaf : Bool}
    (hs' : Sim heap lheap qs' s') (hnot : (qn : Int) ∉ qs') (hqlt : qn < lheap.length)
    (hp : heap[p]? = some es) (hilt : i < es.length) (hc : heap[c]? = some es')
    (hc1 : RepE heap es' tc Sc) (hr2 : RepE heap (es.drop (i + 1)) tr Sr) (hleaf : leaf = es.isEmpty)
    (hnd : (es.map Prod.fst).Nodup) (hkS : KeysOK heap (c :: (Sc ++ Sr))) :
    Sim heap ((lheap ++ [((c : Int), es'.map Prod.fst, (0 : Int))]).set qn
        ((p : Int), es.map Prod.fst, ((i : Int) + 1)))
      ((lheap.length : Int) :: (qn : Int) :: qs') ((tc.isNil, tc) :: (leaf, tr) :: s') := by
  refine .cons ?_ ?_ (.cons ?_ hnot (hs'.mono ?_))
  · refine ⟨lheap.length, c, 0, es', Sc, rfl, ?_, hc, Nat.zero_le _, by simpa using hc1,
      isNil_eq_isEmpty hc1, hkS c (by simp) es' hc, fun x hx => hkS x (by simp [hx])⟩
    rw [List.getElem?_set_ne (by omega)]
    simp
  · intro hmem'
    rcases List.mem_cons.1 hmem' with heq | hmem'
    · have : lheap.length = qn := Int.ofNat.inj heq
      omega
    · have := hs'.lt _ hmem'; omega
  · refine ⟨qn, p, i + 1, es, Sr, rfl, ?_, hp, hilt, hr2, hleaf, hnd,
      fun x hx => hkS x (by simp [hx])⟩
    rw [List.getElem?_set_self (by simp; omega)]
    simp
  · intro qn' hqn'
    have h1 := hs'.lt _ hqn'
    have h2 : qn' ≠ qn := by
      rintro rfl; exact hnot hqn'
    rw [List.getElem?_set_ne (Ne.symm h2), List.getElem?_append_left (by omega)]

/-- One Go iteration, after the leaf report, is the model's step: on a stack that simulates
`(leaf, rem) :: s'` the translated code ends the loop exactly when the model's walk is over, and
otherwise leaves a stack that simulates the model's next stack, with the model's next path. -/
theorem cont_step {heap : Heap} {keysF : Int → Option Bytes}
    (hkeys : ∀ (n : Nat) es, heap[n]? = some es → keysF (n : Int) = some (es.map Prod.fst))
    {lheap : LHeap} {qs' : List Int} {s' : List (Bool × T)} {qn p i : Nat}
    {es : List (UInt8 × Int)} {S : List Nat} {leaf : Bool} {rem : T} {curR : Bytes}
    (hs' : Sim heap lheap qs' s') (hnot : (qn : Int) ∉ qs')
    (hq : lheap[qn]? = some ((p : Int), es.map Prod.fst, (i : Int))) (hp : heap[p]? = some es)
    (hi : i ≤ es.length) (hr : RepE heap (es.drop i) rem S) (hleaf : leaf = es.isEmpty)
    (hnd : (es.map Prod.fst).Nodup) (hk : KeysOK heap S) (hlen : curR.length = s'.length)
    (b : Bool) (acc : List Bytes) :
    ∃ r, contSpec keysF lheap qs'.reverse qn p i (es.map Prod.fst) es curR.reverse b acc = some r ∧
      match nextM leaf rem s' curR with
      | none => r = .done (acc, lheap, qs'.reverse, curR.reverse, true)
      | some (s1, c1) => ∃ lheap1 qs1, r = .yield (acc, lheap1, qs1.reverse, c1.reverse, b) ∧
          Sim heap lheap1 qs1 s1 ∧ c1.length + 1 = s1.length := by
  cases rem with
  | nil =>
    -- all edges of the top node are done: pop
    cases Nat.le_antisymm hi (List.drop_eq_nil_iff.1 (hr.isNil.1 rfl))
    cases hs' with
    | nil => exact ⟨_, by simp [contSpec], rfl⟩
    | @cons q2 qs2 f2 s2 hf2 hnot2 hs2 =>
      cases curR with
      | nil => simp at hlen
      | cons k cr =>
        have hsl : slice (cr.reverse ++ [k]) 0 (len (cr.reverse ++ [k]) - 1) = some cr.reverse := by
          rw [len_snoc_sub]
          simpa using slice_snoc cr.reverse k
        exact ⟨_, by simp [contSpec, hsl], lheap, q2 :: qs2, rfl, .cons hf2 hnot2 hs2,
          by simpa using hlen⟩
  | cons k tc tr =>
    -- the next edge `(k, c)`: push the child
    generalize hd : es.drop i = d at hr
    cases hr with
    | @cons _ v c es' es2 _ _ Sc Sr hv hc hc1 hr2 =>
      have hilt : i < es.length := by
        refine Nat.lt_of_not_le fun hcon => ?_
        rw [List.drop_eq_nil_iff.2 hcon] at hd; cases hd
      have hget : es[i]? = some (k, v) := by
        simpa [List.head?_drop] using congrArg List.head? hd
      have hmg : mapGet es k (-1) = (c : Int) := by
        rw [Assoc.mapGet_eq, Assoc.get_of_mem hnd (List.mem_of_getElem? hget), hv]
        rfl
      have hd2 : es.drop (i + 1) = es2 := by
        simpa [List.tail_drop] using congrArg List.tail hd
      have hne : (i == es.length) = false := by simp; omega
      have hks : (es.map Prod.fst)[i]? = some k := by simp [hget]
      refine ⟨_, by simp only [contSpec, hne, hks, hmg, hkeys c es' hc, Option.bind_some,
        Bool.false_eq_true, if_false]; rfl, _, (lheap.length : Int) :: (qn : Int) :: qs', by simp,
        Sim.push hs' hnot (List.getElem?_eq_some_iff.1 hq).1 hp hilt hc hc1 (hd2 ▸ hr2) hleaf hnd hk,
        by simp [hlen]⟩

/-- what the loop does with the verdict of one iteration -/
def afterStep (l : List Nat) (body : Nat → EachSt → Option (ForInStep EachSt)) :
    ForInStep EachSt → Option EachSt
  | .done b => some b
  | .yield b => forIn l b body

theorem forIn_cons' (a : Nat) (l : List Nat) (body : Nat → EachSt → Option (ForInStep EachSt))
    (st : EachSt) : forIn (a :: l) st body = (body a st).bind (afterStep l body) := by
  rw [List.forIn_cons]
  show (body a st).bind _ = _
  congr 1
  funext r
  cases r <;> rfl

@[simp] theorem afterStep_done (l : List Nat) (body : Nat → EachSt → Option (ForInStep EachSt))
    (b : EachSt) : afterStep l body (.done b) = some b := rfl

@[simp] theorem afterStep_yield (l : List Nat) (body : Nat → EachSt → Option (ForInStep EachSt))
    (b : EachSt) : afterStep l body (.yield b) = forIn l b body := rfl

/-- `IterH.eachLoopH` with the fuel made visible: `none` when the iterations run out before the walk
is over or the consumer has said stop -/
def eachLoopO (h : List Bytes → Bool) : Nat → List (Bool × T) → Bytes → List Bytes → Option (List Bytes)
  | _, [], _, acc => some acc
  | 0, _ :: _, _, _ => none
  | n + 1, (leaf, rem) :: s, cur, acc =>
    let cont : List Bytes → Option (List Bytes) := fun acc =>
      match nextM leaf rem s cur with
      | none => some acc
      | some (s1, c1) => eachLoopO h n s1 c1 acc
    if leaf && !cur.isEmpty then
      if h (acc ++ [cur.reverse]) then cont (acc ++ [cur.reverse]) else some (acc ++ [cur.reverse])
    else cont acc

/-- with `work s` iterations the walk is over: the model machine's log -/
theorem eachLoopO_eq_some (h : List Bytes → Bool) : ∀ (n : Nat) (s : List (Bool × T)) (cur : Bytes)
    (acc : List Bytes) (m : Nat), work s ≤ n → work s ≤ m →
    eachLoopO h n s cur acc = some (IterH.eachLoopH h m s cur acc)
  | n, [], cur, acc, m, _, _ => by cases n <;> cases m <;> rfl
  | 0, (leaf, rem) :: s, _, _, _, hn, _ => by simp [work] at hn
  | _, (leaf, rem) :: s, _, _, 0, _, hm => by simp [work] at hm
  | n + 1, (leaf, rem) :: s, cur, acc, m + 1, hn, hm => by
    have key : ∀ acc', (match nextM leaf rem s cur with
        | none => some acc'
        | some (s1, c1) => eachLoopO h n s1 c1 acc') = some (contM h m leaf rem s cur acc') := by
      intro acc'
      rw [contM]
      cases hnext : nextM leaf rem s cur with
      | none => rfl
      | some sc =>
        have hw := work_of_nextM_some (s1 := sc.1) (c1 := sc.2) hnext
        exact eachLoopO_eq_some h n sc.1 sc.2 acc' m (by omega) (by omega)
    rw [eachLoopO, eachLoopH_succ]
    simp only [key]
    split
    · split <;> rfl
    · rfl

/-- with fewer a consumer that never stops is not done -/
theorem eachLoopO_eq_none : ∀ (n : Nat) (s : List (Bool × T)) (cur : Bytes) (acc : List Bytes),
    n < work s → eachLoopO (fun _ => true) n s cur acc = none
  | _, [], _, _, hn => by simp [work] at hn
  | 0, _ :: _, _, _, _ => rfl
  | n + 1, (leaf, rem) :: s, cur, acc, hn => by
    have key : ∀ acc', (match nextM leaf rem s cur with
        | none => some acc'
        | some (s1, c1) => eachLoopO (fun _ => true) n s1 c1 acc') = none := by
      intro acc'
      cases hnext : nextM leaf rem s cur with
      | none => rw [work_of_nextM_none hnext] at hn; omega
      | some sc =>
        have hw := work_of_nextM_some (s1 := sc.1) (c1 := sc.2) hnext
        exact eachLoopO_eq_none n sc.1 sc.2 acc' (by omega)
    rw [eachLoopO]
    simp only [key, if_true, ite_self]

/-- The `for { }` loop of the translated `ForEach`, from ANY stack that simulates a model stack, ANY
log and ANY number of iterations, is the model machine with that fuel. -/
theorem each_loop (heap : Heap) (h : List Bytes → Bool) (keysF : Int → Option Bytes)
    (hkeys : ∀ (n : Nat) es, heap[n]? = some es → keysF (n : Int) = some (es.map Prod.fst))
    (body : Nat → EachSt → Option (ForInStep EachSt)) (fin : EachSt → Option (List Bytes))
    (hbody : ∀ k log lheap A (qn p i : Nat) ks es cur b,
      lheap[qn]? = some ((p : Int), ks, (i : Int)) → heap[p]? = some es →
      body k (log, lheap, A ++ [(qn : Int)], cur, b) = stepSpec h keysF lheap A qn p i ks es cur b log)
    (hfin : ∀ st, fin st = if st.2.2.2.2 = true then some st.1 else none)
    (l : List Nat) : ∀ (s : List (Bool × T)) (qs : List Int) (lheap : LHeap) (curR : Bytes)
      (acc : List Bytes),
      Sim heap lheap qs s → curR.length + 1 = s.length →
      (forIn l ((acc, lheap, qs.reverse, curR.reverse, false) : EachSt) body).bind fin
        = eachLoopO h l.length s curR acc := by
  induction l with
  | nil =>
    intro s qs lheap curR acc hsim hlen
    cases s with
    | nil => simp at hlen
    | cons f s => simp [hfin, eachLoopO]
  | cons a l ih =>
    intro s qs lheap curR acc hsim hlen
    cases hsim with
    | nil => simp at hlen
    | @cons q qs' f s' hf hnot hs' =>
      obtain ⟨leaf, rem⟩ := f
      obtain ⟨qn, p, i, es, S, rfl, hq, hp, hi, hr, hleaf, hnd, hk⟩ := hf
      rw [List.reverse_cons, forIn_cons', hbody a acc lheap qs'.reverse qn p i _ es _ false hq hp,
        List.length_cons, eachLoopO]
      have key : ∀ acc' : List Bytes,
          (((contSpec keysF lheap qs'.reverse qn p i (es.map Prod.fst) es curR.reverse false acc').bind
              (afterStep l body)).bind fin)
            = match nextM leaf rem s' curR with
              | none => some acc'
              | some (s1, c1) => eachLoopO h l.length s1 c1 acc' := by
        intro acc'
        obtain ⟨r, hr, hcase⟩ := cont_step hkeys hs' hnot hq hp hi hr hleaf hnd hk
          (by simpa using hlen) false acc'
        rw [hr, Option.bind_some]
        cases hnext : nextM leaf rem s' curR with
        | none => rw [hnext] at hcase; rw [hcase, afterStep_done, Option.bind_some, hfin]; rfl
        | some sc =>
          rw [hnext] at hcase
          obtain ⟨lheap1, qs1, rfl, hsim1, hlen1⟩ := hcase
          exact ih _ _ _ _ _ hsim1 hlen1
      have hce : curR.reverse.isEmpty = curR.isEmpty := by cases curR <;> simp
      simp only [stepSpec, hce, ← hleaf]
      cases hb : (leaf && !curR.isEmpty) <;> cases hh : h (acc ++ [curR.reverse]) <;>
        simp only [Bool.false_eq_true, if_false, if_true, Option.bind_some] <;>
        first | exact key _ | simp [hfin]

theorem len_beq_zero {α : Type} (l : List α) : (len l == 0) = l.isEmpty := by
  cases l with
  | nil => rfl
  | cons a l => simp [len]; omega

theorem len_pos_iff {α : Type} (l : List α) : (len l > 0) ↔ l.isEmpty = false := by
  cases l with
  | nil => simp [len]
  | cons a l => simp [len]

theorem natCast_beq_len {α : Type} (i : Nat) (l : List α) : ((i : Int) == len l) = (i == l.length) := by
  simp only [len]; exact int_beq_natCast i l.length

/-- the translated `ForEach` on a node: the `keys` call, then the `for { }` loop whose iteration is
`stepSpec`, then "out of fuel = `none`".  The initial stack and path are written `[0].reverse`,
`[].reverse` because `each_loop` keeps both reversed (top frame / last byte first). -/
theorem Trie_ForEach_unfold (hF : GoSrc.Trie_ForEach_Found = true) (hK : GoSrc.Trie_keys_Found = true)
    (heap : Heap) (n : Nat) (es0 : List (UInt8 × Int)) (h : List Bytes → Bool)
    (hn : heap[n]? = some es0) :
    ∃ (body : Nat → EachSt → Option (ForInStep EachSt)) (fin : EachSt → Option (List Bytes)),
      (∀ fuel, GoSrc.Trie_ForEach fuel heap (n : Int) h =
        (forIn (List.range fuel) (([], [((n : Int), es0.map Prod.fst, ((0 : Nat) : Int))],
          [((0 : Nat) : Int)].reverse, ([] : Bytes).reverse, false) : EachSt) body).bind fin) ∧
      (∀ k log lheap A (qn p i : Nat) ks es cur b,
        lheap[qn]? = some ((p : Int), ks, (i : Int)) → heap[p]? = some es →
        body k (log, lheap, A ++ [(qn : Int)], cur, b)
          = stepSpec h (GoSrc.Trie_keys heap) lheap A qn p i ks es cur b log) ∧
      (∀ st, fin st = if st.2.2.2.2 = true then some st.1 else none) := by
  first
  | exact absurd hF (by decide)
  | (apply Exists.intro
     apply Exists.intro
     refine ⟨fun fuel => ?_, ?_, ?_⟩
     · unfold GoSrc.Trie_ForEach
       simp -zeta only [Trie_keys_eq hK heap n es0 hn]
       exact rfl
     · intro k log lheap A qn p i ks es cur b hq hp
       have hqlt : qn < lheap.length := (List.getElem?_eq_some_iff.1 hq).1
       have hset : ∀ x v, setIdx (lheap ++ [x]) (qn : Int) v = some ((lheap ++ [x]).set qn v) := by
         intro x v; rw [setIdx_ofNat, if_pos (by simp; omega)]
       have hget : ∀ x, (lheap ++ [x])[qn]? = some ((p : Int), ks, (i : Int)) := by
         intro x; rw [List.getElem?_append_left hqlt, hq]
       -- the join point `__do_jp` (what follows the leaf report) is called at three places: it stays
       -- a local definition (`-zeta`) and is recognised as `contSpec` once
       dsimp -zeta only
       extract_lets -underBinder +onlyGivenNames log1 s1 lheap1 s2 stack s3 cur1 dn1
       simp -zeta only [log1, s1, lheap1, s2, stack, s3, cur1, dn1, len_snoc_sub, idx_ofNat,
         List.getElem?_concat_length, hq, hp, Option.bind_some, slice_snoc, len_beq_zero,
         natCast_beq_len, Option.pure_def, Option.bind_eq_bind]
       extract_lets -underBinder +onlyGivenNames jp
       have hjp : ∀ l d, jp () l d = contSpec (GoSrc.Trie_keys heap) lheap A qn p i ks es cur d l := by
         intro l d
         have hA : (A.length == 0) = A.isEmpty := by cases A <;> rfl
         simp only [jp, contSpec, hset, hget, len_snoc_sub, idx_ofNat, Option.bind_some, hA]
       simp only [stepSpec, ← hjp, len_pos_iff]
       generalize jp () (log ++ [cur]) b = Y, jp () log b = Z
       cases es.isEmpty <;> cases cur.isEmpty <;> cases h (log ++ [cur]) <;> rfl
     · intro st
       rcases st with ⟨log, lh, stk, cur, _ | _⟩ <;> rfl)

theorem sim_root {heap : Heap} {n : Nat} {es : List (UInt8 × Int)} {t : T} {S : List Nat}
    (hn : heap[n]? = some es) (hr : RepE heap es t S) (hnd : (es.map Prod.fst).Nodup)
    (hk : KeysOK heap S) :
    Sim heap [((n : Int), es.map Prod.fst, ((0 : Nat) : Int))] [((0 : Nat) : Int)] [(t.isNil, t)] :=
  .cons ⟨0, n, 0, es, S, rfl, rfl, hn, Nat.zero_le _, by simpa using hr, isNil_eq_isEmpty hr, hnd, hk⟩
    (by simp) .nil

/-- The translated `ForEach` on a node of maps, for EVERY consumer and EVERY number of iterations:
the model machine started on the root frame, with that fuel. -/
theorem Trie_ForEach_eq (hF : GoSrc.Trie_ForEach_Found = true) (hK : GoSrc.Trie_keys_Found = true)
    (heap : Heap) (n : Nat) (es : List (UInt8 × Int)) (t : T) (S : List Nat)
    (h : List Bytes → Bool) (fuel : Nat)
    (hn : heap[n]? = some es) (hr : RepE heap es t S) (hnd : (es.map Prod.fst).Nodup)
    (hk : KeysOK heap S) :
    GoSrc.Trie_ForEach fuel heap (n : Int) h = eachLoopO h fuel [(t.isNil, t)] [] [] := by
  obtain ⟨body, fin, hu, hbody, hfin⟩ := Trie_ForEach_unfold hF hK heap n es h hn
  rw [hu]
  simpa using each_loop heap h (GoSrc.Trie_keys heap) (Trie_keys_eq hK heap) body fin hbody hfin
    (List.range fuel) _ _ _ [] [] (sim_root hn hr hnd hk) rfl

/-- the translated `ForEach` is the model machine `eachLoopH` (any model fuel `m ≥ 2 * size + 1`) as soon as
`2 * size + 1 ≤ fuel` -/
theorem Trie_ForEach_loop (hF : GoSrc.Trie_ForEach_Found = true) (hK : GoSrc.Trie_keys_Found = true)
    (heap : Heap) (n : Nat) (es : List (UInt8 × Int)) (t : T) (S : List Nat)
    (h : List Bytes → Bool) (fuel m : Nat)
    (hn : heap[n]? = some es) (hr : RepE heap es t S) (hnd : (es.map Prod.fst).Nodup)
    (hk : KeysOK heap S) (hf : 2 * t.size + 1 ≤ fuel) (hm : 2 * t.size + 1 ≤ m) :
    GoSrc.Trie_ForEach fuel heap (n : Int) h = some (IterH.eachLoopH h m [(t.isNil, t)] [] []) := by
  rw [Trie_ForEach_eq hF hK heap n es t S h fuel hn hr hnd hk]
  exact eachLoopO_eq_some h fuel _ [] [] m (by simpa [work] using hf) (by simpa [work] using hm)

/-- the fuel bound is sharp: with at most `2 * size` iterations a consumer that never stops is
not done (the translation reports `none` = no claim) -/
theorem Trie_ForEach_short (hF : GoSrc.Trie_ForEach_Found = true) (hK : GoSrc.Trie_keys_Found = true)
    (heap : Heap) (n : Nat) (es : List (UInt8 × Int)) (t : T) (S : List Nat) (fuel : Nat)
    (hn : heap[n]? = some es) (hr : RepE heap es t S) (hnd : (es.map Prod.fst).Nodup)
    (hk : KeysOK heap S) (hf : fuel ≤ 2 * t.size) :
    GoSrc.Trie_ForEach fuel heap (n : Int) (fun _ => true) = none := by
  rw [Trie_ForEach_eq hF hK heap n es t S _ fuel hn hr hnd hk]
  exact eachLoopO_eq_none fuel _ [] [] (by simp [work]; omega)

theorem ForEach_machine (hF : GoSrc.Trie_ForEach_Found = true) (hK : GoSrc.Trie_keys_Found = true)
    (heap : Heap) (n : Nat) (t : T) (S : List Nat) (h : List Bytes → Bool) (fuel m : Nat)
    (hg : Good heap n t S) (hf : 2 * t.size + 1 ≤ fuel) (hm : 2 * t.size + 1 ≤ m) :
    GoSrc.Trie_ForEach fuel heap (n : Int) h = some (IterH.eachLoopH h m [(t.isNil, t)] [] []) := by
  obtain ⟨es, hn, hr⟩ := hg.cell
  exact Trie_ForEach_loop hF hK heap n es t S h fuel m hn hr (hg.keysNodup hn) hg.keysOK hf hm

theorem ForEach_eq (hF : GoSrc.Trie_ForEach_Found = true) (hK : GoSrc.Trie_keys_Found = true)
    (heap : Heap) (n : Nat) (t : T) (S : List Nat) (h : List Bytes → Bool) (fuel : Nat)
    (hg : Good heap n t S) (hf : 2 * t.size + 1 ≤ fuel) :
    GoSrc.Trie_ForEach fuel heap (n : Int) h = some (IterH.forEachLogH h t) :=
  ForEach_machine hF hK heap n t S h fuel _ hg hf (by omega)

theorem ForEach_short (hF : GoSrc.Trie_ForEach_Found = true) (hK : GoSrc.Trie_keys_Found = true)
    (heap : Heap) (n : Nat) (t : T) (S : List Nat) (fuel : Nat)
    (hg : Good heap n t S) (hf : fuel ≤ 2 * t.size) :
    GoSrc.Trie_ForEach fuel heap (n : Int) (fun _ => true) = none := by
  obtain ⟨es, hn, hr⟩ := hg.cell
  exact Trie_ForEach_short hF hK heap n es t S fuel hn hr (hg.keysNodup hn) hg.keysOK hf

/-! ## The size of the trie after a history (a fuel bound in terms of the calls alone) -/

/-- the bytes a history adds -/
def addBytes : List Op → Nat
  | [] => 0
  | .add b :: ops => b.length + addBytes ops
  | .del _ :: ops => addBytes ops

theorem size_run : ∀ (ops : List Op) (t : T), (run ops t).size ≤ t.size + addBytes ops
  | [], t => by simp [run, addBytes]
  | .add b :: ops, t => by
    have h1 := size_run ops (add b t)
    have h2 := size_add b t
    simp only [run, step, addBytes]; omega
  | .del b :: ops, t => by
    simp only [run, step, addBytes]
    cases hd : del b t with
    | none => simpa using size_run ops t
    | some t' =>
      have h1 := size_run ops t'
      have h2 := size_del b t t' hd
      simp only; omega

end TrieEach
end Bio.GoSrcLemmas

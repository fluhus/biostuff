/-
  A `bufio.Reader` as the SAM and BED readers use it is the list of its text lines: one
  `ReadString('\n')` followed by the two `TrimSuffix` calls (`GoRt.readString`, `GoRt.trimSuffix`) takes
  the head off `textLines e rest` (`Bio.Model.Lines`).  The bytes not yet read are empty, an
  unterminated tail, or a line, its LF and more (`lines_induction`); the equations say what
  `readString`, the trimming and `textLines` do in each case.
-/
import Bio.Model.GoRt
import Bio.Lemmas.Codec
namespace Bio.GoSrcLemmas
open Bio Bio.GoRt

theorem lines_induction {motive : Bytes → Prop} (nil : motive [])
    (tail : ∀ l, l ≠ [] → (10 : UInt8) ∉ l → motive l)
    (line : ∀ l rest, (10 : UInt8) ∉ l → motive rest → motive (l ++ 10 :: rest)) :
    ∀ rest, motive rest := by
  intro rest
  induction hn : rest.length using Nat.strongRecOn generalizing rest with
  | _ n ih =>
    by_cases hm : (10 : UInt8) ∈ rest
    · obtain ⟨l, r, rfl, hl⟩ := List.eq_append_cons_of_mem hm
      exact line l r hl (ih r.length (by subst hn; simp; omega) r rfl)
    · by_cases hne : rest = []
      · exact hne ▸ nil
      · exact tail rest hne hm

theorem bne_of_not_mem {d : UInt8} {l : Bytes} (h : d ∉ l) : ∀ b ∈ l, (b != d) = true :=
  fun _ hb => bne_iff_ne.2 fun e => h (e ▸ hb)

theorem takeWhile_ne_append {d : UInt8} {l : Bytes} (h : d ∉ l) (rest : Bytes) :
    (l ++ d :: rest).takeWhile (· != d) = l := by
  rw [List.takeWhile_append_of_pos (bne_of_not_mem h)]
  simp

theorem takeWhile_ne_self {d : UInt8} {l : Bytes} (h : d ∉ l) : l.takeWhile (· != d) = l := by
  simpa using List.takeWhile_append_of_pos (l₂ := []) (bne_of_not_mem h)

namespace BedRd

-- (the BED reader files refer to this one by the name it has in their namespace)
theorem readString_nil (e : Ending) : readString ⟨[], e⟩ 10 = ([], endErr e, ⟨[], e⟩) := rfl

end BedRd

theorem readString_tail {l : Bytes} (e : Ending) (h : (10 : UInt8) ∉ l) :
    readString ⟨l, e⟩ 10 = (l, endErr e, ⟨[], e⟩) := by
  unfold readString
  simp only [takeWhile_ne_self h, Nat.lt_irrefl, if_false]

theorem readString_line {l : Bytes} (rest : Bytes) (e : Ending) (h : (10 : UInt8) ∉ l) :
    readString ⟨l ++ 10 :: rest, e⟩ 10 = (l ++ [10], GoErr.nil, ⟨rest, e⟩) := by
  unfold readString
  simp only [takeWhile_ne_append h]
  rw [if_pos (by simp)]
  simp

theorem trimSuffix_single (s : Bytes) (c : UInt8) :
    trimSuffix s [c] = if s.getLast? = some c then s.dropLast else s := by
  unfold trimSuffix
  rcases List.eq_nil_or_concat s with rfl | ⟨t, d, rfl⟩
  · simp
  · by_cases hd : d = c
    · subst hd; simp [List.isSuffixOf_iff_suffix]
    · have : ¬ [c] <:+ t ++ [d] := by
        intro hs
        obtain ⟨u, hu⟩ := hs
        have := congrArg List.getLast? hu
        simp at this
        exact hd this.symm
      simp [List.isSuffixOf_iff_suffix, this, hd]

theorem dropCR_eq (l : Bytes) : dropCR l = if l.getLast? = some 13 then l.dropLast else l := by
  unfold dropCR
  split
  · rename_i h; rw [if_pos h]
  · rename_i h; rw [if_neg]; exact fun h' => h h'

theorem trim_line (l : Bytes) : trimSuffix (trimSuffix (l ++ [10]) [10]) [13] = dropCR l := by
  rw [trimSuffix_single (l ++ [10]) 10]
  simp only [List.getLast?_append, List.getLast?_singleton, Option.some_or, if_true, List.dropLast_concat]
  rw [trimSuffix_single, dropCR_eq]

theorem trim_tail {l : Bytes} (h : (10 : UInt8) ∉ l) :
    trimSuffix (trimSuffix l [10]) [13] = dropCR l := by
  rw [trimSuffix_single l 10, if_neg (fun hl => h (List.mem_of_getLast? hl)), trimSuffix_single, dropCR_eq]

theorem textLines_nil (e : Ending) : textLines e [] = [] := by
  cases e <;> rfl

theorem textLines_line (e : Ending) {l : Bytes} (rest : Bytes) (h : (10 : UInt8) ∉ l) :
    textLines e (l ++ 10 :: rest) = dropCR l :: textLines e rest := by
  cases e with
  | eof => exact scanLines_append_LF' h rest
  | fail => simp [textLines, completeLines_append_LF h]

theorem textLines_tail_eof {l : Bytes} (hne : l ≠ []) (h : (10 : UInt8) ∉ l) :
    textLines .eof l = [dropCR l] := by
  simp [textLines, scanLines, rawLines_of_not_mem hne h]

theorem textLines_tail_fail {l : Bytes} (h : (10 : UInt8) ∉ l) : textLines .fail l = [] := by
  simp [textLines, completeLines_of_not_mem h]

theorem textLines_length_le (e : Ending) (rest : Bytes) : (textLines e rest).length ≤ rest.length := by
  induction rest using lines_induction with
  | nil => simp [textLines_nil]
  | tail l hne h =>
    have : 1 ≤ l.length := List.length_pos_iff.2 hne
    cases e with
    | fail => simp [textLines_tail_fail h]
    | eof => simpa [textLines_tail_eof hne h] using this
  | line l rest h ih => rw [textLines_line e rest h]; simp; omega

theorem endErr_ne_nil (e : Ending) : endErr e ≠ GoErr.nil := by cases e <;> simp [endErr]

end Bio.GoSrcLemmas

/-
  `fasta.Reader`, `fasta.File` (formats/fasta/iter.go), `fastq.Reader`, `fastq.File`
  (formats/fastq/iter.go) as translated from the Go source text (`GoSrc.fasta_Reader`, …): two
  forwarding range-over-func loops (`Bio.Lemmas.GoSrcFile`) on top of the translated `(*reader).iter`.
  With the fuel of `fasta_iter_law` / `fastq_iter_law` they keep the history law.  For ANY fuel the
  `iter()` loop has the take-through discipline and does not tell the loop body from the outer
  consumer (`iterSpec_go_on`, `iterSpec_fwdC`), so `Reader = iter` and `File = Reader` whatever the
  fuel: both sides run out of fuel together.

  Guarded by the translator's `_Found` flags as in `Bio.Lemmas.GoSrc`.
-/
import Bio.Lemmas.GoSrcFile
import Bio.Lemmas.GoSrcIterWrite
set_option linter.unusedVariables false -- the `hF` of the flag idiom (Lemmas/GoSrc.lean)
set_option linter.unusedSimpArgs false
namespace Bio.GoSrcLemmas
open Bio Bio.GoRt Bio.Generated

namespace FileW2
open SamRd FileW

/-- `(*Fasta, error)` -/
abbrev FaItem := Option (Bytes × Bytes) × GoErr
/-- `(*Fastq, error)` -/
abbrev FqItem := Option (Bytes × Bytes × Bytes) × GoErr

/-! ## The `iter()` loop under a forwarding body, for ANY fuel -/

/-- whatever the fuel: if the loop returns, the consumer answered `true` on every history but the last -/
theorem iterSpec_go_on {ρ σ : Type} (read : σ → Option ((Option ρ × GoErr) × σ))
    (h : List (Option ρ × GoErr) → Bool) :
    ∀ (fuel : Nat) (acc : List (Option ρ × GoErr)) (s : σ) (L : List (Option ρ × GoErr)),
      iterSpec read h fuel acc s = some L →
      ∃ t, L = acc ++ t ∧ ∀ j, j + 1 < t.length → h (acc ++ t.take (j + 1)) = true := by
  intro fuel
  induction fuel with
  | zero => intro acc s L hL; cases hL
  | succ fuel ih =>
    intro acc s L hL
    simp only [iterSpec] at hL
    split at hL
    · cases hL
    · split at hL
      · split at hL
        · cases hL; exact ⟨[_], rfl, by simp⟩
        · cases hL; exact ⟨[], by simp, by simp⟩
      · split at hL
        · rename_i hy
          obtain ⟨t, rfl, ht⟩ := ih _ _ _ hL
          refine ⟨_ :: t, List.append_assoc _ [_] t, ?_⟩
          intro j hj
          cases j with
          | zero => simpa using hy
          | succ j =>
            have := ht j (by simpa using hj)
            simpa using this
        · cases hL; exact ⟨[_], rfl, by simp⟩

/-- the loop under the forwarding body IS the loop under the outer consumer, for any fuel -/
theorem iterSpec_fwdC {ρ σ : Type} (read : σ → Option ((Option ρ × GoErr) × σ))
    (y : List (Option ρ × GoErr) → Bool) :
    ∀ (fuel : Nat) (acc : List (Option ρ × GoErr)) (s : σ), runG (fwd y) acc = (acc, true) →
      iterSpec read (fwdC y) fuel acc s = iterSpec read y fuel acc s := by
  intro fuel
  induction fuel with
  | zero => intro acc s _; rfl
  | succ fuel ih =>
    intro acc s hacc
    simp only [iterSpec]
    split
    · rfl
    · rename_i x err s' _
      have hs := runG_fwd_snoc y acc (x, GoErr.nil) hacc
      have hc : fwdC y (acc ++ [(x, GoErr.nil)]) = y (acc ++ [(x, GoErr.nil)]) := by
        show (runG (fwd y) (acc ++ [(x, GoErr.nil)])).2 = _; rw [hs]
      rw [hc]
      split
      · rfl
      · split
        · rename_i hy
          exact ih _ _ (by rw [hs, hy])
        · rfl

theorem after_iterSpec {ρ σ : Type} (read : σ → Option ((Option ρ × GoErr) × σ))
    (y : List (Option ρ × GoErr) → Bool) (fuel : Nat) (s : σ) :
    after y (iterSpec read (fwdC y) fuel [] s) = iterSpec read y fuel [] s := by
  cases hin : iterSpec read (fwdC y) fuel [] s with
  | none => rw [← iterSpec_fwdC read y fuel [] s rfl, hin]; rfl
  | some inner =>
    obtain ⟨t, ht, hgo⟩ := iterSpec_go_on read (fwdC y) fuel [] s inner hin
    have hr := fwd_replay y inner (by
      intro j hj
      have := hgo j (by rw [ht] at hj; simpa using hj)
      rw [ht]; simpa using this)
    rw [← iterSpec_fwdC read y fuel [] s rfl, hin]
    simp only [after, Option.bind_some, if_pos hr.1, hr.2.1]

theorem after_after_iterSpec {ρ σ : Type} (read : σ → Option ((Option ρ × GoErr) × σ))
    (y : List (Option ρ × GoErr) → Bool) (fuel : Nat) (s : σ) :
    after y (after (fwdC y) (iterSpec read (fwdC (fwdC y)) fuel [] s)) = iterSpec read y fuel [] s := by
  rw [after_iterSpec, after_iterSpec]

/-! ## fasta -/

theorem fasta_Reader_spec (hRd : GoSrc.fasta_Reader_Found = true) (fuel : Nat) (r : Bytes × Ending)
    (yield : List FaItem → Bool) :
    GoSrc.fasta_Reader fuel r yield = after yield (GoSrc.fasta_iter fuel r.1 r.2 (fwdC yield)) := by
  first
  | exact absurd hRd (by decide)
  | (unfold GoSrc.fasta_Reader
     simp only [FileW.step_eq]
     exact bind_panic_eq_after yield _)

theorem fasta_Reader_any (hRd : GoSrc.fasta_Reader_Found = true) (hI : GoSrc.fasta_iter_Found = true)
    (fuel : Nat) (r : Bytes × Ending) (yield : List FaItem → Bool) :
    GoSrc.fasta_Reader fuel r yield = GoSrc.fasta_iter fuel r.1 r.2 yield := by
  rw [fasta_Reader_spec hRd, fasta_iter_spec hI, fasta_iter_spec hI, after_iterSpec]

theorem fasta_File_spec (hFl : GoSrc.fasta_File_Found = true) (o : Bytes → (Bytes × Ending) × GoErr)
    (fuel : Nat) (file : Bytes) (yield : List FaItem → Bool) :
    GoSrc.fasta_File o fuel file yield
      = if (o file).2 ≠ GoErr.nil then some [(none, (o file).2)]
        else after yield (GoSrc.fasta_Reader fuel (o file).1 (fwdC yield)) := by
  first
  | exact absurd hFl (by decide)
  | (unfold GoSrc.fasta_File
     simp only [FileW.step_eq]
     exact open_panic_eq_after yield (o file).2 _ _)

theorem fasta_File_any (hFl : GoSrc.fasta_File_Found = true) (hRd : GoSrc.fasta_Reader_Found = true)
    (hI : GoSrc.fasta_iter_Found = true)
    (o : Bytes → (Bytes × Ending) × GoErr) (fuel : Nat) (file : Bytes) (yield : List FaItem → Bool)
    (ho : (o file).2 = GoErr.nil) :
    GoSrc.fasta_File o fuel file yield = GoSrc.fasta_Reader fuel (o file).1 yield := by
  rw [fasta_File_spec hFl, if_neg (by simpa using ho), fasta_Reader_any hRd hI, fasta_Reader_any hRd hI,
    fasta_iter_spec hI, fasta_iter_spec hI, after_iterSpec]

def fastaFileItems (o : Bytes → (Bytes × Ending) × GoErr) (file : Bytes) : List FaItem :=
  if (o file).2 = GoErr.nil then (Fasta.decodeSrc (o file).1.2 (o file).1.1).map faRaw
  else [(none, (o file).2)]

theorem fasta_File_law (hFl : GoSrc.fasta_File_Found = true) (hRd : GoSrc.fasta_Reader_Found = true)
    (hI : GoSrc.fasta_iter_Found = true) (hR : GoSrc.fasta_read_Found = true)
    (o : Bytes → (Bytes × Ending) × GoErr) (fuel : Nat) (file : Bytes)
    (hf : (o file).2 = GoErr.nil → (o file).1.1.length + 1 ≤ fuel) :
    LawO (GoSrc.fasta_File o fuel file) (fastaFileItems o file) :=
  file_law (fasta_File_spec hFl o fuel file) fun ho y => by
    rw [fasta_Reader_any hRd hI]; exact fasta_iter_law hI hR fuel _ _ (hf ho) y

/-! ## fastq -/

theorem fastq_Reader_spec (hRd : GoSrc.fastq_Reader_Found = true) (fuel : Nat) (r : List Bytes × Ending)
    (yield : List FqItem → Bool) :
    GoSrc.fastq_Reader fuel r yield = after yield (GoSrc.fastq_iter fuel r.1 r.2 (fwdC yield)) := by
  first
  | exact absurd hRd (by decide)
  | (unfold GoSrc.fastq_Reader
     simp only [FileW.step_eq]
     exact bind_panic_eq_after yield _)

theorem fastq_Reader_any (hRd : GoSrc.fastq_Reader_Found = true) (hI : GoSrc.fastq_iter_Found = true)
    (fuel : Nat) (r : List Bytes × Ending) (yield : List FqItem → Bool) :
    GoSrc.fastq_Reader fuel r yield = GoSrc.fastq_iter fuel r.1 r.2 yield := by
  rw [fastq_Reader_spec hRd, fastq_iter_spec hI, fastq_iter_spec hI, after_iterSpec]

theorem fastq_File_spec (hFl : GoSrc.fastq_File_Found = true) (o : Bytes → (List Bytes × Ending) × GoErr)
    (fuel : Nat) (file : Bytes) (yield : List FqItem → Bool) :
    GoSrc.fastq_File o fuel file yield
      = if (o file).2 ≠ GoErr.nil then some [(none, (o file).2)]
        else after yield (GoSrc.fastq_Reader fuel (o file).1 (fwdC yield)) := by
  first
  | exact absurd hFl (by decide)
  | (unfold GoSrc.fastq_File
     simp only [FileW.step_eq]
     exact open_panic_eq_after yield (o file).2 _ _)

theorem fastq_File_any (hFl : GoSrc.fastq_File_Found = true) (hRd : GoSrc.fastq_Reader_Found = true)
    (hI : GoSrc.fastq_iter_Found = true)
    (o : Bytes → (List Bytes × Ending) × GoErr) (fuel : Nat) (file : Bytes) (yield : List FqItem → Bool)
    (ho : (o file).2 = GoErr.nil) :
    GoSrc.fastq_File o fuel file yield = GoSrc.fastq_Reader fuel (o file).1 yield := by
  rw [fastq_File_spec hFl, if_neg (by simpa using ho), fastq_Reader_any hRd hI, fastq_Reader_any hRd hI,
    fastq_iter_spec hI, fastq_iter_spec hI, after_iterSpec]

def fastqFileItems (o : Bytes → (List Bytes × Ending) × GoErr) (file : Bytes) : List FqItem :=
  if (o file).2 = GoErr.nil then (Fastq.fromLines (o file).1.2 (o file).1.1).map fqRaw
  else [(none, (o file).2)]

theorem fastq_File_law (hFl : GoSrc.fastq_File_Found = true) (hRd : GoSrc.fastq_Reader_Found = true)
    (hI : GoSrc.fastq_iter_Found = true) (hR : GoSrc.fastq_read_Found = true)
    (o : Bytes → (List Bytes × Ending) × GoErr) (fuel : Nat) (file : Bytes)
    (hf : (o file).2 = GoErr.nil → (o file).1.1.length + 1 ≤ fuel) :
    LawO (GoSrc.fastq_File o fuel file) (fastqFileItems o file) :=
  file_law (fastq_File_spec hFl o fuel file) fun ho y => by
    rw [fastq_Reader_any hRd hI]; exact fastq_iter_law hI hR fuel _ _ (hf ho) y

end FileW2
end Bio.GoSrcLemmas

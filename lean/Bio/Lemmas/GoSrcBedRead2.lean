/-
  The translated `parseLine` (formats/bed/bed.go) IS the parametrised model parser
  `BedRd.parseSpec (reqA f) (u8G g)` of `Bio.Lemmas.GoSrcBedRead1`, for arbitrary `strconv` parameters
  `f`, `g` (`go_parseLine_spec`).  The translated code is a chain of join points, one per optional
  field, each nested in the one before it.  One block lemma per kind of field (`atoi_block`,
  `optInt_block`, `rgb_block`, `listI_block`, `guard_block`) relates the block in front of an
  arbitrary remainder of the program to the corresponding `bind` in front of the remainder of the
  specification; `go_parseLine_spec` applies them from the first field to the last.

  Guarded by the translator's `parseLine_Found` flag as in `Bio.Lemmas.GoSrc`.
-/
import Bio.Generated.GoSrc
import Bio.Lemmas.GoSrcBedRead1
set_option linter.unusedVariables false
namespace Bio.GoSrcLemmas
open Bio Bio.GoRt Bio.Generated

namespace BedRd

abbrev PR := Option (Option BedT × GoErr)

/-! ## Blocks: a statement of the program against a `bind` of the specification -/

/-- `if b { return nil, err }`, then `rest` -/
theorem guard_block (b : Bool) (c : Prop) [Decidable c] (hbc : b = true ↔ c) (rest : PR) (S : Option Bed.Bed)
    (h : ¬ c → rest = some (resultOf S)) :
    (if b = true then some (none, GoErr.other) else rest) = some (resultOf (if c then none else S)) := by
  by_cases hc : c
  · rw [if_pos (hbc.2 hc), if_pos hc]; rfl
  · rw [if_neg (fun hb => hc (hbc.1 hb)), if_neg hc]; exact h hc

theorem atoi_block (f : Bytes → Int × GoErr) (s : Bytes) (rest : PR) (S : Int → Option Bed.Bed)
    (h : (f s).2 = GoErr.nil → rest = some (resultOf (S (f s).1))) :
    (if ((f s).2 != GoErr.nil) = true then some (none, GoErr.other) else rest)
      = some (resultOf ((reqA f s).bind S)) := by
  unfold reqA
  by_cases he : (f s).2 = GoErr.nil
  · rw [if_neg (by simp [he]), if_pos he]; exact h he
  · rw [if_pos (by simpa using he), if_neg he]; rfl

theorem optInt_block (f : Bytes → Int × GoErr) (s : Bytes) (e0 : GoErr) (jp : Unit → Int → GoErr → PR)
    (S : Int → Option Bed.Bed) (h : ∀ v e, jp () v e = some (resultOf (S v))) :
    (if (s != []) = true then
        (if ((f s).2 != GoErr.nil) = true then some (none, GoErr.other) else jp () (f s).1 (f s).2)
      else jp () 0 e0) = some (resultOf ((optI (reqA f) s).bind S)) := by
  unfold optI
  by_cases hs : s = []
  · rw [if_neg (by simp [hs]), if_pos hs]; exact h _ _
  · rw [if_pos (by simpa using hs), if_neg hs]; exact atoi_block f s _ S (fun _ => h _ _)


abbrev LoopSt (β : Type) := Option β × List Int × GoErr

/-- the body of a block-list loop of `parseLine`: `x, err = strconv.Atoi(pieces[i]); list[i] = x; if err != nil { return … }` -/
def listBody (f : Bytes → Int × GoErr) (pieces : List Bytes) (i : Int) (st : LoopSt (Option BedT × GoErr)) :
    Option (ForInStep (LoopSt (Option BedT × GoErr))) :=
  (idx pieces i).bind fun p => (setIdx st.2.1 i (f p).1).bind fun l =>
    if ((f p).2 != GoErr.nil) = true then some (.done (some (none, GoErr.other), l, (f p).2))
    else some (.yield (none, l, (f p).2))

/-- the body of the RGB loop: `a, err := strconv.ParseUint(pieces[i], 0, 8); if err != nil { return … }; rgb[i] = byte(a)` -/
def rgbBody (g : Bytes → Int → Int → Int × GoErr) (pieces : List Bytes) (i : Int)
    (st : Option (Option BedT × GoErr) × List UInt8) :
    Option (ForInStep (Option (Option BedT × GoErr) × List UInt8)) :=
  (idx pieces i).bind fun p =>
    if ((g p 0 8).2 != GoErr.nil) = true then some (.done (some (none, GoErr.other), st.2))
    else (setIdx st.2 i (u8 (g p 0 8).1)).bind fun l => some (.yield (none, l))

/-- `K` is the code after the loop: an early return inside the loop (`some r`) is passed on (`hsome`), a
completed loop goes on at the join point `jp` with the filled slice (`hnone`); likewise in `listI_block`. -/
theorem rgb_block (g : Bytes → Int → Int → Int × GoErr) (s : Bytes) (jp : Unit → List UInt8 → PR)
    (S : UInt8 × UInt8 × UInt8 → Option Bed.Bed) (K : Option (Option BedT × GoErr) × List UInt8 → PR)
    (hnone : ∀ l, K (none, l) = jp () l) (hsome : ∀ r l, K (some r, l) = some r)
    (h : ∀ r, jp () [r.1, r.2.1, r.2.2] = some (resultOf (S r))) :
    (if (s != []) = true then
        (if (len (splitOn 44 s) != 3) = true then some (none, GoErr.other)
         else (forIn (upTo (len (splitOn 44 s))) (none, List.replicate 3 (0 : UInt8))
            (rgbBody g (splitOn 44 s))).bind K)
      else jp () (List.replicate 3 0)) = some (resultOf ((rgbU (u8G g) s).bind S)) := by
  unfold rgbU
  by_cases hs : s = []
  · rw [if_neg (by simp [hs]), if_pos hs]; exact h (0, 0, 0)
  · rw [if_pos (by simpa using hs), if_neg hs]
    rcases splitOn 44 s with _ | ⟨a, _ | ⟨b, _ | ⟨c, _ | ⟨d, r⟩⟩⟩⟩
    · rfl
    · rfl
    · rfl
    · have s0 : ∀ x : UInt8, setIdx [(0 : UInt8), 0, 0] 0 x = some [x, 0, 0] := fun _ => rfl
      have s1 : ∀ x y : UInt8, setIdx [x, 0, 0] 1 y = some [x, y, 0] := fun _ _ => rfl
      have s2 : ∀ x y z : UInt8, setIdx [x, y, 0] 2 z = some [x, y, z] := fun _ _ _ => rfl
      rw [if_neg (by simp [len]), show upTo (len [a, b, c]) = [0, 1, 2] from rfl,
        show List.replicate 3 (0 : UInt8) = [0, 0, 0] from rfl]
      simp only [List.forIn_cons, List.forIn_nil, rgbBody, u8G,
        show idx [a, b, c] 0 = some a from rfl, show idx [a, b, c] 1 = some b from rfl,
        show idx [a, b, c] 2 = some c from rfl, Option.bind_some, Option.bind_eq_bind, Option.pure_def]
      by_cases ha : (g a 0 8).2 = GoErr.nil
      · by_cases hb : (g b 0 8).2 = GoErr.nil
        · by_cases hc : (g c 0 8).2 = GoErr.nil
          · simp only [ha, hb, hc, bne_self_eq_false, Bool.false_eq_true, if_false, if_true, Option.bind_some,
              s0, s1, s2, hnone]
            exact h (_, _, _)
          · simp only [ha, hb, hc, bne_self_eq_false, Bool.false_eq_true, if_false, if_true, Option.bind_some,
              s0, s1, bne_iff_ne, ne_eq, not_false_eq_true, hsome, Option.bind_none]
            rfl
        · simp only [ha, hb, bne_self_eq_false, Bool.false_eq_true, if_false, if_true, Option.bind_some,
              s0, bne_iff_ne, ne_eq, not_false_eq_true, hsome, Option.bind_none]
          rfl
      · simp only [ha, bne_iff_ne, ne_eq, not_false_eq_true, if_true, Option.bind_some, hsome, if_false,
          Option.bind_none]
        rfl
    · rw [if_pos (by simp [len]; omega)]; rfl


/-- the loop fills the slice with the values of the pieces, or returns at the first piece `strconv.Atoi`
rejects -/
theorem list_loop_aux (f : Bytes → Int × GoErr) (P : List Bytes) :
    ∀ (suf pre : List Bytes) (done : List Int) (e0 : GoErr), pre ++ suf = P → done.length = pre.length →
      ∃ st, forIn ((List.range' pre.length suf.length).map Int.ofNat)
              ((none, done ++ List.replicate suf.length 0, e0) : LoopSt (Option BedT × GoErr)) (listBody f P) = some st
        ∧ (match suf.mapM (reqA f) with
           | some l => st.1 = none ∧ st.2.1 = done ++ l
           | none => st.1 = some (none, GoErr.other)) := by
  intro suf
  induction suf with
  | nil =>
    intro pre done e0 _ _
    exact ⟨_, rfl, by simp⟩
  | cons s suf ih =>
    intro pre done e0 hP hlen
    have hs : idx P (pre.length : Int) = some s := by rw [idx_ofNat, ← hP]; simp
    have hlt : pre.length < (done ++ List.replicate (suf.length + 1) (0 : Int)).length := by simp; omega
    simp only [List.length_cons, List.range'_succ, List.map_cons, List.forIn_cons]
    rw [show Int.ofNat pre.length = (pre.length : Int) from rfl, listBody, hs, Option.bind_some, setIdx_ofNat,
      if_pos hlt, Option.bind_some]
    by_cases he : (f s).2 = GoErr.nil
    · rw [if_neg (by simp [he])]
      have hset : (done ++ List.replicate (suf.length + 1) (0 : Int)).set pre.length (f s).1
          = (done ++ [(f s).1]) ++ List.replicate suf.length 0 := by
        rw [← hlen, List.replicate_succ]
        simp
      obtain ⟨st, h1, h2⟩ := ih (pre ++ [s]) (done ++ [(f s).1]) (f s).2 (by simpa using hP) (by simp [hlen])
      rw [show (pre ++ [s]).length = pre.length + 1 by simp] at h1
      refine ⟨st, by simpa [hset] using h1, ?_⟩
      have hr : reqA f s = some (f s).1 := by simp [reqA, he]
      simp only [List.mapM_cons, hr, Option.bind_eq_bind, Option.bind_some, Option.pure_def]
      cases hm : suf.mapM (reqA f) with
      | none => rw [hm] at h2; simpa using h2
      | some l => rw [hm] at h2; simpa using h2
    · rw [if_pos (by simpa using he)]
      refine ⟨_, rfl, ?_⟩
      have hr : reqA f s = none := by simp [reqA, he]
      simp [List.mapM_cons, hr]

theorem listI_block (f : Bytes → Int × GoErr) (s : Bytes) (e0 : GoErr) (jp : Unit → List Int → GoErr → PR)
    (S : List Int → Option Bed.Bed) (K : LoopSt (Option BedT × GoErr) → PR)
    (hnone : ∀ l e, K (none, l, e) = jp () l e) (hsome : ∀ r l e, K (some r, l, e) = some r)
    (h : ∀ l e, jp () l e = some (resultOf (S l))) :
    (if (s != []) = true then
        (forIn (upTo (len (splitOn 44 s))) (none, List.replicate (len (splitOn 44 s)).toNat 0, e0)
          (listBody f (splitOn 44 s))).bind K
      else jp () [] e0) = some (resultOf ((listI (reqA f) s).bind S)) := by
  unfold listI
  by_cases hs : s = []
  · rw [if_neg (by simp [hs]), if_pos hs]; exact h [] e0
  · rw [if_pos (by simpa using hs), if_neg hs]
    obtain ⟨⟨r, l, e⟩, hst, hm⟩ := list_loop_aux f (splitOn 44 s) (splitOn 44 s) [] [] e0 rfl rfl
    have hst' : forIn (upTo (len (splitOn 44 s))) (none, List.replicate (len (splitOn 44 s)).toNat 0, e0)
        (listBody f (splitOn 44 s)) = some (r, l, e) := by
      simpa [upTo, len, List.range_eq_range'] using hst
    rw [hst', Option.bind_some]
    cases hmm : (splitOn 44 s).mapM (reqA f) with
    | none =>
      rw [hmm] at hm
      simp only at hm
      rw [hm, hsome]; rfl
    | some l' =>
      rw [hmm] at hm
      simp only [List.nil_append] at hm
      rw [hm.1, hm.2, hnone]; exact h l' e


/-! ## The twelve padded fields -/

theorem list12_of_length {α : Type} (l : List α) (h : l.length = 12) :
    ∃ f0 f1 f2 f3 f4 f5 f6 f7 f8 f9 f10 f11, l = [f0, f1, f2, f3, f4, f5, f6, f7, f8, f9, f10, f11] := by
  obtain ⟨f0, l0, rfl, h0⟩ := cons_of_succ_le (Nat.le_of_eq h.symm)
  obtain ⟨f1, l1, rfl, h1⟩ := cons_of_succ_le h0
  obtain ⟨f2, l2, rfl, h2⟩ := cons_of_succ_le h1
  obtain ⟨f3, l3, rfl, h3⟩ := cons_of_succ_le h2
  obtain ⟨f4, l4, rfl, h4⟩ := cons_of_succ_le h3
  obtain ⟨f5, l5, rfl, h5⟩ := cons_of_succ_le h4
  obtain ⟨f6, l6, rfl, h6⟩ := cons_of_succ_le h5
  obtain ⟨f7, l7, rfl, h7⟩ := cons_of_succ_le h6
  obtain ⟨f8, l8, rfl, h8⟩ := cons_of_succ_le h7
  obtain ⟨f9, l9, rfl, h9⟩ := cons_of_succ_le h8
  obtain ⟨f10, l10, rfl, h10⟩ := cons_of_succ_le h9
  obtain ⟨f11, l11, rfl, -⟩ := cons_of_succ_le h10
  obtain rfl : l11 = [] := List.eq_nil_of_length_eq_zero (by simp only [List.length_cons] at h; omega)
  exact ⟨f0, f1, f2, f3, f4, f5, f6, f7, f8, f9, f10, f11, rfl⟩

theorem getD_pad (fs : List Bytes) (m i : Nat) :
    ((fs ++ List.replicate m ([] : Bytes))[i]?).getD [] = (fs[i]?).getD [] := by
  by_cases h : i < fs.length
  · rw [List.getElem?_append_left h]
  · rw [List.getElem?_append_right (by omega), List.getElem?_eq_none (by omega : fs.length ≤ i)]
    by_cases h2 : i - fs.length < m <;> simp [h2]

section
variable {α : Type} (a0 a1 a2 a3 a4 a5 a6 a7 a8 a9 a10 a11 : α)
theorem idx12_0 : idx [a0, a1, a2, a3, a4, a5, a6, a7, a8, a9, a10, a11] 0 = some a0 := rfl
theorem idx12_1 : idx [a0, a1, a2, a3, a4, a5, a6, a7, a8, a9, a10, a11] 1 = some a1 := rfl
theorem idx12_2 : idx [a0, a1, a2, a3, a4, a5, a6, a7, a8, a9, a10, a11] 2 = some a2 := rfl
theorem idx12_3 : idx [a0, a1, a2, a3, a4, a5, a6, a7, a8, a9, a10, a11] 3 = some a3 := rfl
theorem idx12_4 : idx [a0, a1, a2, a3, a4, a5, a6, a7, a8, a9, a10, a11] 4 = some a4 := rfl
theorem idx12_5 : idx [a0, a1, a2, a3, a4, a5, a6, a7, a8, a9, a10, a11] 5 = some a5 := rfl
theorem idx12_6 : idx [a0, a1, a2, a3, a4, a5, a6, a7, a8, a9, a10, a11] 6 = some a6 := rfl
theorem idx12_7 : idx [a0, a1, a2, a3, a4, a5, a6, a7, a8, a9, a10, a11] 7 = some a7 := rfl
theorem idx12_8 : idx [a0, a1, a2, a3, a4, a5, a6, a7, a8, a9, a10, a11] 8 = some a8 := rfl
theorem idx12_9 : idx [a0, a1, a2, a3, a4, a5, a6, a7, a8, a9, a10, a11] 9 = some a9 := rfl
theorem idx12_10 : idx [a0, a1, a2, a3, a4, a5, a6, a7, a8, a9, a10, a11] 10 = some a10 := rfl
theorem idx12_11 : idx [a0, a1, a2, a3, a4, a5, a6, a7, a8, a9, a10, a11] 11 = some a11 := rfl
end

/-- `a && b` as Go evaluates it: `b` only when `a` holds; `F` is the join point that takes the value -/
theorem ite_app_and {β : Type} (F : Bool → β) (c x : Bool) :
    (if c = true then F x else F false) = F (c && x) := by cases c <;> rfl

theorem strand_cond (s : Bytes) :
    ((((s != []) && (s != [43])) && (s != [45])) && (s != [46])) = !Bed.validStrand s := by
  simp only [Bed.validStrand, Bool.not_or, bne, Bool.beq_eq_decide_eq]

local macro "bedrd_leaf" : tactic => `(tactic| (subst_vars; simp [parseSpec12, resultOf, tupleOf, *]))

set_option hygiene false in
/-- `if fields[k] != "" { if x, err = strconv.Atoi(fields[k]); err != nil { return … } }` -/
local macro "bedrd_opt_int" fk:ident v:ident hv:ident : tactic => `(tactic| (
  extract_lets -underBinder +onlyGivenNames jp
  suffices hjp : ∀ v e, optI (reqA f) $fk = some v → jp () v e = RHS by
    clear_value jp
    by_cases h : $fk = []
    · simp only [h, bne_self_eq_false, Bool.false_eq_true, if_false]
      exact hjp _ _ (by simp [optI, h])
    · by_cases h' : (f $fk).2 = GoErr.nil
      · simp only [h, h', bne_iff_ne, ne_eq, not_false_eq_true, if_true, not_true_eq_false, if_false]
        exact hjp _ _ (by simp [optI, reqA, h, h'])
      · have hbad : optI (reqA f) $fk = none := by simp [optI, reqA, h, h']
        simp only [h, h', bne_iff_ne, ne_eq, not_false_eq_true, if_true]
        bedrd_leaf
  intro $v e $hv
  simp -zeta only [jp]
  clear jp))

/-- For ARBITRARY `f` (`strconv.Atoi`) and `g` (`strconv.ParseUint`): the translated `parseLine` is the
parametrised model parser at `reqA f`, `u8G g`; it never panics (every index is in range: the padded
slice has 12 elements, the RGB loop runs over exactly 3 pieces, the block loops over the pieces the
slice was allocated for). -/
theorem go_parseLine_spec (hF : GoSrc.parseLine_Found = true) (f : Bytes → Int × GoErr)
    (g : Bytes → Int → Int → Int × GoErr) (fs : List Bytes) :
    GoSrc.parseLine f g fs = some (resultOf (parseSpec (reqA f) (u8G g) fs)) := by
  first
  | exact absurd hF (by decide)
  | (by_cases hn : fs.length < 3 ∨ fs.length > 12
     · have hn' : (len fs < 3) ∨ (len fs > 12) := by unfold len; omega
       unfold GoSrc.parseLine parseSpec
       rw [if_pos hn]
       rcases hn' with h | h <;> simp [h, resultOf]
     · obtain ⟨f0, f1, f2, f3, f4, f5, f6, f7, f8, f9, f10, f11, hfs⟩ :=
         list12_of_length (fs ++ List.replicate (12 - len fs).toNat ([] : Bytes)) (by simp [len]; omega)
       have hp : ∀ i : Nat, (fs[i]?).getD [] = ([f0, f1, f2, f3, f4, f5, f6, f7, f8, f9, f10, f11][i]?).getD [] := by
         intro i; rw [← hfs, getD_pad]
       have hn1 : ¬ (len fs < 3) := by unfold len; omega
       have hn2 : ¬ (len fs > 12) := by unfold len; omega
       unfold parseSpec
       rw [if_neg hn]
       simp only [hp, List.getElem?_cons_zero, List.getElem?_cons_succ, Option.getD_some]
       clear hp
       unfold GoSrc.parseLine parseSpec12
       extract_lets fields0 n fields
       have hfields : fields = [f0, f1, f2, f3, f4, f5, f6, f7, f8, f9, f10, f11] := hfs
       clear_value fields
       subst hfields
       rw [if_neg (by simp [n, fields0, hn1, hn2])]
       dsimp -zeta only [idx12_0, idx12_1, idx12_2, idx12_3, idx12_4, idx12_5, idx12_6, idx12_7, idx12_8, idx12_9,
         idx12_10, idx12_11, Option.bind_eq_bind, Option.bind_some, Option.pure_def]
       refine atoi_block f f1 _ _ (fun e1 => ?_)
       refine atoi_block f f2 _ _ (fun e2 => ?_)
       extract_lets -underBinder +onlyGivenNames jp
       refine optInt_block f f4 _ jp _ (fun sc e => ?_)
       dsimp -zeta only [jp]
       clear jp
       -- the strand: three nested short-circuit tests
       extract_lets -underBinder +onlyGivenNames jpA
       rw [ite_app_and]
       dsimp -zeta only [jpA]
       clear jpA
       extract_lets -underBinder +onlyGivenNames jpB
       rw [ite_app_and]
       dsimp -zeta only [jpB]
       clear jpB
       extract_lets -underBinder +onlyGivenNames jpC
       rw [ite_app_and]
       dsimp -zeta only [jpC]
       clear jpC
       rw [strand_cond]
       refine guard_block _ _ (by simp) _ _ (fun _ => ?_)
       extract_lets -underBinder +onlyGivenNames jp
       refine optInt_block f f6 _ jp _ (fun ts e => ?_)
       dsimp -zeta only [jp]
       clear jp
       extract_lets -underBinder +onlyGivenNames jp
       refine optInt_block f f7 _ jp _ (fun te e => ?_)
       dsimp -zeta only [jp]
       clear jp
       extract_lets -underBinder +onlyGivenNames jp
       refine rgb_block g f8 jp _ _ (fun _ => rfl) (fun _ _ => rfl) (fun rgb => ?_)
       dsimp -zeta only [jp]
       clear jp
       extract_lets -underBinder +onlyGivenNames jp
       refine optInt_block f f9 _ jp _ (fun bc e => ?_)
       dsimp -zeta only [jp]
       clear jp
       extract_lets -underBinder +onlyGivenNames jp
       refine listI_block f f10 _ jp _ _ (fun _ _ => rfl) (fun _ _ _ => rfl) (fun bs e => ?_)
       dsimp -zeta only [jp]
       clear jp
       extract_lets -underBinder +onlyGivenNames jp
       refine listI_block f f11 _ jp _ _ (fun _ _ => rfl) (fun _ _ _ => rfl) (fun bst e => ?_)
       dsimp -zeta only [jp]
       clear jp
       refine guard_block _ _ (by simp [len, n, fields0]) _ _ (fun _ => ?_)
       refine guard_block _ _ (by simp [len, n, fields0]) _ _ (fun _ => ?_)
       rfl)

end BedRd

end Bio.GoSrcLemmas

/-
  The Go SOURCE TEXT of package regions (regions/regions.go: `eventLess`, `keys`, `cp`, `NewIndex`,
  `(*Index).At`) and of `(*SAM).Write` (formats/sam/sam.go), as translated on every run into
  `Bio.Generated.GoSrc`, against the hand-written models `Bio.Model.Regions` / `Bio.Model.Sam`:

  * `eventLess` is the model's `evLess`; `keys` sorts (and is the identity on an ascending set);
    `cp` copies;
  * `NewIndex starts ends` is the model's `newIndex` (breakpoints with the active sets as `int`s),
    including the panic exactly when the lengths differ;
  * `Index.At` on an index with strictly ascending breakpoint positions is the model's `at'`
    (Go's `sort.Search` loop finds the first breakpoint beyond `i`);
  * `SAM.Write` performs the model's `Sam.writeCalls` on the writer, stopping at the first error.

  Guarded by the translator's `<f>_Found` flags as in `Bio.Lemmas.GoSrc`.
-/
import Bio.Lemmas.GoSrcIterWrite
import Bio.Lemmas.Regions
import Bio.Lemmas.GoRt
import Bio.Model.Sam
set_option linter.unusedVariables false
namespace Bio.GoSrcLemmas
open Bio Bio.GoRt Bio.Generated

/-- the translated `event{idx, pos, start}` -/
abbrev Tup := Int × Int × Bool

/-- a model event as the translated struct -/
def toTup (e : Regions.Ev) : Tup := ((e.idx : Int), e.pos, e.start)

/-- a model index as the translated `[]interval{start, idxs}`: the active sets as Go `int`s -/
def ofIdx (idx : Regions.Index) : List (Int × List Int) := idx.map fun bp => (bp.1, bp.2.map Int.ofNat)

/-- `eventLess` is the model's `evLess` and never panics -/
theorem eventLess_eq (hF : GoSrc.eventLess_Found = true) (i j : Nat) (p q : Int) (s t : Bool) :
    GoSrc.eventLess ((i : Int), p, s) ((j : Int), q, t) = some (Regions.evLess ⟨i, p, s⟩ ⟨j, q, t⟩) := by
  first
  | exact absurd hF (by decide)
  | (unfold GoSrc.eventLess
     simp only [Option.pure_def, Regions.evLess]
     by_cases h1 : p = q
     · by_cases h2 : s = t
       · simp [h1, h2]
       · simp [h1, h2]
     · simp [h1])

theorem eventLess_toTup (hF : GoSrc.eventLess_Found = true) (a b : Regions.Ev) :
    GoSrc.eventLess (toTup a) (toTup b) = some (Regions.evLess a b) :=
  eventLess_eq hF a.idx b.idx a.pos b.pos a.start b.start

/-- `keys` returns the members sorted -/
theorem keys_eq (hF : GoSrc.keys_Found = true) (m : List Int) : GoSrc.keys m = some (sortInts m) := by
  first
  | exact absurd hF (by decide)
  | (unfold GoSrc.keys
     simp only [Option.pure_def, Option.bind_eq_bind]
     cases m with
     | nil => simp [len, sortInts]
     | cons a m =>
       have : (len (a :: m) == 0) = false := by simp [len]; omega
       simp only [this]
       rw [forIn_append_map (fun k : Int => k) (a :: m) []]
       simp)

theorem sortInts_sorted (m : List Int) (h : m.Pairwise (· < ·)) : sortInts m = m := by
  unfold sortInts
  apply List.mergeSort_of_pairwise
  exact h.imp (fun hab => by simpa using Int.le_of_lt hab)

/-- on the ascending duplicate-free representation of a set, `keys` returns the set itself -/
theorem keys_eq_self (hF : GoSrc.keys_Found = true) (m : List Int) (h : m.Pairwise (· < ·)) :
    GoSrc.keys m = some m := by
  rw [keys_eq hF, sortInts_sorted m h]

theorem pairwise_map_ofNat (l : List Nat) (h : l.Pairwise (· < ·)) : (l.map Int.ofNat).Pairwise (· < ·) := by
  rw [List.pairwise_map]
  exact h.imp (fun hab => by simpa using hab)

theorem keys_map_ofNat (hF : GoSrc.keys_Found = true) (l : List Nat) (h : l.Pairwise (· < ·)) :
    GoSrc.keys (l.map Int.ofNat) = some (l.map Int.ofNat) :=
  keys_eq_self hF _ (pairwise_map_ofNat l h)

/-- `cp` returns its argument -/
theorem cp_eq (hF : GoSrc.cp_Found = true) (a : List Int) : GoSrc.cp a = some a := by
  first
  | exact absurd hF (by decide)
  | (unfold GoSrc.cp
     simp only [Option.pure_def]
     cases a with
     | nil => simp [len]
     | cons x a =>
       have : (len (x :: a) == 0) = false := by simp [len]; omega
       simp only [this]
       simp [copyInto, len])

theorem setInsert_map (x : Nat) (act : List Nat) :
    setInsert (act.map Int.ofNat) (x : Int) = (Regions.insertNat x act).map Int.ofNat := by
  induction act with
  | nil => rfl
  | cons y ys ih =>
    have h1 : ((x : Int) < Int.ofNat y) = (x < y) := propext Int.ofNat_lt
    have h2 : ((x : Int) == Int.ofNat y) = (x == y) := int_beq_natCast x y
    simp only [List.map_cons, setInsert, Regions.insertNat, h1, h2, ih,
      apply_ite (List.map Int.ofNat)]
    rfl

theorem setErase_map (x : Nat) (act : List Nat) (h : act.Pairwise (· < ·)) :
    setErase (act.map Int.ofNat) (x : Int) = (act.erase x).map Int.ofNat := by
  have hn : act.Nodup := h.imp (fun h => Nat.ne_of_lt h)
  rw [hn.erase_eq_filter, setErase, List.filter_map]
  congr 1
  apply List.filter_congr
  intro a _
  exact congrArg not (int_beq_natCast a x)

/-- the loop `for i := range starts { if starts[i] >= ends[i] { continue }; events = append(…) }` -/
theorem events_loop (starts ends : List Int) (hlen : starts.length = ends.length)
    (body : Int → List Tup → Option (ForInStep (List Tup)))
    (hbody : ∀ (k : Nat) (s e : Int) (acc : List Tup), starts[k]? = some s → ends[k]? = some e →
      body (Int.ofNat k) acc
        = some (.yield (if s < e then acc ++ [((k : Int), s, true), ((k : Int), e, false)] else acc))) :
    ∀ (n k : Nat) (acc : List Tup), k + n = starts.length →
      forIn ((List.range' k n).map Int.ofNat) acc body
        = some (acc ++ (Regions.eventsFrom k (starts.drop k) (ends.drop k)).map toTup) := by
  intro n
  induction n with
  | zero =>
    intro k acc hk
    have h1 : starts.drop k = [] := List.drop_of_length_le (by omega)
    simp [h1, Regions.eventsFrom]
  | succ n ih =>
    intro k acc hk
    have hk1 : k < starts.length := by omega
    have hk2 : k < ends.length := by omega
    rw [List.drop_eq_getElem_cons hk1, List.drop_eq_getElem_cons hk2]
    simp only [List.range'_succ, List.map_cons, List.forIn_cons, Regions.eventsFrom]
    rw [hbody k starts[k] ends[k] acc (by simp [hk1]) (by simp [hk2])]
    simp only [Option.bind_eq_bind, Option.bind_some]
    rw [ih (k + 1) _ (by omega)]
    by_cases h : starts[k] < ends[k]
    · simp [h, toTup]
    · simp [h]

/-- `sort.Slice(events, eventLess)` (as `sortByLess`) is the model's `mergeSort evLe` -/
theorem sort_events (hF : GoSrc.eventLess_Found = true) (evs : List Regions.Ev) :
    sortByLess (fun a b => (GoSrc.eventLess a b).getD false) (evs.map toTup)
      = (evs.mergeSort Regions.evLe).map toTup := by
  unfold sortByLess
  rw [List.map_mergeSort]
  intro a _ b _
  show _ = !((GoSrc.eventLess (toTup b) (toTup a)).getD false)
  rw [eventLess_toTup hF]
  rfl

abbrev SwSt := List (Int × List Int) × List Int × Int

/-- the loop `for i, e := range events { … }` with the mutable `intervals, idxs, pos`, followed by the
final `append`: the model's `sweep`, for any already emitted prefix `ivs`, any ascending active set
and any loop index `k` (`pos`, initially 0, is overwritten by the first event's position at `k = 0`:
the model's `firstPos`) -/
theorem sweep_loop (body : Int × Tup → SwSt → Option (ForInStep SwSt)) (fin : SwSt → Option (List (Int × List Int)))
    (hbody : ∀ (k : Nat) (e : Regions.Ev) (ivs : List (Int × List Int)) (act : List Nat) (pos : Int),
      act.Pairwise (· < ·) →
      body ((k : Int), toTup e) (ivs, act.map Int.ofNat, pos)
        = some (.yield (
            if e.pos != (if k = 0 then e.pos else pos) then ivs ++ [(if k = 0 then e.pos else pos, act.map Int.ofNat)] else ivs,
            (Regions.step act e).map Int.ofNat,
            if e.pos != (if k = 0 then e.pos else pos) then e.pos else (if k = 0 then e.pos else pos))))
    (hfin : ∀ (ivs : List (Int × List Int)) (act : List Nat) (pos : Int), act.Pairwise (· < ·) →
      fin (ivs, act.map Int.ofNat, pos) = some (ivs ++ [(pos, act.map Int.ofNat)])) :
    ∀ (evs : List Regions.Ev) (k : Nat) (ivs : List (Int × List Int)) (act : List Nat) (pos : Int),
      act.Pairwise (· < ·) → (k = 0 → pos = 0) →
      (forIn (((evs.map toTup).zipIdx k).map fun p => ((p.2 : Int), p.1)) ((ivs, act.map Int.ofNat, pos) : SwSt) body).bind fin
        = some (ivs ++ ofIdx (Regions.sweep evs (if k = 0 then Regions.firstPos evs else pos) act)) := by
  intro evs
  induction evs with
  | nil =>
    intro k ivs act pos hact hk
    have : (if k = 0 then Regions.firstPos [] else pos) = pos := by
      split
      · exact (hk ‹_›).symm
      · rfl
    simp [hfin _ _ _ hact, Regions.sweep, ofIdx, this]
  | cons e es ih =>
    intro k ivs act pos hact _
    simp only [List.map_cons, List.zipIdx_cons, List.forIn_cons]
    rw [hbody k e ivs act pos hact]
    simp only [Option.bind_eq_bind, Option.bind_some]
    rw [ih (k + 1) _ _ _ (Regions.pairwise_step e hact) (fun h => absurd h (Nat.succ_ne_zero k))]
    simp only [Regions.sweep_cons, Regions.firstPos, Nat.add_eq_zero_iff, Nat.succ_ne_self, and_false, if_false]
    generalize (if k = 0 then e.pos else pos) = pos1
    by_cases h : e.pos = pos1
    · simp [h]
    · have hne : (e.pos != pos1) = true := by simpa using h
      simp [hne, ofIdx]

/-- `NewIndex` is the model's `newIndex`, including the panic exactly when the lengths differ -/
theorem NewIndex_eq (hF : GoSrc.NewIndex_Found = true) (hE : GoSrc.eventLess_Found = true)
    (hK : GoSrc.keys_Found = true) (starts ends : List Int) :
    GoSrc.NewIndex starts ends = (Regions.newIndex starts ends).map ofIdx := by
  first
  | exact absurd hF (by decide)
  | (unfold GoSrc.NewIndex
     simp only [Option.pure_def, Option.bind_eq_bind]
     by_cases hlen : starts.length = ends.length
     · have h1 : (len starts != len ends) = false := by simp [len, hlen]
       simp only [h1, Bool.false_eq_true, if_false]
       rw [upTo_len, events_loop starts ends hlen _ ?_ starts.length 0 [] (by omega)]
       · simp only [Option.bind_some, List.nil_append, List.drop_zero]
         rw [sort_events hE, Regions.newIndex_eq hlen, enum]
         refine (sweep_loop _ _ ?_ ?_ _ 0 [] [] 0 List.Pairwise.nil fun _ => rfl).trans ?_
         · intro k e ivs act pos hact
           have hkeys := keys_map_ofNat hK act hact
           by_cases hk : k = 0
           · subst hk
             cases hs : e.start <;>
               simp [toTup, hs, Regions.step, setInsert_map, setErase_map _ _ hact]
           · have hk' : ((k : Int) == 0) = false := by simp; omega
             by_cases hp : e.pos = pos
             · cases hs : e.start <;>
                 simp [toTup, hs, hk, hk', hp, Regions.step, setInsert_map, setErase_map _ _ hact]
             · cases hs : e.start <;>
                 simp [toTup, hs, hk, hk', hp, hkeys, Regions.step, setInsert_map, setErase_map _ _ hact]
         · intro ivs act pos hact
           simp only [keys_map_ofNat hK act hact, Option.bind_some]
         · simp only [if_true, Option.map_some, List.nil_append]
       · intro k s e acc hs he
         rw [idx_IntofNat, idx_IntofNat, hs, he]
         simp only [Option.bind_some]
         by_cases hse : s < e
         · have : ¬ (s ≥ e) := by omega
           simp [hse, this]
         · have : s ≥ e := by omega
           simp [hse, this]
     · have h1 : (len starts != len ends) = true := by simp [len]; omega
       simp only [h1, if_true, Option.bind_none]
       simp [Regions.newIndex, hlen])

/-- Go's `sort.Search` loop: for a predicate that is total (`f j = some (g j)`) and monotone on `[lo, hi)`,
it returns the least `r ∈ [lo, hi]` from which on `g` holds -/
theorem searchLoop_spec (f : Int → Option Bool) (g : Int → Bool) :
    ∀ (fuel : Nat) (lo hi : Int), lo ≤ hi → (hi - lo).toNat ≤ fuel →
      (∀ j, lo ≤ j → j < hi → f j = some (g j)) →
      (∀ j k, lo ≤ j → j ≤ k → k < hi → g j = true → g k = true) →
      ∃ r, searchLoop f fuel lo hi = some r ∧ lo ≤ r ∧ r ≤ hi
        ∧ (∀ j, lo ≤ j → j < r → g j = false) ∧ (∀ j, r ≤ j → j < hi → g j = true) := by
  intro fuel
  induction fuel with
  | zero =>
    intro lo hi h1 h2 _ _
    have : lo = hi := by omega
    subst this
    exact ⟨lo, rfl, Int.le_refl _, Int.le_refl _, fun j a b => absurd a (Int.not_le.2 b),
      fun j a b => absurd a (Int.not_le.2 b)⟩
  | succ fuel ih =>
    intro lo hi h1 h2 hf hm
    rw [searchLoop]
    by_cases hlt : lo < hi
    · -- the midpoint lies in `[lo, hi)`; nothing else about it is used
      have hh1 : lo ≤ (lo + hi) / 2 := by omega
      have hh2 : (lo + hi) / 2 < hi := by omega
      rw [if_pos hlt]
      generalize (lo + hi) / 2 = mid at hh1 hh2 ⊢
      simp only [hf _ hh1 hh2, Option.bind_eq_bind, Option.bind_some]
      cases hg : g mid with
      | false =>
        rw [Bool.not_false, if_pos rfl]
        obtain ⟨r, e, r1, r2, r3, r4⟩ := ih (mid + 1) hi (by omega) (by omega)
          (fun j a b => hf j (by omega) b) (fun j k a b c => hm j k (by omega) b c)
        refine ⟨r, e, by omega, r2, fun j a b => ?_, r4⟩
        by_cases hj : mid + 1 ≤ j
        · exact r3 j hj b
        · exact Bool.eq_false_iff.2 fun hgj => by
            rw [hm j mid a (by omega) hh2 hgj] at hg; cases hg
      | true =>
        rw [Bool.not_true, if_neg Bool.false_ne_true]
        obtain ⟨r, e, r1, r2, r3, r4⟩ := ih lo mid hh1 (by omega)
          (fun j a b => hf j a (by omega)) (fun j k a b c => hm j k a b (by omega))
        refine ⟨r, e, r1, by omega, r3, fun j a b => ?_⟩
        by_cases hj : j < mid
        · exact r4 j a hj
        · exact hm mid j hh1 (by omega) b hg
    · have : lo = hi := by omega
      subst this
      rw [if_neg hlt]
      exact ⟨lo, rfl, Int.le_refl _, Int.le_refl _, fun j a b => absurd a (Int.not_le.2 b),
        fun j a b => absurd a (Int.not_le.2 b)⟩

theorem searchGo_spec (n : Nat) (f : Int → Option Bool) (g : Int → Bool)
    (hf : ∀ j : Nat, j < n → f (j : Int) = some (g j))
    (hm : ∀ j k : Nat, j ≤ k → k < n → g j = true → g k = true) :
    ∃ r : Nat, searchGo (n : Int) f = some (r : Int) ∧ r ≤ n
      ∧ (∀ j : Nat, j < r → g j = false) ∧ (∀ j : Nat, r ≤ j → j < n → g j = true) := by
  obtain ⟨r, e, r1, r2, r3, r4⟩ := searchLoop_spec f g ((n : Int).toNat + 1) 0 n
    (Int.natCast_nonneg n) (by omega)
    (fun j a b => by
      obtain ⟨j, rfl⟩ := Int.eq_ofNat_of_zero_le a
      exact hf j (Int.ofNat_lt.1 b))
    (fun j k a b c d => by
      obtain ⟨j, rfl⟩ := Int.eq_ofNat_of_zero_le a
      obtain ⟨k, rfl⟩ := Int.eq_ofNat_of_zero_le (Int.le_trans a b)
      exact hm j k (Int.ofNat_le.1 b) (Int.ofNat_lt.1 c) d)
  obtain ⟨r, rfl⟩ := Int.eq_ofNat_of_zero_le r1
  exact ⟨r, e, Int.ofNat_le.1 r2, fun j hj => r3 j (Int.natCast_nonneg j) (Int.ofNat_lt.2 hj),
    fun j a b => r4 j (Int.ofNat_le.2 a) (Int.ofNat_lt.2 b)⟩

theorem takeWhile_eq_take_of {α : Type} (p : α → Bool) : ∀ (l : List α) (r : Nat), r ≤ l.length →
    (∀ j (h : j < l.length), j < r → p l[j] = true) → (∀ (h : r < l.length), p l[r] = false) →
    l.takeWhile p = l.take r := by
  intro l
  induction l with
  | nil => intro r _ _ _; simp
  | cons a l ih =>
    intro r hr h1 h2
    cases r with
    | zero =>
      have := h2 (by simp)
      simp at this
      simp [this]
    | succ r =>
      have ha := h1 0 (by simp) (by omega)
      simp only [List.getElem_cons_zero] at ha
      rw [List.takeWhile_cons, ha]
      simp only [if_true, List.take_succ_cons]
      congr 1
      apply ih r (by simpa using hr)
      · intro j hj hjr
        have := h1 (j + 1) (by simpa using hj) (by omega)
        simpa using this
      · intro h
        have := h2 (by simpa using h)
        simpa using this

/-- `At` on an index with strictly ascending breakpoint positions is the model's `at'`; no panic -/
theorem Index_At_eq (hF : GoSrc.Index_At_Found = true) (hC : GoSrc.cp_Found = true) (idx : Regions.Index)
    (hs : idx.Pairwise (fun a b => a.1 < b.1)) (i : Int) :
    GoSrc.Index_At (ofIdx idx) i = some ((Regions.at' idx i).map Int.ofNat) := by
  first
  | exact absurd hF (by decide)
  | (unfold GoSrc.Index_At
     simp only [Option.pure_def, Option.bind_eq_bind]
     have hlen : len (ofIdx idx) = (idx.length : Int) := by simp [len, ofIdx]
     have hget : ∀ j : Nat, j < idx.length → GoRt.idx (ofIdx idx) (j : Int) = (idx[j]?).map fun bp => (bp.1, bp.2.map Int.ofNat) := by
       intro j hj
       rw [idx_ofNat]; simp [ofIdx]
     obtain ⟨r, e, r1, r2, r3⟩ := searchGo_spec idx.length
       (fun j => (GoRt.idx (ofIdx idx) j).bind fun d => some (decide (d.fst > i)))
       (fun j => match idx[j.toNat]? with | some bp => decide (bp.1 > i) | none => false)
       (fun j hj => by
         simp only [hget j hj]
         simp [hj])
       (fun j k hjk hk => by
         have hj : j < idx.length := by omega
         simp only [Int.toNat_natCast, List.getElem?_eq_getElem hj, List.getElem?_eq_getElem hk, decide_eq_true_eq]
         intro h
         rcases Nat.lt_or_eq_of_le hjk with h' | h'
         · have := List.pairwise_iff_getElem.1 hs j k hj hk h'
           omega
         · subst h'; exact h)
     rw [hlen, e]
     simp only [Option.bind_some]
     have htw : idx.takeWhile (fun bp => decide (bp.1 ≤ i)) = idx.take r := by
       apply takeWhile_eq_take_of _ idx r r1
       · intro j hj hjr
         have := r2 j hjr
         simp only [Int.toNat_natCast, List.getElem?_eq_getElem hj] at this
         simpa using this
       · intro h
         have := r3 r (Nat.le_refl _) h
         simp only [Int.toNat_natCast, List.getElem?_eq_getElem h] at this
         simp at this ⊢; omega
     unfold Regions.at'
     rw [htw]
     cases r with
     | zero => simp
     | succ r =>
       have hr : r < idx.length := by omega
       have h0 : (((r + 1 : Nat) : Int) == 0) = false := by simp; omega
       have h1 : ((r + 1 : Nat) : Int) - 1 = (r : Int) := by omega
       simp only [h0, h1, hget r hr, Bool.false_eq_true, if_false]
       simp [List.getLast?_take, hr, cp_eq hC])

/-- `(*SAM).Write` performs the model's `Write` calls in order, stopping at the first error -/
theorem sam_Write_eq (hF : GoSrc.sam_Write_Found = true) (s : Sam.Sam) (w : Wr) :
    GoSrc.sam_Write s.qname s.flag s.rname s.pos s.mapq s.cigar s.rnext s.pnext s.tlen s.seq s.qual
        (Sam.tagsToText s.tags) w
      = some (let r := wrWriteAll w (Sam.writeCalls s); (r.2, r.1)) := by
  first
  | exact absurd hF (by decide)
  | (unfold GoSrc.sam_Write
     -- the unifier must not see the 21 nested appends of the first call: `whnf` on them is exponential
     generalize hp : (_ ++ s.qual : Bytes) = p
     refine ((Runs.cons p (Runs.loop _ (TAB :: ·) _ (fun t _ _ w => ?_) (.cons _ .nil))).of_eq ?_) w
     · exact wrStep_eq (wrWrite w (TAB :: t))
     · simp [← hp, Sam.writeCalls, Sam.fields11, joinWith, TAB, LF])
end Bio.GoSrcLemmas

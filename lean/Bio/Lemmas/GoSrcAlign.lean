/-
  The translated Go source of align/{align,global,local}.go (`Bio.Generated.GoSrc`:
  `Matrix_Get`, `decideOnStep`, `traceAlignmentSteps`, `Global`, `argmax`,
  `traceAlignmentStepsLocal`, `Local`) IS the hand-written model `Bio/Model/Align.lean`.
  Generic parts are in `Bio/Lemmas/GoSrcAlign1.lean`.

  Every theorem is guarded by the translator's `<f>_Found` flags: a definition the translator
  does not recognise becomes a `none` placeholder with `_Found = false`, and the proofs
  then close by `absurd`.
-/
import Bio.Generated.GoSrc
import Bio.Lemmas.GoSrcAlign1

set_option linter.unusedVariables false
namespace Bio.GoSrcLemmas
open Bio Bio.GoRt Bio.Generated

theorem Matrix_Get_eq (hF : GoSrc.Matrix_Get_Found = true) (m : List (List UInt8 × Int)) (a b : UInt8) :
    GoSrc.Matrix_Get m a b = matOf m a b := by
  first
  | exact absurd hF (by decide)
  | (unfold GoSrc.Matrix_Get matOf mapGet mapHas
     cases h : (List.find? (fun e => e.1 == [a, b]) m) <;> simp [h])

theorem decideOnStep_eq (hF : GoSrc.decideOnStep_Found = true) (x y z : Int) :
    GoSrc.decideOnStep x y z =
      some ((Align.decideOnStep x y z).score, encStep (Align.decideOnStep x y z).step) := by
  first
  | exact absurd hF (by decide)
  | (unfold GoSrc.decideOnStep Align.decideOnStep
     by_cases h1 : x ≥ y ∧ x ≥ z
     · have h1a := h1.1
       have h1b := h1.2
       simp [h1a, h1b, encStep]
     · by_cases h2 : y ≥ z
       · have : ¬ (y ≤ x ∧ z ≤ x) := h1
         simp [h2, this, encStep]
       · have : ¬ (y ≤ x ∧ z ≤ x) := h1
         simp [h2, this, encStep])

theorem aln_enc_ins (s : Int) : encCell ⟨s, .ins⟩ = (s, 3) := rfl
theorem aln_enc_del (s : Int) : encCell ⟨s, .del⟩ = (s, 2) := rfl

theorem Global_dp (hF : GoSrc.Global_Found = true) (hM : GoSrc.Matrix_Get_Found = true)
    (hD : GoSrc.decideOnStep_Found = true) (fuel : Nat) (a b : Bytes) (m : List (List UInt8 × Int)) :
    GoSrc.Global fuel a b m =
      (if (Align.needed a b).all (fun p => (matOf m p.1 p.2).isSome) then
        some (alnFlat (Align.table (Align.total (matOf m)) false a b) (a.length + 1) (b.length + 1))
       else none).bind fun s => GoSrc.traceAlignmentSteps fuel s (len b + 1) := by
  first
  | exact absurd hF (by decide)
  | (unfold GoSrc.Global
     simp only [Option.pure_def, Option.bind_eq_bind]
     rw [aln_fill (matOf m) false a b _ ?_]
     intro i j blocks x y D U L ctx
     have hk := ctx.lt
     simp only [ctx.hq, ctx.hr, Option.bind_some]
     rcases i with _ | i <;> rcases j with _ | j
     · simp only [Int.natCast_zero, beq_self_eq_true, Bool.and_self, ↓reduceIte, dpCellK,
         Align.clamp_false]
       exact congrArg (some ∘ ForInStep.yield) (set_eq_of_idx ctx.cur).symm
     · simp only [Int.natCast_zero, beq_self_eq_true, natCast_succ_beq_zero, natCast_succ_beq_one,
         Bool.and_false, Bool.false_eq_true, ↓reduceIte, ctx.cur, Option.bind_some, setIdx_lt _ _ _ hk,
         idx_set_self _ _ _ hk, idx_set_ne _ _ _ _ (sub_one_ne _), ctx.left (by omega), ctx.hy (by omega),
         Matrix_Get_eq hM, setIdx_set _ _ _ _ hk, dpCellK, addOpen, Align.clamp_false, aln_enc_ins]
       rfl
     · simp only [Int.natCast_zero, beq_self_eq_true, natCast_succ_beq_zero, natCast_succ_beq_one,
         Bool.false_and, Bool.false_eq_true, ↓reduceIte, ctx.cur, Option.bind_some, setIdx_lt _ _ _ hk,
         idx_set_self _ _ _ hk, idx_set_ne _ _ _ _ (sub_len_succ_ne _ b), ctx.up (by omega), ctx.hx (by omega),
         Matrix_Get_eq hM, setIdx_set _ _ _ _ hk, dpCellK, addOpen, Align.clamp_false, aln_enc_del]
       rfl
     · have h1 : 1 ≤ i + 1 := by omega
       have h2 : 1 ≤ j + 1 := by omega
       simp only [natCast_succ_beq_zero, Bool.and_false, Bool.false_eq_true, ↓reduceIte,
         Option.bind_some, setIdx_lt _ _ _ hk, ctx.left h2, ctx.up h1, ctx.diag h1 h2, ctx.hx h1,
         ctx.hy h2, Matrix_Get_eq hM, decideOnStep_eq hD, encStep_ne_two, encStep_ne_three, dpCellK,
         addOpen, Align.clamp_false]
       rfl)

theorem aln_ite_yield {α : Type} (c : Prop) [Decidable c] (l : List α) (k : Nat) (x y : α) :
    (if c then some (ForInStep.yield (l.set k x)) else some (ForInStep.yield (l.set k y)))
      = some (ForInStep.yield (l.set k (if c then x else y))) := by
  split <;> rfl

theorem aln_encCell_clamp (c : Align.Cell) :
    encCell (Align.clamp true c) = if c.score < 0 then ((0 : Int), (0 : UInt8)) else encCell c := by
  rw [Align.clamp_true]; split <;> rfl

theorem Local_dp (hF : GoSrc.Local_Found = true) (hM : GoSrc.Matrix_Get_Found = true)
    (hD : GoSrc.decideOnStep_Found = true) (fuel : Nat) (a b : Bytes) (m : List (List UInt8 × Int)) :
    GoSrc.Local fuel a b m =
      (if (Align.needed a b).all (fun p => (matOf m p.1 p.2).isSome) then
        some (alnFlat (Align.table (Align.total (matOf m)) true a b) (a.length + 1) (b.length + 1))
       else none).bind fun s =>
        (GoSrc.traceAlignmentStepsLocal fuel s (len b + 1)).bind fun r =>
          (quo r.2.1 (len b + 1)).bind fun q => (rem r.2.1 (len b + 1)).bind fun q' =>
            some (r.1, q - 1, q' - 1, r.2.2) := by
  first
  | exact absurd hF (by decide)
  | (unfold GoSrc.Local
     simp only [Option.pure_def, Option.bind_eq_bind]
     rw [aln_fill (matOf m) true a b _ ?_]
     intro i j blocks x y D U L ctx
     have hk := ctx.lt
     simp only [ctx.hq, ctx.hr, Option.bind_some]
     rcases i with _ | i <;> rcases j with _ | j
     · simp only [Int.natCast_zero, beq_self_eq_true, Bool.and_self, ↓reduceIte, dpCellK,
         aln_encCell_clamp]
       exact congrArg (some ∘ ForInStep.yield) (set_eq_of_idx ctx.cur).symm
     · simp only [Int.natCast_zero, beq_self_eq_true, natCast_succ_beq_zero, natCast_succ_beq_one,
         Bool.and_false, Bool.false_eq_true, ↓reduceIte, ctx.cur, Option.bind_some, setIdx_lt _ _ _ hk,
         idx_set_self _ _ _ hk, idx_set_ne _ _ _ _ (sub_one_ne _), ctx.left (by omega), ctx.hy (by omega),
         Matrix_Get_eq hM, setIdx_set _ _ _ _ hk, dpCellK, addOpen, aln_encCell_clamp, aln_ite_yield,
         aln_enc_ins]
       rfl
     · simp only [Int.natCast_zero, beq_self_eq_true, natCast_succ_beq_zero, natCast_succ_beq_one,
         Bool.false_and, Bool.false_eq_true, ↓reduceIte, ctx.cur, Option.bind_some, setIdx_lt _ _ _ hk,
         idx_set_self _ _ _ hk, idx_set_ne _ _ _ _ (sub_len_succ_ne _ b), ctx.up (by omega), ctx.hx (by omega),
         Matrix_Get_eq hM, setIdx_set _ _ _ _ hk, dpCellK, addOpen, aln_encCell_clamp, aln_ite_yield,
         aln_enc_del]
       rfl
     · have h1 : 1 ≤ i + 1 := by omega
       have h2 : 1 ≤ j + 1 := by omega
       simp only [natCast_succ_beq_zero, Bool.and_false, Bool.false_eq_true, ↓reduceIte,
         Option.bind_some, setIdx_lt _ _ _ hk, idx_set_self _ _ _ hk, setIdx_set _ _ _ _ hk, ctx.left h2,
         ctx.up h1, ctx.diag h1 h2, ctx.hx h1, ctx.hy h2, Matrix_Get_eq hM, decideOnStep_eq hD,
         encStep_ne_two, encStep_ne_three, dpCellK, addOpen, aln_encCell_clamp, aln_ite_yield]
       rfl)

theorem aln_len_flat (t : List (List Align.Cell)) (a b : Bytes) :
    len (alnFlat t (a.length + 1) (b.length + 1))
      = ((alnPos (b.length + 1) (a.length + 1) 0 : Nat) : Int) := by
  simp [len, alnFlat_length, alnPos]

theorem aln_len_flat_pred (t : List (List Align.Cell)) (a b : Bytes) :
    len (alnFlat t (a.length + 1) (b.length + 1)) - 1
      = ((alnPos (b.length + 1) a.length b.length : Nat) : Int) := by
  rw [aln_len_flat, alnPos_succ_left]
  simp only [alnPos]; omega

theorem aln_makeCap (a b : Bytes) :
    makeCap (α := UInt8) (((b.length + 1 : Nat) : Int) + ((a.length + 1 : Nat) : Int)) = some [] := by
  unfold makeCap
  rw [if_neg (by omega)]

theorem aln_swap_body (k : Nat) (st : List UInt8) (x y : UInt8) (L : Nat) (hlen : st.length = L)
    (hk : k < L / 2) (hx : st[k]? = some x) (hy : st[L - 1 - k]? = some y) :
    ((idx st (len st - 1 - Int.ofNat k)).bind fun tmp_3 =>
      (idx st (Int.ofNat k)).bind fun tmp_4 =>
        (setIdx st (Int.ofNat k) tmp_3).bind fun steps =>
          (setIdx steps (len st - 1 - Int.ofNat k) tmp_4).bind fun steps => some (ForInStep.yield steps))
      = some (ForInStep.yield ((st.set k y).set (L - 1 - k) x)) := by
  subst hlen
  have e : len st - 1 - Int.ofNat k = Int.ofNat (st.length - 1 - k) := by
    simp only [len, Int.ofNat_eq_natCast]; omega
  have h1 : k < st.length := by omega
  have h2 : st.length - 1 - k < st.length := by omega
  rw [e]
  simp only [idx_IntofNat, setIdx_IntofNat, hx, hy, h1, h2, Option.bind_some, if_true, List.length_set]

theorem traceAlignmentSteps_eq (hF : GoSrc.traceAlignmentSteps_Found = true) (fuel : Nat) (m : Align.Mat)
    (a b : Bytes) (hfuel : a.length + b.length + 1 ≤ fuel) :
    GoSrc.traceAlignmentSteps fuel (alnFlat (Align.table m false a b) (a.length + 1) (b.length + 1)) (len b + 1)
      = some ((Align.globalT m a b).1.map encStep, (Align.globalT m a b).2) := by
  first
  | exact absurd hF (by decide)
  | (unfold GoSrc.traceAlignmentSteps
     simp only [Option.pure_def, Option.bind_eq_bind]
     have hbn : len b + 1 = ((b.length + 1 : Nat) : Int) := by simp [len]
     rw [aln_len_flat_pred]
     simp only [hbn, aln_len_flat, quo_alnPos _ _ 0 (Nat.succ_pos _), Option.bind_some,
       aln_makeCap]
     rw [aln_traceG_loop m a b _ ?hdone ?hstep (List.range fuel)
       (a.length + b.length + 1) a.length b.length [] false (Nat.le_refl _) (Nat.le_refl _)
       (by simp; omega) (by omega)]
     case hdone => intro x s d; simp
     case hstep =>
       intro x s d k c hk hc
       have : ((k : Int) > 0) := by omega
       simp only [idx_ofNat, hc, Option.bind_some, this, decide_true, Bool.not_true, Bool.false_eq_true,
         ↓reduceIte]
       exact alnBack_apply _ _ _ fun i => some (ForInStep.yield (s ++ [c.2], i, d))
     simp only [Option.bind_some, List.nil_append, Bool.not_true, Bool.false_eq_true, if_false,
       Int.lt_irrefl]
     rw [aln_reverse_loop _ _ ?hrev]
     case hrev =>
       intro k st x y hlen hk hx hy
       exact aln_swap_body k st x y _ hlen hk hx hy
     simp only [Option.bind_some, idx_ofNat, alnFlat_pos _ _ _ _ _ (Nat.lt_succ_self _) (Nat.lt_succ_self _),
       encCell_fst, Align.globalT, List.map_reverse])

theorem Global_eq (hF : GoSrc.Global_Found = true) (hM : GoSrc.Matrix_Get_Found = true)
    (hD : GoSrc.decideOnStep_Found = true) (hT : GoSrc.traceAlignmentSteps_Found = true)
    (a b : Bytes) (m : List (List UInt8 × Int)) (fuel : Nat) (hfuel : a.length + b.length + 1 ≤ fuel) :
    GoSrc.Global fuel a b m
      = (Align.globalP (matOf m) a b).map fun r => (r.1.map encStep, r.2) := by
  rw [Global_dp hF hM hD]
  unfold Align.globalP
  split
  · rw [Option.bind_some, traceAlignmentSteps_eq hT fuel _ a b hfuel]
    rfl
  · rfl

theorem Global_of_needed (hF : GoSrc.Global_Found = true) (hM : GoSrc.Matrix_Get_Found = true)
    (hD : GoSrc.decideOnStep_Found = true) (hT : GoSrc.traceAlignmentSteps_Found = true)
    (a b : Bytes) (m : List (List UInt8 × Int)) (fuel : Nat) (hfuel : a.length + b.length + 1 ≤ fuel)
    (hn : ∀ p ∈ Align.needed a b, (matOf m p.1 p.2).isSome) :
    GoSrc.Global fuel a b m = some ((Align.globalT (Align.total (matOf m)) a b).1.map encStep,
      (Align.globalT (Align.total (matOf m)) a b).2) := by
  rw [Global_eq hF hM hD hT a b m fuel hfuel, Align.globalP_isSome _ a b hn]; rfl

theorem Global_some (hF : GoSrc.Global_Found = true) (hM : GoSrc.Matrix_Get_Found = true)
    (hD : GoSrc.decideOnStep_Found = true) (hT : GoSrc.traceAlignmentSteps_Found = true)
    (a b : Bytes) (m : List (List UInt8 × Int)) (fuel : Nat) (hfuel : a.length + b.length + 1 ≤ fuel)
    {r : List UInt8 × Int} (h : GoSrc.Global fuel a b m = some r) :
    r = ((Align.globalT (Align.total (matOf m)) a b).1.map encStep,
      (Align.globalT (Align.total (matOf m)) a b).2) := by
  rw [Global_eq hF hM hD hT a b m fuel hfuel] at h
  unfold Align.globalP at h
  split at h <;> cases h
  rfl

theorem argmax_eq (hF : GoSrc.argmax_Found = true) (m : Align.Mat) (loc : Bool) (a b : Bytes) :
    GoSrc.argmax (alnFlat (Align.table m loc a b) (a.length + 1) (b.length + 1))
      = some ((alnPos (b.length + 1) (Align.argmax (Align.table m loc a b)).1
          (Align.argmax (Align.table m loc a b)).2.1 : Nat) : Int) := by
  first
  | exact absurd hF (by decide)
  | (unfold GoSrc.argmax
     simp only [Option.pure_def, Option.bind_eq_bind]
     rw [aln_argmax_loop m loc a b _ ?hbody]
     case hbody =>
       intro k imax c cm h
       simp only [idx_ofNat, h, Option.bind_some]
       split <;> rfl
     rfl)

theorem traceAlignmentStepsLocal_eq (hF : GoSrc.traceAlignmentStepsLocal_Found = true)
    (hA : GoSrc.argmax_Found = true) (fuel : Nat) (m : Align.Mat)
    (a b : Bytes) (hfuel : a.length + b.length + 1 ≤ fuel) :
    GoSrc.traceAlignmentStepsLocal fuel (alnFlat (Align.table m true a b) (a.length + 1) (b.length + 1)) (len b + 1)
      = some (if (Align.argmax (Align.table m true a b)).2.2 = 0 then ([], 0, 0) else
          ((Align.localTrace m a b).1.reverse.map encStep,
            ((alnPos (b.length + 1) (Align.localTrace m a b).2.1 (Align.localTrace m a b).2.2 : Nat) : Int),
            (Align.argmax (Align.table m true a b)).2.2)) := by
  first
  | exact absurd hF (by decide)
  | (unfold GoSrc.traceAlignmentStepsLocal
     simp only [Option.pure_def, Option.bind_eq_bind]
     have hbn : len b + 1 = ((b.length + 1 : Nat) : Int) := by simp [len]
     obtain ⟨hmi, hmj⟩ := Align.argmax_table_in_range m true a b
     simp only [hbn, argmax_eq hA, aln_len_flat, quo_alnPos _ _ 0 (Nat.succ_pos _), Option.bind_some,
       aln_makeCap]
     refine aln_traceL_loop m a b _ ?hdone ?hzero ?hstep _ _ (List.range fuel) (a.length + b.length + 1)
       (Align.argmax (Align.table m true a b)).1 (Align.argmax (Align.table m true a b)).2.1 [] false
       ((Align.argmax (Align.table m true a b)).1, (Align.argmax (Align.table m true a b)).2.1)
       hmi hmj (by simp; omega) (by omega) ?after
     case hdone => intro x s la d; simp
     case hzero =>
       intro x s la d k c hk hc hc0
       simp [idx_ofNat, hc, hc0]
     case hstep =>
       intro x s la d k c hk hc hc0
       have : ((k : Int) > 0) := by omega
       have h1 : ¬ (c.1 < 0) := by omega
       have h2 : (c.1 == 0) = false := by simp; omega
       simp only [idx_ofNat, hc, Option.bind_some, this, decide_true, Bool.not_true, Bool.false_eq_true,
         ↓reduceIte, h1, h2]
       exact alnBack_apply _ _ _ fun i => some (ForInStep.yield (s ++ [c.2], i, (k : Int), d))
     intro iend
     have hnn : ¬ ((iend : Int) < 0) := by omega
     have hsc := (Align.argmax_spec (Align.table m true a b)).1.symm
     simp only [Option.bind_some, List.nil_append, Bool.not_true, Bool.false_eq_true, if_false, hnn,
       idx_ofNat, alnFlat_pos _ _ _ _ _ (Nat.lt_succ_of_le hmi) (Nat.lt_succ_of_le hmj), encCell_fst, hsc]
     by_cases h0 : (Align.argmax (Align.table m true a b)).2.2 = 0
     · simp [h0]
     · have h0' : ((Align.argmax (Align.table m true a b)).2.2 == 0) = false := by simpa using h0
       simp only [h0', Bool.false_eq_true, if_false, h0]
       rw [aln_reverse_loop _ _ ?hrev]
       case hrev =>
         intro k st x y hlen hk hx hy
         exact aln_swap_body k st x y _ hlen hk hx hy
       simp only [Option.bind_some, List.map_reverse, Align.localTrace])

theorem Local_eq (hF : GoSrc.Local_Found = true) (hM : GoSrc.Matrix_Get_Found = true)
    (hD : GoSrc.decideOnStep_Found = true) (hT : GoSrc.traceAlignmentStepsLocal_Found = true)
    (hA : GoSrc.argmax_Found = true)
    (a b : Bytes) (m : List (List UInt8 × Int)) (fuel : Nat) (hfuel : a.length + b.length + 1 ≤ fuel) :
    GoSrc.Local fuel a b m
      = (Align.localP (matOf m) a b).map fun r => (r.1.map encStep, r.2.1, r.2.2.1, r.2.2.2) := by
  rw [Local_dp hF hM hD]
  unfold Align.localP
  split
  · have hT := traceAlignmentStepsLocal_eq hT hA fuel (Align.total (matOf m)) a b hfuel
    have h2 := (Align.localTrace_le (Align.total (matOf m)) a b).2
    have hbn : len b + 1 = ((b.length + 1 : Nat) : Int) := by simp [len]
    rw [Option.bind_some, hT]
    by_cases h0 : (Align.argmax (Align.table (Align.total (matOf m)) true a b)).2.2 = 0
    · have q0 := quo_alnPos (b.length + 1) 0 0 (Nat.succ_pos _)
      have r0 := rem_alnPos (b.length + 1) 0 0 (Nat.succ_pos _)
      rw [alnPos_zero, Int.natCast_zero] at q0 r0
      simp only [h0, if_true, Option.bind_some, hbn, q0, r0, Option.map_some, Align.localT_of_zero _ a b h0]
      rfl
    · simp only [h0, if_false, Option.bind_some, hbn, quo_alnPos _ _ _ (Nat.lt_succ_of_le h2),
        rem_alnPos _ _ _ (Nat.lt_succ_of_le h2), Option.map_some, Align.localT_of_ne_zero _ a b h0,
        List.map_reverse]
  · rfl

theorem Local_of_needed (hF : GoSrc.Local_Found = true) (hM : GoSrc.Matrix_Get_Found = true)
    (hD : GoSrc.decideOnStep_Found = true) (hT : GoSrc.traceAlignmentStepsLocal_Found = true)
    (hA : GoSrc.argmax_Found = true)
    (a b : Bytes) (m : List (List UInt8 × Int)) (fuel : Nat) (hfuel : a.length + b.length + 1 ≤ fuel)
    (hn : ∀ p ∈ Align.needed a b, (matOf m p.1 p.2).isSome) :
    GoSrc.Local fuel a b m = some ((Align.localT (Align.total (matOf m)) a b).1.map encStep,
      (Align.localT (Align.total (matOf m)) a b).2) := by
  rw [Local_eq hF hM hD hT hA a b m fuel hfuel, Align.localP_isSome _ a b hn]; rfl

theorem Local_some (hF : GoSrc.Local_Found = true) (hM : GoSrc.Matrix_Get_Found = true)
    (hD : GoSrc.decideOnStep_Found = true) (hT : GoSrc.traceAlignmentStepsLocal_Found = true)
    (hA : GoSrc.argmax_Found = true)
    (a b : Bytes) (m : List (List UInt8 × Int)) (fuel : Nat) (hfuel : a.length + b.length + 1 ≤ fuel)
    {r : List UInt8 × Int × Int × Int} (h : GoSrc.Local fuel a b m = some r) :
    r = ((Align.localT (Align.total (matOf m)) a b).1.map encStep,
      (Align.localT (Align.total (matOf m)) a b).2.1, (Align.localT (Align.total (matOf m)) a b).2.2.1,
      (Align.localT (Align.total (matOf m)) a b).2.2.2) := by
  rw [Local_eq hF hM hD hT hA a b m fuel hfuel] at h
  unfold Align.localP at h
  split at h <;> cases h
  rfl

end Bio.GoSrcLemmas

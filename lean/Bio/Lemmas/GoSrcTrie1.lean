/-
  trie/trie.go at the Go SOURCE level, part 1: the abstraction.

  The translator turns `type Trie struct{ m map[byte]*Trie }` (used through pointers, mutated in
  place) into code over an EXPLICIT HEAP: `heap : List (List (UInt8 × Int))` is the list of the map
  fields of all nodes allocated so far, a `*Trie` is an index into it (`nil = -1`).

  * `RepE heap es t S`: the edge list `es` (of some node), read in `heap`, is the model trie `t`
    (sibling list inlined), and `S` is the FOOTPRINT: the list of the heap cells visited (every
    edge target, then its subtree, in order).
  * `Rep heap p t`: pointer `p` is a valid node and its edge list represents `t`.
  * `HWF heap root`: the part of the heap reachable from `root` is a TREE (no cell is reached
    twice: the footprint, with `root` in front, has no duplicates — this is acyclicity and
    no-sharing at once) and the keys of every reachable node are pairwise distinct (a Go map).
    Cells that are not reachable from `root` (garbage left behind by `Delete`) are unconstrained.
  * `Good heap n t S`: both at once, with the footprint exposed (the working invariant).
  * `Upd heap n S heap' S'`: what a callee may have done to the heap below `n`; `Good.focus` is the
    frame rule for one edge of a good node (the child is good; the node is good again whatever
    `Upd` happened below the child), `Good.add_edge` allocates a fresh child.
-/
import Bio.Generated.GoSrc
import Bio.Lemmas.GoRt
import Bio.Lemmas.Assoc
import Bio.Lemmas.Trie
namespace Bio.GoSrcLemmas
namespace TrieGo
open Bio Bio.GoRt Bio.Generated Bio.Trie

abbrev Heap := List (List (UInt8 × Int))

/-- the edge list `es`, read in `heap`, is the model trie `t`; `S` = the heap cells visited -/
inductive RepE (heap : Heap) : List (UInt8 × Int) → T → List Nat → Prop
  | nil : RepE heap [] .nil []
  | cons {k : UInt8} {v : Int} {c : Nat} {es' es : List (UInt8 × Int)} {tc tr : T}
      {Sc Sr : List Nat} :
      v = (c : Int) → heap[c]? = some es' → RepE heap es' tc Sc → RepE heap es tr Sr →
      RepE heap ((k, v) :: es) (.cons k tc tr) (c :: (Sc ++ Sr))

/-- the pointer `p` is a node of `heap` and the sub-trie below it is `t` -/
def Rep (heap : Heap) (p : Int) (t : T) : Prop :=
  ∃ (n : Nat) (es : List (UInt8 × Int)) (S : List Nat),
    p = (n : Int) ∧ heap[n]? = some es ∧ RepE heap es t S

/-- every cell of `S` holds a map: pairwise distinct keys -/
def KeysOK (heap : Heap) (S : List Nat) : Prop :=
  ∀ x ∈ S, ∀ es, heap[x]? = some es → (es.map Prod.fst).Nodup

/-- working invariant: node `n` represents `t` with footprint `S`; tree-shaped; maps -/
def Good (heap : Heap) (n : Nat) (t : T) (S : List Nat) : Prop :=
  ∃ es, heap[n]? = some es ∧ RepE heap es t S ∧ (n :: S).Nodup ∧ KeysOK heap (n :: S)

/-- the heap reachable from `root` is a tree of maps -/
def HWF (heap : Heap) (root : Int) : Prop :=
  ∃ (n : Nat) (t : T) (S : List Nat), root = (n : Int) ∧ Good heap n t S

/-- Sibling lists appended.  A node with its edge `k` in focus is `tapp t1 (.cons k tc t2)` with
`k ∉ tkeys t1` (a zipper): `has` / `add` / `del` pass over `t1` (`*_tapp`) and act at the edge
(`*_present`), or find nothing (`*_absent`). -/
def tapp : T → T → T
  | .nil, u => u
  | .cons k c r, u => .cons k c (tapp r u)

/-- the keys of a sibling list, in order -/
def tkeys : T → List UInt8
  | .nil => []
  | .cons k _ r => k :: tkeys r

theorem hasKey_iff_mem_tkeys (x : UInt8) : ∀ u : T, hasKey x u = true ↔ x ∈ tkeys u
  | .nil => by simp [hasKey, tkeys]
  | .cons k c r => by
    rw [hasKey, tkeys, Bool.or_eq_true, beq_iff_eq, List.mem_cons, hasKey_iff_mem_tkeys x r, eq_comm]

@[simp] theorem tapp_nil_left (u : T) : tapp .nil u = u := rfl

@[simp] theorem tapp_nil_right : ∀ t : T, tapp t .nil = t
  | .nil => rfl
  | .cons k c r => by simp [tapp, tapp_nil_right r]

theorem tapp_eq_nil {t u : T} : tapp t u = .nil ↔ t = .nil ∧ u = .nil := by
  cases t <;> simp [tapp]

theorem has_tapp (k : UInt8) (bs : Bytes) : ∀ (t1 u : T), k ∉ tkeys t1 →
    has (k :: bs) (tapp t1 u) = has (k :: bs) u
  | .nil, u, _ => rfl
  | .cons k' c r, u, h => by
    simp only [tkeys, List.mem_cons, not_or] at h
    have hk : (k' == k) = false := by simpa using Ne.symm h.1
    simp only [tapp, has, hk]
    exact has_tapp k bs r u h.2

theorem add_tapp (k : UInt8) (bs : Bytes) : ∀ (t1 u : T), k ∉ tkeys t1 →
    add (k :: bs) (tapp t1 u) = tapp t1 (add (k :: bs) u)
  | .nil, u, _ => rfl
  | .cons k' c r, u, h => by
    simp only [tkeys, List.mem_cons, not_or] at h
    have hk : (k' == k) = false := by simpa using Ne.symm h.1
    simp only [tapp, add, hk]
    simp [add_tapp k bs r u h.2]

theorem del_tapp (k : UInt8) (bs : Bytes) : ∀ (t1 u : T), k ∉ tkeys t1 →
    del (k :: bs) (tapp t1 u) = (del (k :: bs) u).map (tapp t1 ·)
  | .nil, u, _ => by simp [tapp]
  | .cons k' c r, u, h => by
    simp only [tkeys, List.mem_cons, not_or] at h
    have hk : k' ≠ k := Ne.symm h.1
    simp only [tapp]
    rw [del_cons_cons_ne hk, del_tapp k bs r u h.2]
    cases del (k :: bs) u <;> rfl

theorem has_absent (k : UInt8) (bs : Bytes) (t : T) (h : k ∉ tkeys t) : has (k :: bs) t = false := by
  have := has_tapp k bs t .nil h
  simpa [has] using this

theorem add_absent (k : UInt8) (bs : Bytes) (t : T) (h : k ∉ tkeys t) :
    add (k :: bs) t = tapp t (.cons k (chain bs) .nil) := by
  have := add_tapp k bs t .nil h
  simpa [add] using this

theorem del_absent (k : UInt8) (bs : Bytes) (t : T) (h : k ∉ tkeys t) : del (k :: bs) t = none := by
  rw [← tapp_nil_right t, del_tapp k bs t .nil h, del_cons_nil]
  rfl

theorem has_present (k : UInt8) (bs : Bytes) (t1 tc t2 : T) (h : k ∉ tkeys t1) :
    has (k :: bs) (tapp t1 (.cons k tc t2)) = has bs tc := by
  rw [has_tapp k bs t1 _ h]; simp [has]

theorem add_present (k : UInt8) (bs : Bytes) (t1 tc t2 : T) (h : k ∉ tkeys t1) :
    add (k :: bs) (tapp t1 (.cons k tc t2)) = tapp t1 (.cons k (add bs tc) t2) := by
  rw [add_tapp k bs t1 _ h]; simp [add]

theorem add_snoc_edge (k : UInt8) (bs : Bytes) (t : T) (h : k ∉ tkeys t) :
    add (k :: bs) (tapp t (.cons k .nil .nil)) = add (k :: bs) t := by
  rw [add_present k bs t .nil .nil h, add_absent k bs t h]
  cases bs <;> rfl

theorem del_present_single (k : UInt8) (t1 tc t2 : T) (h : k ∉ tkeys t1) :
    del [k] (tapp t1 (.cons k tc t2)) = some (tapp t1 t2) := by
  rw [del_tapp k [] t1 _ h, del_cons_cons_eq_single]; rfl

theorem del_present (k b1 : UInt8) (bs : Bytes) (t1 tc t2 : T) (h : k ∉ tkeys t1) :
    del (k :: b1 :: bs) (tapp t1 (.cons k tc t2)) =
      match del (b1 :: bs) tc with
      | none => none
      | some c' => if c'.isNil then some (tapp t1 t2) else some (tapp t1 (.cons k c' t2)) := by
  rw [del_tapp k (b1 :: bs) t1 _ h, del_cons_cons_eq]
  cases del (b1 :: bs) tc with
  | none => rfl
  | some c' => cases hc : c'.isNil <;> simp [hc]

theorem mapGet_nil (k : UInt8) (z : Int) : mapGet ([] : List (UInt8 × Int)) k z = z := rfl

theorem mapSet_absent (es : List (UInt8 × Int)) (k : UInt8) (v : Int)
    (h : k ∉ es.map Prod.fst) : mapSet es k v = es ++ [(k, v)] := by
  have : es.any (fun e => e.1 == k) = false := by
    rw [Assoc.any_key_eq, (Assoc.get_eq_none_iff es k).2 h]
    rfl
  rw [mapSet, this]
  rfl

theorem mapErase_absent (es : List (UInt8 × Int)) (k : UInt8)
    (h : k ∉ es.map Prod.fst) : mapErase es k = es := by
  unfold mapErase
  rw [List.filter_eq_self]
  intro e he
  have : e.1 ≠ k := fun hk => h (List.mem_map.2 ⟨e, he, hk⟩)
  simpa using this

theorem mapErase_present (es1 es2 : List (UInt8 × Int)) (k : UInt8) (v : Int)
    (h : ((es1 ++ (k, v) :: es2).map Prod.fst).Nodup) :
    mapErase (es1 ++ (k, v) :: es2) k = es1 ++ es2 := by
  rw [List.map_append, List.map_cons, List.nodup_append, List.nodup_cons] at h
  rw [mapErase, List.filter_append, List.filter_cons_of_neg (by simp), ← mapErase, ← mapErase,
    mapErase_absent es1 k fun hk => h.2.2 k hk k List.mem_cons_self rfl,
    mapErase_absent es2 k h.2.1.1]

theorem RepE.keys {heap : Heap} {es t S} (h : RepE heap es t S) : tkeys t = es.map Prod.fst := by
  induction h with
  | nil => rfl
  | cons _ _ _ _ _ ih => simp [tkeys, ih]

theorem RepE.isNil {heap : Heap} {es t S} (h : RepE heap es t S) : t = .nil ↔ es = [] := by
  cases h <;> simp

theorem isNil_eq_isEmpty {heap : Heap} {es t S} (h : RepE heap es t S) : t.isNil = es.isEmpty := by
  cases h <;> rfl

theorem RepE.lt {heap : Heap} {es t S} (h : RepE heap es t S) : ∀ x ∈ S, x < heap.length := by
  induction h with
  | nil => simp
  | cons hv hc _ _ ih1 ih2 =>
    intro x hx
    simp only [List.mem_cons, List.mem_append] at hx
    rcases hx with rfl | hx | hx
    · exact (List.getElem?_eq_some_iff.1 hc).1
    · exact ih1 x hx
    · exact ih2 x hx

theorem RepE.frame {heap heap' : Heap} {es t S} (h : RepE heap es t S)
    (hf : ∀ x ∈ S, heap'[x]? = heap[x]?) : RepE heap' es t S := by
  induction h with
  | nil => exact .nil
  | cons hv hc _ _ ih1 ih2 =>
    refine .cons hv ?_ (ih1 ?_) (ih2 ?_)
    · rw [hf _ (by simp)]; exact hc
    · intro x hx; exact hf x (by simp [hx])
    · intro x hx; exact hf x (by simp [hx])

theorem RepE.det {heap : Heap} {es t S} (h : RepE heap es t S) :
    ∀ {t' S'}, RepE heap es t' S' → t = t' ∧ S = S' := by
  induction h with
  | nil => intro t' S' h'; cases h'; exact ⟨rfl, rfl⟩
  | cons hv hc _ _ ih1 ih2 =>
    intro t' S' h'
    cases h' with
    | cons hv' hc' h1 h2 =>
      have : (_ : Int) = _ := hv.symm.trans hv'
      have hcc := Int.ofNat.inj this
      subst hcc
      rw [hc] at hc'
      cases hc'
      obtain ⟨rfl, rfl⟩ := ih1 h1
      obtain ⟨rfl, rfl⟩ := ih2 h2
      exact ⟨rfl, rfl⟩

theorem RepE.append {heap : Heap} {es1 t1 S1 es2 t2 S2} (h1 : RepE heap es1 t1 S1)
    (h2 : RepE heap es2 t2 S2) : RepE heap (es1 ++ es2) (tapp t1 t2) (S1 ++ S2) := by
  induction h1 with
  | nil => exact h2
  | @cons k v c es' es tc tr Sc Sr hv hc hc1 _ _ ih =>
    have := RepE.cons (k := k) hv hc hc1 ih
    simpa [tapp, List.append_assoc] using this

theorem RepE.split {heap : Heap} (es1 : List (UInt8 × Int)) : ∀ {es2 t S},
    RepE heap (es1 ++ es2) t S →
    ∃ t1 t2 S1 S2, RepE heap es1 t1 S1 ∧ RepE heap es2 t2 S2 ∧ t = tapp t1 t2 ∧ S = S1 ++ S2 := by
  induction es1 with
  | nil => intro es2 t S h; exact ⟨.nil, t, [], S, .nil, h, rfl, rfl⟩
  | cons e es1 ih =>
    intro es2 t S h
    cases h with
    | cons hv hc hc1 hr =>
      obtain ⟨t1, t2, S1, S2, h1, h2, rfl, rfl⟩ := ih hr
      exact ⟨_, t2, _, S2, .cons hv hc hc1 h1, h2, rfl, by simp [List.append_assoc]⟩

/-- what a map lookup finds: nothing (`-1`), or the first edge with that key -/
theorem RepE.lookup {heap : Heap} {es t S} (h : RepE heap es t S) (k : UInt8) :
    (mapGet es k (-1) = -1 ∧ k ∉ es.map Prod.fst) ∨
    (∃ (es1 es2 : List (UInt8 × Int)) (c : Nat), mapGet es k (-1) = (c : Int) ∧ es = es1 ++ (k, (c : Int)) :: es2 ∧
      k ∉ es1.map Prod.fst) := by
  induction h with
  | nil => exact Or.inl ⟨rfl, by simp⟩
  | @cons k' v c es' es tc tr Sc Sr hv hc _ _ _ ih =>
    by_cases hk : k' = k
    · subst hk
      refine Or.inr ⟨[], es, c, ?_, by simp [hv], by simp⟩
      rw [Assoc.mapGet_eq, Assoc.get_cons, if_pos rfl, hv]
      rfl
    · have hget : mapGet ((k', v) :: es) k (-1) = mapGet es k (-1) := by
        rw [Assoc.mapGet_eq, Assoc.get_cons, if_neg hk]
        rfl
      rw [hget]
      rcases ih with ⟨h1, h2⟩ | ⟨es1, es2, c', h1, h2, h3⟩
      · refine Or.inl ⟨h1, ?_⟩
        simp only [List.map_cons, List.mem_cons, not_or]
        exact ⟨Ne.symm hk, h2⟩
      · refine Or.inr ⟨(k', v) :: es1, es2, c', h1, by simp [h2], ?_⟩
        simp only [List.map_cons, List.mem_cons, not_or]
        exact ⟨Ne.symm hk, h3⟩

theorem RepE.at_edge {heap : Heap} {es1 es2 : List (UInt8 × Int)} {k : UInt8} {c : Nat} {t S}
    (h : RepE heap (es1 ++ (k, (c : Int)) :: es2) t S) :
    ∃ t1 tc t2 S1 Sc S2 es', heap[c]? = some es' ∧ RepE heap es1 t1 S1 ∧ RepE heap es' tc Sc ∧
      RepE heap es2 t2 S2 ∧ t = tapp t1 (.cons k tc t2) ∧ S = S1 ++ c :: (Sc ++ S2) := by
  obtain ⟨t1, u, S1, Su, h1, hu, rfl, rfl⟩ := RepE.split es1 h
  cases hu with
  | cons hv hc hc1 hr =>
    have hcc := Int.ofNat.inj hv
    subst hcc
    exact ⟨t1, _, _, S1, _, _, _, hc, h1, hc1, hr, rfl, rfl⟩

theorem Good.cell {heap : Heap} {n t S} (hg : Good heap n t S) :
    ∃ es, heap[n]? = some es ∧ RepE heap es t S :=
  let ⟨es, hn, hr, _⟩ := hg; ⟨es, hn, hr⟩

theorem KeysOK.frame {heap heap' : Heap} {S : List Nat} (hk : KeysOK heap S)
    (hf : ∀ x ∈ S, heap'[x]? = heap[x]?) : KeysOK heap' S :=
  fun x hx es hes => hk x hx es (hf x hx ▸ hes)

theorem Good.frame {heap heap' : Heap} {n : Nat} {t : T} {S : List Nat} (hg : Good heap n t S)
    (hag : ∀ x ∈ n :: S, heap'[x]? = heap[x]?) : Good heap' n t S := by
  obtain ⟨es, hn, hr, hnd, hk⟩ := hg
  exact ⟨es, by rw [hag n (by simp)]; exact hn, hr.frame fun x hx => hag x (by simp [hx]), hnd,
    hk.frame hag⟩

/-- `heap'` (footprint `S'` below `n`) comes from `heap` (footprint `S`) by writes to `n`, to cells
of `S` and to fresh cells only: what a caller one level up needs to know -/
structure Upd (heap : Heap) (n : Nat) (S : List Nat) (heap' : Heap) (S' : List Nat) : Prop where
  len : heap.length ≤ heap'.length
  frame : ∀ x, x < heap.length → x ≠ n → x ∉ S → heap'[x]? = heap[x]?
  sub : ∀ x ∈ S', x ∈ S ∨ heap.length ≤ x

theorem Upd.refl (heap : Heap) (n : Nat) (S : List Nat) : Upd heap n S heap S :=
  ⟨Nat.le_refl _, fun _ _ _ _ => rfl, fun _ h => Or.inl h⟩

theorem Upd.trans {heap heap1 heap2 : Heap} {n : Nat} {S S1 S2 : List Nat}
    (h1 : Upd heap n S heap1 S1) (h2 : Upd heap1 n S1 heap2 S2) : Upd heap n S heap2 S2 := by
  refine ⟨Nat.le_trans h1.len h2.len, fun x hx hxn hxS => ?_, fun x hx => ?_⟩
  · rw [h2.frame x (Nat.lt_of_lt_of_le hx h1.len) hxn, h1.frame x hx hxn hxS]
    intro h
    rcases h1.sub x h with h | h
    · exact hxS h
    · omega
  · rcases h2.sub x hx with h | h
    · exact h1.sub x h
    · exact Or.inr (Nat.le_trans h1.len h)

theorem perm_fp (n c : Nat) (S1 Sc S2 : List Nat) :
    (n :: (S1 ++ c :: (Sc ++ S2))).Perm (Sc ++ c :: n :: (S1 ++ S2)) := by
  have h1 := List.perm_append_comm_assoc (n :: S1 ++ [c]) Sc S2
  have h2 : (n :: S1 ++ [c] ++ S2).Perm (c :: n :: (S1 ++ S2)) := by
    simpa using List.perm_middle (a := c) (l₁ := n :: S1) (l₂ := S2)
  simpa using h1.trans (List.Perm.append_left Sc h2)

/-- Focus on the edge `(k, c)` of a good node: the child is good, and whatever is done below the
child (`Upd`), the cell `n` is untouched and the node is good again with the new child — or with
the edge erased. -/
theorem Good.focus {heap : Heap} {n c : Nat} {t : T} {S : List Nat} {es1 es2 : List (UInt8 × Int)}
    {k : UInt8} (hg : Good heap n t S) (hn : heap[n]? = some (es1 ++ (k, (c : Int)) :: es2))
    (hk1 : k ∉ es1.map Prod.fst) :
    ∃ t1 tc t2 S1 Sc S2, t = tapp t1 (.cons k tc t2) ∧ S = S1 ++ c :: (Sc ++ S2) ∧ k ∉ tkeys t1 ∧
      Good heap c tc Sc ∧
      ∀ heap' Sc', Upd heap c Sc heap' Sc' →
        heap'[n]? = some (es1 ++ (k, (c : Int)) :: es2) ∧
        Upd heap n S heap' (S1 ++ c :: (Sc' ++ S2)) ∧
        (∀ tc', Good heap' c tc' Sc' →
          Good heap' n (tapp t1 (.cons k tc' t2)) (S1 ++ c :: (Sc' ++ S2))) ∧
        Good (heap'.set n (es1 ++ es2)) n (tapp t1 t2) (S1 ++ S2) ∧
        Upd heap n S (heap'.set n (es1 ++ es2)) (S1 ++ S2) := by
  obtain ⟨es, hn', hr, hnd, hk⟩ := hg
  cases hn.symm.trans hn'
  obtain ⟨t1, tc, t2, S1, Sc, S2, es', hc, r1, rc, r2, rfl, rfl⟩ := hr.at_edge
  -- `n :: (S1 ++ S2)`: the cells of the node outside the child part; all old, none in `Sc`
  have hmem : ∀ {Sc' : List Nat} {x}, x ∈ n :: (S1 ++ c :: (Sc' ++ S2)) ↔
      x ∈ Sc' ∨ x = c ∨ x ∈ n :: (S1 ++ S2) := fun {Sc' x} => by
    rw [(perm_fp n c S1 Sc' S2).mem_iff, List.mem_append, List.mem_cons]
  obtain ⟨hSc, hcE, hdis⟩ := List.nodup_append.1 ((perm_fp n c S1 Sc S2).nodup_iff.1 hnd)
  obtain ⟨hcE, hE⟩ := List.nodup_cons.1 hcE
  have hElt : ∀ x ∈ n :: (S1 ++ S2), x < heap.length := by
    intro x hx
    rcases List.mem_cons.1 hx with rfl | hx
    · exact (List.getElem?_eq_some_iff.1 hn).1
    · exact (List.mem_append.1 hx).elim (r1.lt x) (r2.lt x)
  have hclt : c < heap.length := (List.getElem?_eq_some_iff.1 hc).1
  refine ⟨t1, tc, t2, S1, Sc, S2, rfl, rfl, r1.keys ▸ hk1,
    ⟨es', hc, rc, List.nodup_cons.2 ⟨fun h => hdis c h c (by simp) rfl, hSc⟩,
      fun x hx => hk x (hmem.2 ((List.mem_cons.1 hx).symm.imp_right Or.inl))⟩, ?_⟩
  intro heap' Sc' hu
  have hfr : ∀ x ∈ n :: (S1 ++ S2), heap'[x]? = heap[x]? := fun x hx =>
    hu.frame x (hElt x hx) (fun e => hcE (e ▸ hx)) fun h => hdis x h x (by simp [hx]) rfl
  have hdis' : ∀ a ∈ Sc', ∀ b ∈ c :: n :: (S1 ++ S2), a ≠ b := by
    rintro a ha b hb rfl
    rcases hu.sub a ha with h | h
    · exact hdis a h a hb rfl
    · have : a < heap.length := (List.mem_cons.1 hb).elim (· ▸ hclt) (hElt a)
      omega
  have hn1 : heap'[n]? = some (es1 ++ (k, (c : Int)) :: es2) := (hfr n (by simp)).trans hn
  have hkE : KeysOK heap' (n :: (S1 ++ S2)) :=
    KeysOK.frame (fun x hx => hk x (hmem.2 (Or.inr (Or.inr hx)))) hfr
  have f1 : RepE heap' es1 t1 S1 := r1.frame fun x hx => hfr x (by simp [hx])
  have f2 : RepE heap' es2 t2 S2 := r2.frame fun x hx => hfr x (by simp [hx])
  have hframe : ∀ x, x < heap.length → x ≠ n → x ∉ S1 ++ c :: (Sc ++ S2) → heap'[x]? = heap[x]? := by
    intro x hx hxn hxS
    simp only [List.mem_append, List.mem_cons, not_or] at hxS
    exact hu.frame x hx hxS.2.1 hxS.2.2.1
  refine ⟨hn1, ⟨hu.len, hframe, fun x hx => ?_⟩, fun tc' hg' => ?_, ?_,
    by rw [List.length_set]; exact hu.len,
    fun x hx hxn hxS => (List.getElem?_set_ne (Ne.symm hxn)).trans (hframe x hx hxn hxS),
    fun x hx => Or.inl ?_⟩
  · simp only [List.mem_append, List.mem_cons] at hx ⊢
    rcases hx with h | h | h | h
    · exact Or.inl (Or.inl h)
    · exact Or.inl (Or.inr (Or.inl h))
    · exact (hu.sub x h).imp_left fun h => Or.inr (Or.inr (Or.inl h))
    · exact Or.inl (Or.inr (Or.inr (Or.inr h)))
  · obtain ⟨es'', hc', rc', hnd', hk'⟩ := hg'
    refine ⟨_, hn1, RepE.append f1 (RepE.cons rfl hc' rc' f2),
      (perm_fp n c S1 Sc' S2).nodup_iff.2 (List.nodup_append.2
        ⟨(List.nodup_cons.1 hnd').2, List.nodup_cons.2 ⟨hcE, hE⟩, hdis'⟩), fun x hx => ?_⟩
    rcases hmem.1 hx with h | h | h
    · exact hk' x (List.mem_cons_of_mem _ h)
    · exact hk' x (h ▸ List.mem_cons_self)
    · exact hkE x h
  · have hnlt : n < heap'.length := (List.getElem?_eq_some_iff.1 hn1).1
    have hset : ∀ x ∈ S1 ++ S2, (heap'.set n (es1 ++ es2))[x]? = heap'[x]? := fun x hx =>
      List.getElem?_set_ne fun e : n = x => (List.nodup_cons.1 hE).1 (e ▸ hx)
    refine ⟨_, List.getElem?_set_self hnlt, RepE.append (f1.frame fun x hx => hset x (by simp [hx]))
      (f2.frame fun x hx => hset x (by simp [hx])), hE, fun x hx es0 hes0 => ?_⟩
    rcases List.mem_cons.1 hx with rfl | hx'
    · cases (List.getElem?_set_self hnlt).symm.trans hes0
      refine List.Sublist.nodup ?_ (hkE x hx _ hn1)
      simp only [List.map_append, List.map_cons]
      exact List.Sublist.append (List.Sublist.refl _) (List.sublist_cons_self _ _)
    · exact hkE x hx es0 (hset x hx' ▸ hes0)
  · simp only [List.mem_append, List.mem_cons] at hx ⊢
    exact hx.imp_right fun h => Or.inr (Or.inr h)

theorem Good.keysNodup {heap : Heap} {n t S es} (hg : Good heap n t S) (hn : heap[n]? = some es) :
    (es.map Prod.fst).Nodup :=
  let ⟨_, _, _, _, hk⟩ := hg; hk n (by simp) es hn

theorem Good.keysOK {heap : Heap} {n t S} (hg : Good heap n t S) : KeysOK heap S :=
  let ⟨_, _, _, _, hk⟩ := hg; fun x hx => hk x (List.mem_cons_of_mem _ hx)

/-- a fresh empty node and an edge to it, at the end of the edge list of `n` -/
theorem Good.add_edge {heap : Heap} {n : Nat} {t : T} {S : List Nat} {es : List (UInt8 × Int)}
    {k : UInt8} (hg : Good heap n t S) (hn : heap[n]? = some es) (hk1 : k ∉ es.map Prod.fst) :
    ((heap ++ ([[]] : Heap)).set n (es ++ [(k, (heap.length : Int))]))[n]?
      = some (es ++ [(k, (heap.length : Int))]) ∧
    Good ((heap ++ ([[]] : Heap)).set n (es ++ [(k, (heap.length : Int))])) n
      (tapp t (.cons k .nil .nil)) (S ++ [heap.length]) ∧
    Upd heap n S ((heap ++ ([[]] : Heap)).set n (es ++ [(k, (heap.length : Int))]))
      (S ++ [heap.length]) := by
  obtain ⟨es', hn', hr, hnd, hk⟩ := hg
  cases hn.symm.trans hn'
  have hnlt : n < heap.length := (List.getElem?_eq_some_iff.1 hn).1
  generalize hh : (heap ++ ([[]] : Heap)).set n (es ++ [(k, (heap.length : Int))]) = heap1
  have hfr : ∀ x, x < heap.length → x ≠ n → heap1[x]? = heap[x]? := fun x hx hxn => by
    rw [← hh, List.getElem?_set_ne (Ne.symm hxn), List.getElem?_append_left hx]
  have hnew : heap1[heap.length]? = some [] := by
    rw [← hh, List.getElem?_set_ne (Nat.ne_of_lt hnlt), List.getElem?_append_right (Nat.le_refl _),
      Nat.sub_self]
    rfl
  have hcell : heap1[n]? = some (es ++ [(k, (heap.length : Int))]) := by
    rw [← hh]
    exact List.getElem?_set_self (by rw [List.length_append]; omega)
  have hlen : heap.length ≤ heap1.length := by
    rw [← hh, List.length_set, List.length_append]; omega
  have hn' : n ∉ S := (List.nodup_cons.1 hnd).1
  have hfrS : ∀ x ∈ S, heap1[x]? = heap[x]? := fun x hx =>
    hfr x (hr.lt x hx) fun e => hn' (e ▸ hx)
  refine ⟨hcell, ⟨_, hcell, ?_, ?_, fun x hx es0 hes0 => ?_⟩, hlen, fun x hx hxn _ => hfr x hx hxn,
    fun x hx => ?_⟩
  · have := RepE.append (hr.frame hfrS) (RepE.cons (k := k) rfl hnew RepE.nil RepE.nil)
    rwa [List.append_nil] at this
  · rw [← List.cons_append, List.nodup_append]
    refine ⟨hnd, List.pairwise_singleton _ _, ?_⟩
    rintro a ha b hb rfl
    rw [List.mem_singleton] at hb
    have : a < heap.length := (List.mem_cons.1 ha).elim (· ▸ hnlt) (hr.lt a)
    omega
  · rw [← List.cons_append, List.mem_append, List.mem_singleton] at hx
    rcases hx with hx | rfl
    · rcases List.mem_cons.1 hx with rfl | hx'
      · cases hcell.symm.trans hes0
        rw [List.map_append, List.nodup_append]
        refine ⟨hk x hx es hn, List.pairwise_singleton _ _, fun a ha b hb e => hk1 ?_⟩
        rwa [e, List.mem_singleton.1 hb] at ha
      · exact hk x hx es0 (hfrS x hx' ▸ hes0)
    · cases hnew.symm.trans hes0; exact List.nodup_nil
  · rw [List.mem_append, List.mem_singleton] at hx
    exact hx.imp_right fun e => Nat.le_of_eq e.symm

end TrieGo
end Bio.GoSrcLemmas

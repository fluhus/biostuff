/-
  The translated `(*reader).read` of formats/bed/bed.go (receiver fields `r.r`, a `BufRd`, and `r.nfields`
  as threaded state; the `for { }` loop has fuel), iterated the way `Reader` of formats/bed/iter.go does,
  against `Bed.fromLines`.  `readSpec P` is one call with the line parser `P` as a parameter; it is one
  step of `fromLinesP P` on the text lines.  Guarded by the translator's `_Found` flags as in
  `Bio.Lemmas.GoSrc`.
-/
import Bio.Lemmas.GoSrcBedRead2
import Bio.Lemmas.GoSrcBed
import Bio.Lemmas.SamBedLines
set_option linter.unusedVariables false
namespace Bio.GoSrcLemmas
open Bio Bio.GoRt Bio.Generated

namespace BedRd
open BedIt (fromLinesP fromLinesP_dropWhile fromLinesP_line fromLinesP_congr fromLinesP_model)

/-! ## One call of `read`, with the line parser as a parameter -/

abbrev RdOut := Option BedT × GoErr × BufRd × Int

/-- what `read` returns for a line that is not skipped -/
def lineOut (P : List Bytes → Option Bed.Bed) (nf : Int) (t : Bytes) (r' : BufRd) : RdOut :=
  if nf = 0 then ((resultOf (P (splitOn 9 t))).1, (resultOf (P (splitOn 9 t))).2, r', len (splitOn 9 t))
  else if len (splitOn 9 t) ≠ nf then (none, GoErr.other, r', nf)
  else ((resultOf (P (splitOn 9 t))).1, (resultOf (P (splitOn 9 t))).2, r', nf)

/-- one call of `read`; one unit of fuel pays for one `ReadString`, i.e. one text line, skipped or not -/
def readSpec (P : List Bytes → Option Bed.Bed) : Nat → BufRd → Int → Option RdOut
  | 0, _, _ => none
  | fuel + 1, r, nf =>
    let t := readString r 10
    let line := trimSuffix (trimSuffix t.1 [10]) [13]
    if t.2.1 ≠ GoErr.nil ∧ (t.2.1 ≠ GoErr.eof ∨ t.1 = []) then some (none, t.2.1, t.2.2, nf)
    else if Bed.isSkipped line = true then
      (if t.2.1 = GoErr.eof then some (none, GoErr.eof, t.2.2, nf) else readSpec P fuel t.2.2 nf)
    else some (lineOut P nf line t.2.2)

theorem isSkipped_go (line : Bytes) :
    (if line == [] then (some true : Option Bool) else (idx line 0).bind fun c => some (c == 35))
      = some (Bed.isSkipped line) := by
  cases line with
  | nil => rfl
  | cons c rest =>
    have : idx (c :: rest) 0 = some c := rfl
    simp only [this, Option.bind_some]
    by_cases hc : c = 35
    · subst hc; rfl
    · rw [beq_eq_false_iff_ne.2 hc, Bed.isSkipped_eq_false.2 ⟨List.cons_ne_nil c rest, by simpa using hc⟩]
      rfl

/-- the skip test in front of the rest `jp` of the loop body -/
theorem skip_test {β : Type} (line : Bytes) (jp : Bool → Option β) :
    (if (line == []) = true then jp true else ((idx line 0).bind fun c => some (c == 35)).bind jp)
      = jp (Bed.isSkipped line) := by
  rw [← Option.bind_some (f := jp) (a := Bed.isSkipped line), ← isSkipped_go]
  split <;> rfl

theorem bed_read_spec (hF : GoSrc.bed_read_Found = true) (hP : GoSrc.parseLine_Found = true)
    (f : Bytes → Int × GoErr) (g : Bytes → Int → Int → Int × GoErr) (fuel : Nat) (r : BufRd) (nf : Int) :
    GoSrc.bed_read f g fuel r nf = readSpec (parseSpec (reqA f) (u8G g)) fuel r nf := by
  first
  | exact absurd hF (by decide)
  | exact absurd hP (by decide)
  | (unfold GoSrc.bed_read
     -- `-zeta`: the rest of the body after the skip test is a join point used twice; `skip_test` makes it one use
     simp -zeta only [Option.pure_def, Option.bind_eq_bind, go_parseLine_spec hP, Option.bind_some, skip_test]
     refine (forIn_fuelSpec _ (fun n s => readSpec (parseSpec (reqA f) (u8G g)) n s.1 s.2) _ ?_ (fun _ => rfl) ?_
       (List.range fuel) (r, nf)).trans (by rw [List.length_range])
     · intro s; rcases s with ⟨_ | _, _⟩ <;> rfl
     intro i o s n
     obtain ⟨r, nf⟩ := s
     dsimp only [readSpec]
     generalize readString r 10 = t
     obtain ⟨line, err, r'⟩ := t
     dsimp only
     generalize trimSuffix (trimSuffix line [10]) [13] = tl
     by_cases h1 : err ≠ GoErr.nil ∧ (err ≠ GoErr.eof ∨ line = [])
     · have h1' : (err != GoErr.nil && (err != GoErr.eof || line == [])) = true := by simpa using h1
       rw [if_pos h1', if_pos h1]
     · have h1' : ¬ (err != GoErr.nil && (err != GoErr.eof || line == [])) = true := by simpa using h1
       rw [if_neg h1', if_neg h1]
       by_cases h2 : Bed.isSkipped tl = true
       · rw [if_pos h2, if_pos h2]
         cases err <;> rfl
       · rw [if_neg h2, if_neg h2]
         unfold lineOut
         by_cases hnf : nf = 0
         · simp [hnf]
         · by_cases hl : len (splitOn 9 tl) = nf <;> simp [hnf, hl])

/-! ## One call of `readSpec` on bytes -/

theorem readSpec_nil (P : List Bytes → Option Bed.Bed) (fuel : Nat) (e : Ending) (nf : Int) :
    readSpec P (fuel + 1) ⟨[], e⟩ nf = some (none, endErr e, ⟨[], e⟩, nf) := by
  simp [readSpec, readString_nil, endErr_ne_nil]

theorem readSpec_tail_fail (P : List Bytes → Option Bed.Bed) (fuel : Nat) {l : Bytes} (nf : Int)
    (h : (10 : UInt8) ∉ l) :
    readSpec P (fuel + 1) ⟨l, .fail⟩ nf = some (none, GoErr.other, ⟨[], .fail⟩, nf) := by
  simp only [readSpec, readString_tail .fail h, endErr]
  rw [if_pos ⟨by simp, Or.inl (by simp)⟩]

theorem readSpec_tail_eof (P : List Bytes → Option Bed.Bed) (fuel : Nat) {l : Bytes} (nf : Int)
    (hne : l ≠ []) (h : (10 : UInt8) ∉ l) :
    readSpec P (fuel + 1) ⟨l, .eof⟩ nf
      = if Bed.isSkipped (dropCR l) = true then some (none, GoErr.eof, ⟨[], .eof⟩, nf)
        else some (lineOut P nf (dropCR l) ⟨[], .eof⟩) := by
  simp only [readSpec, readString_tail .eof h, endErr, trim_tail h]
  rw [if_neg (by simp [hne])]
  simp

theorem readSpec_line (P : List Bytes → Option Bed.Bed) (fuel : Nat) {l : Bytes} (rest : Bytes)
    (e : Ending) (nf : Int) (h : (10 : UInt8) ∉ l) :
    readSpec P (fuel + 1) ⟨l ++ 10 :: rest, e⟩ nf
      = if Bed.isSkipped (dropCR l) = true then readSpec P fuel ⟨rest, e⟩ nf
        else some (lineOut P nf (dropCR l) ⟨rest, e⟩) := by
  simp only [readSpec, readString_line rest e h, trim_line l]
  rw [if_neg (by simp)]
  simp

/-! ## One call of `readSpec` in terms of the lines -/

/-- number of leading skipped (blank or `#`) lines -/
def leadSkips (ls : List Bytes) : Nat := (ls.takeWhile Bed.isSkipped).length

theorem leadSkips_le_length (ls : List Bytes) : leadSkips ls ≤ ls.length :=
  (List.takeWhile_sublist _).length_le

theorem leadSkips_le (e : Ending) (rest : Bytes) : leadSkips (textLines e rest) ≤ rest.length :=
  Nat.le_trans (leadSkips_le_length _) (textLines_length_le e rest)

/-- One call of `read` on the remaining bytes `rest`, with more fuel than there are leading skipped
lines: the skipped lines are consumed; then, at the end of the lines, `io.EOF` / the read error
(nothing left to read), and otherwise the outcome for the first record line `t`, the reader left at
bytes `rest'` whose lines are the lines after `t`. -/
theorem readSpec_lines (P : List Bytes → Option Bed.Bed) (e : Ending) (rest : Bytes) :
    ∀ (fuel : Nat) (nf : Int), leadSkips (textLines e rest) < fuel →
      match (textLines e rest).dropWhile Bed.isSkipped with
      | [] => readSpec P fuel ⟨rest, e⟩ nf = some (none, endErr e, ⟨[], e⟩, nf)
      | t :: more => ∃ rest', textLines e rest' = more ∧ rest'.length < rest.length
          ∧ readSpec P fuel ⟨rest, e⟩ nf = some (lineOut P nf t ⟨rest', e⟩) := by
  induction rest using lines_induction with
  | nil =>
    intro fuel nf hfuel
    obtain ⟨fuel, rfl⟩ : ∃ k, fuel = k + 1 := ⟨fuel - 1, by omega⟩
    rw [textLines_nil]
    exact readSpec_nil P fuel e nf
  | tail l hne h =>
    intro fuel nf hfuel
    obtain ⟨fuel, rfl⟩ : ∃ k, fuel = k + 1 := ⟨fuel - 1, by omega⟩
    cases e with
    | fail =>
      rw [textLines_tail_fail h]
      exact readSpec_tail_fail P fuel nf h
    | eof =>
      rw [textLines_tail_eof hne h, readSpec_tail_eof P fuel nf hne h, List.dropWhile_cons]
      by_cases hs : Bed.isSkipped (dropCR l) = true
      · rw [if_pos hs, if_pos hs]; rfl
      · rw [if_neg hs, if_neg hs]
        exact ⟨[], textLines_nil _, List.length_pos_iff.2 hne, rfl⟩
  | line l rest h ih =>
    intro fuel nf hfuel
    obtain ⟨fuel, rfl⟩ : ∃ k, fuel = k + 1 := ⟨fuel - 1, by omega⟩
    rw [textLines_line e rest h] at hfuel ⊢
    rw [readSpec_line P fuel rest e nf h, List.dropWhile_cons]
    by_cases hs : Bed.isSkipped (dropCR l) = true
    · rw [if_pos hs, if_pos hs]
      have hf' : leadSkips (textLines e rest) < fuel := by
        simp only [leadSkips, List.takeWhile_cons, hs, if_true, List.length_cons] at hfuel ⊢
        omega
      have := ih fuel nf hf'
      split at this
      · exact this
      · obtain ⟨r'', h1, h2, h3⟩ := this
        exact ⟨r'', h1, by simp; omega, h3⟩
    · rw [if_neg hs, if_neg hs]
      exact ⟨rest, rfl, by simp; omega, rfl⟩

/-- `read` returns (no panic, fuel not exhausted) when `fuel` exceeds the number of skipped lines in front -/
theorem readSpec_isSome (P : List Bytes → Option Bed.Bed) (e : Ending) (rest : Bytes) (fuel : Nat) (nf : Int)
    (h : leadSkips (textLines e rest) < fuel) : (readSpec P fuel ⟨rest, e⟩ nf).isSome = true := by
  have hL := readSpec_lines P e rest fuel nf h
  split at hL
  · rw [hL]; rfl
  · obtain ⟨_, _, _, h3⟩ := hL
    rw [h3]; rfl

/-! ## Iterating `read` the way `Reader` (formats/bed/iter.go) does -/

/-- `for { bed, err := rd.read(); if err == io.EOF { return }; if err != nil { yield(nil, err); return };
if !yield(bed, nil) { return } }` over a `read` given as a function of the reader state, at most `k`
calls (`none` = a call panicked or ran out of fuel, or `k` calls were not enough; a `(nil, nil)` result,
which `read` never produces, is reported as `none` as well). -/
def decodeWith (rd : BufRd → Int → Option RdOut) : Nat → BufRd → Int → Option (List (Item Bed.Bed))
  | 0, _, _ => none
  | k + 1, r, nf =>
    match rd r nf with
    | none => none
    | some (_, GoErr.eof, _, _) => some []
    | some (_, GoErr.other, _, _) => some [Item.err]
    | some (none, GoErr.nil, _, _) => none
    | some (some t, GoErr.nil, r', nf') => (decodeWith rd k r' nf').map (Item.ok (bedOf t) :: ·)

/-- the reader's `nfields` for the model's `Option Nat` -/
def nfInt : Option Nat → Int
  | none => 0
  | some m => (m : Int)

/-- the `nfields` rule of `read` and the field-count rule of `fromLinesP` are the same test, and a
line that passes it fixes the count -/
theorem nfInt_check {nfo : Option Nat} (h0 : nfo ≠ some 0) (fs : List Bytes) :
    ((nfo.isSome && nfo != some fs.length) = true ↔ nfInt nfo ≠ 0 ∧ len fs ≠ nfInt nfo)
    ∧ ((nfo.isSome && nfo != some fs.length) = false →
        (if nfInt nfo = 0 then len fs else nfInt nfo) = nfInt (some fs.length)) := by
  cases nfo with
  | none => simp [nfInt, len]
  | some m =>
    have hm : (m : Int) ≠ 0 := fun h => h0 (by rw [show m = 0 by omega])
    simp only [nfInt, len, Option.isSome_some, Bool.true_and, bne_iff_ne, ne_eq, Option.some.injEq,
      bne_eq_false_iff_eq, hm, not_false_eq_true, true_and, if_false]
    exact ⟨⟨fun h e => h (by omega), fun h e => h (by omega)⟩, fun h => by omega⟩

/-- `lineOut`, spelled out: the `nfields` rule and the parse. -/
theorem lineOut_eq' (P : List Bytes → Option Bed.Bed) (nf : Int) (t : Bytes) (r' : BufRd) :
    lineOut P nf t r' =
      if nf ≠ 0 ∧ len (splitOn 9 t) ≠ nf then (none, GoErr.other, r', nf)
      else ((resultOf (P (splitOn 9 t))).1, (resultOf (P (splitOn 9 t))).2, r',
        if nf = 0 then len (splitOn 9 t) else nf) := by
  unfold lineOut
  by_cases h0 : nf = 0
  · simp [h0]
  · by_cases hl : len (splitOn 9 t) = nf <;> simp [h0, hl]

/-- One call of `read` and the first step of `fromLinesP`. -/
theorem read_fromLinesP (P : List Bytes → Option Bed.Bed) (e : Ending) (rest : Bytes) (fuel : Nat)
    (nfo : Option Nat) (hfuel : leadSkips (textLines e rest) < fuel) (hnfo : nfo ≠ some 0) :
    (readSpec P fuel ⟨rest, e⟩ (nfInt nfo) = some (none, endErr e, ⟨[], e⟩, nfInt nfo)
        ∧ fromLinesP P e nfo (textLines e rest) = Bed.endItems e)
    ∨ (∃ r' nf', readSpec P fuel ⟨rest, e⟩ (nfInt nfo) = some (none, GoErr.other, r', nf')
        ∧ fromLinesP P e nfo (textLines e rest) = [.err])
    ∨ (∃ b rest' nfo', readSpec P fuel ⟨rest, e⟩ (nfInt nfo) = some (some (tupleOf b), GoErr.nil, ⟨rest', e⟩, nfInt nfo')
        ∧ nfo' ≠ some 0 ∧ (textLines e rest').length < (textLines e rest).length
        ∧ fromLinesP P e nfo (textLines e rest) = .ok b :: fromLinesP P e nfo' (textLines e rest')) := by
  have hL := readSpec_lines P e rest fuel (nfInt nfo) hfuel
  rw [fromLinesP_dropWhile]
  cases hd : (textLines e rest).dropWhile Bed.isSkipped with
  | nil =>
    rw [hd] at hL
    exact Or.inl ⟨hL, rfl⟩
  | cons t more =>
    rw [hd] at hL
    obtain ⟨rest', hmore, -, hread⟩ := hL
    right
    have hns : Bed.isSkipped t = false := by
      have := List.head_dropWhile_not Bed.isSkipped (l := textLines e rest) (by rw [hd]; simp)
      simpa [hd] using this
    have hlen : (textLines e rest').length < (textLines e rest).length := by
      have := (List.dropWhile_sublist Bed.isSkipped (l := textLines e rest)).length_le
      rw [hd, ← hmore] at this
      simp at this; omega
    obtain ⟨hc, hk⟩ := nfInt_check hnfo (splitOn 9 t)
    rw [hread, lineOut_eq', fromLinesP_line P e hns, show TAB = (9 : UInt8) from rfl]
    by_cases hchk : (nfo.isSome && nfo != some (splitOn 9 t).length) = true
    · rw [if_pos hchk, if_pos (hc.1 hchk)]
      exact Or.inl ⟨_, _, rfl, rfl⟩
    · rw [if_neg hchk, if_neg (fun h => hchk (hc.2 h)), hk (by simpa using hchk)]
      cases P (splitOn 9 t) with
      | none => exact Or.inl ⟨_, _, rfl, rfl⟩
      | some b =>
        exact Or.inr ⟨b, rest', some (splitOn 9 t).length, rfl,
          fun h => by injection h with h; have := splitOn_length_pos 9 t; omega, hlen, by rw [hmore]⟩

/-- Iterating `readSpec P` over the bytes, with more fuel and more iterations than there are text
lines, gives the items of `fromLinesP P`. -/
theorem decodeWith_lines (P : List Bytes → Option Bed.Bed) (e : Ending) (fuel : Nat) :
    ∀ (n : Nat) (rest : Bytes), (textLines e rest).length = n →
    ∀ (k : Nat) (nfo : Option Nat), n < fuel → n < k → nfo ≠ some 0 →
    decodeWith (readSpec P fuel) k ⟨rest, e⟩ (nfInt nfo) = some (fromLinesP P e nfo (textLines e rest)) := by
  intro n
  induction n using Nat.strongRecOn with
  | _ n ih =>
    intro rest hn k nfo hfuel hk hnfo
    obtain ⟨k, rfl⟩ : ∃ k', k = k' + 1 := ⟨k - 1, by omega⟩
    have hls : leadSkips (textLines e rest) < fuel := by
      have := leadSkips_le_length (textLines e rest); omega
    rcases read_fromLinesP P e rest fuel nfo hls hnfo with
      ⟨hr, hi⟩ | ⟨r', nf', hr, hi⟩ | ⟨b, rest', nfo', hr, h0, hlen, hi⟩
    · rw [decodeWith, hr, hi]
      cases e <;> rfl
    · rw [decodeWith, hr, hi]
    · rw [decodeWith, hr, hi]
      dsimp only
      rw [ih _ (by omega) rest' rfl k nfo' (by omega) (by omega) h0]
      rfl

/-! ## The translated reader -/

/-- `Reader` of formats/bed/iter.go over the translated `read`: a fresh reader (`nfields = 0`) on the
input `x` ending as `e`; `fuel` bounds both the `for { }` loop inside every `read` call and the number
of `read` calls. -/
def goBedDecode (f : Bytes → Int × GoErr) (g : Bytes → Int → Int → Int × GoErr) (fuel : Nat)
    (x : Bytes) (e : Ending) : Option (List (Item Bed.Bed)) :=
  decodeWith (GoSrc.bed_read f g fuel) fuel ⟨x, e⟩ 0

/-- under the two models the parametrised parser is the hand-written one -/
theorem parseSpec_of_models {f g} (hf : AtoiModel f) (hg : PUModel g) :
    parseSpec (reqA f) (u8G g) = Bed.parseLine := by
  funext fs
  rw [reqA_of_model hf, u8G_of_model hg, parseLine_eq_spec]

/-- for ARBITRARY `strconv` functions: the translated `read`, iterated, gives the items of `fromLinesP`
at the translated `parseLine` -/
theorem goBedDecode_lines (hF : GoSrc.bed_read_Found = true) (hP : GoSrc.parseLine_Found = true)
    (f : Bytes → Int × GoErr) (g : Bytes → Int → Int → Int × GoErr) (fuel : Nat) (x : Bytes) (e : Ending)
    (hfuel : (textLines e x).length + 1 ≤ fuel) :
    goBedDecode f g fuel x e = some (fromLinesP (parseSpec (reqA f) (u8G g)) e none (textLines e x)) := by
  unfold goBedDecode
  rw [funext fun r => funext fun nf => bed_read_spec hF hP f g fuel r nf]
  exact decodeWith_lines _ e fuel _ x rfl fuel none (by omega) (by omega) (by simp)

/-- the translated reader on `x` is the model decoder, provided the parametrised parser agrees with
the model's on the text lines of `x` -/
theorem goBedDecode_eq (hF : GoSrc.bed_read_Found = true) (hP : GoSrc.parseLine_Found = true)
    (f : Bytes → Int × GoErr) (g : Bytes → Int → Int → Int × GoErr) (fuel : Nat) (x : Bytes) (e : Ending)
    (hfuel : x.length < fuel)
    (hlines : ∀ l ∈ textLines e x,
      parseSpec (reqA f) (u8G g) (splitOn 9 l) = Bed.parseLine (splitOn 9 l)) :
    goBedDecode f g fuel x e = some (Bed.decodeSrc e x) := by
  rw [goBedDecode_lines hF hP f g fuel x e (by have := textLines_length_le e x; omega),
    fromLinesP_congr e _ hlines, fromLinesP_model]
  rfl

/-! ## The lines `Write` produces, under the weak `ParseUint` hypothesis -/

/-- the pieces of field 9 of a written line are the canonical decimals of the three bytes -/
theorem rgbPieces_take (b : Bed.Bed) (N : Nat) :
    ∀ p ∈ rgbPieces ((Bed.allFields b).take N),
      p = natDigits b.rgb.1.toNat ∨ p = natDigits b.rgb.2.1.toNat ∨ p = natDigits b.rgb.2.2.toNat := by
  intro p hp
  unfold rgbPieces at hp
  rw [Bed.getD_take] at hp
  by_cases hN : 8 < N
  · rw [if_pos hN, show (Bed.allFields b)[8]?.getD [] = natDigits b.rgb.1.toNat ++ Bed.COMMA ::
      natDigits b.rgb.2.1.toNat ++ Bed.COMMA :: natDigits b.rgb.2.2.toNat from rfl,
      if_neg (Bed.rgbText_ne_nil _ _ _), show (44 : UInt8) = Bed.COMMA from rfl, Bed.splitOn_rgbText] at hp
    simpa using hp
  · rw [if_neg hN] at hp
    simp at hp

/-- on a written line the translated parser needs `ParseUint` only on canonical decimals -/
theorem parseSpec_written (f : Bytes → Int × GoErr) (g : Bytes → Int → Int → Int × GoErr)
    (hf : AtoiModel f) (hg : PUCanon g) (b : Bed.Bed) (N : Nat) :
    parseSpec (reqA f) (u8G g) ((Bed.allFields b).take N) = Bed.parseLine ((Bed.allFields b).take N) := by
  rw [reqA_of_model hf, parseLine_eq_spec]
  apply parseSpec_congr_U
  intro p hp
  rcases rgbPieces_take b N p hp with rfl | rfl | rfl <;>
    rw [u8G_canon hg, Bed.parseU8_natDigits]

/-- The write → read round trip at the level of lines, for ANY list of records whose fields carry no
TAB, LF, CR: if `x` consists of the lines `joinWith TAB (take N (allFields b))`, LF-terminated, the
translated reader on `x` is the model decoder on `x`. -/
theorem goBedDecode_written (hF : GoSrc.bed_read_Found = true) (hP : GoSrc.parseLine_Found = true)
    (f : Bytes → Int × GoErr) (g : Bytes → Int → Int → Int × GoErr) (hf : AtoiModel f) (hg : PUCanon g)
    (N : Nat) (h3 : 3 ≤ N) (bs : List Bed.Bed) (hok : ∀ b ∈ bs, ∀ fl ∈ Bed.allFields b, Bed.textOK fl)
    (fuel : Nat)
    (hfuel : (bs.map fun b => joinWith TAB ((Bed.allFields b).take N) ++ [10]).flatten.length < fuel) :
    goBedDecode f g fuel (bs.map fun b => joinWith TAB ((Bed.allFields b).take N) ++ [10]).flatten .eof
      = some (Bed.decode (bs.map fun b => joinWith TAB ((Bed.allFields b).take N) ++ [10]).flatten) := by
  apply goBedDecode_eq hF hP f g fuel _ .eof hfuel
  intro l hl
  have hsl := Bed.scanLines_file (fun b => joinWith TAB ((Bed.allFields b).take N)) (fun _ => false) bs
    (fun b hb => Bed.line_noNL b N (hok b hb)) []
  simp only [Bed.lineEnd, Bool.false_eq_true, if_false, List.append_nil, Bed.scanLines_nil] at hsl
  simp only [textLines, hsl, List.mem_map] at hl
  obtain ⟨b, hb, rfl⟩ := hl
  rw [show (9 : UInt8) = TAB from rfl, Bed.splitOn_line b N h3 (hok b hb)]
  exact parseSpec_written f g hf hg b N

end BedRd

end Bio.GoSrcLemmas

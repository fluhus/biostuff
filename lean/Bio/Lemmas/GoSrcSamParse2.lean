/-
  Under `AtoiModel`, `PFModel`, `HexModel` the parametrised specifications of `Bio.Lemmas.GoSrcSamParse1`
  agree with the model `Bio.Sam`: same verdict, same integers, and the Go tag map (an association list in
  INSERTION order) is the same finite map as the model's list sorted by name: `SameMap`.
-/
import Bio.Lemmas.GoSrcSamParse1
import Bio.Lemmas.Assoc
namespace Bio.GoSrcLemmas
open Bio Bio.GoRt Bio.Generated
namespace SamP
open BedRd (reqA AtoiModel)

/-! ## The assumed behaviour of the three library functions -/

/-- `strconv.ParseFloat(s, 64)` followed by `FormatFloat(·, 'e', -1, 64)` behaves as the model's float
normaliser `pf` (floats are their canonical texts): the canonical text and no error where `pf`
accepts, an error (any error, any value) where it rejects. -/
structure PFModel (g : Bytes → Int → Bytes × GoErr) (pf : Bytes → Option Bytes) : Prop where
  ok : ∀ s t, pf s = some t → g s 64 = (t, GoErr.nil)
  bad : ∀ s, pf s = none → (g s 64).2 ≠ GoErr.nil

/-- `hex.DecodeString` behaves as the model's `hexDec`. -/
structure HexModel (h : Bytes → Bytes × GoErr) : Prop where
  ok : ∀ s v, hexDec s = some v → h s = (v, GoErr.nil)
  bad : ∀ s, hexDec s = none → (h s).2 ≠ GoErr.nil

/-- a float normaliser as a Go function -/
def pfP (pf : Bytes → Option Bytes) (s : Bytes) (_bits : Int) : Bytes × GoErr :=
  match pf s with
  | some t => (t, GoErr.nil)
  | none => ([], GoErr.other)

/-- the model's `hexDec` as a Go function -/
def hexP (s : Bytes) : Bytes × GoErr :=
  match hexDec s with
  | some v => (v, GoErr.nil)
  | none => ([], GoErr.other)

theorem pfP_model (pf : Bytes → Option Bytes) : PFModel (pfP pf) pf :=
  ⟨fun s t h => by simp [pfP, h], fun s h => by simp [pfP, h]⟩

theorem hexP_model : HexModel hexP :=
  ⟨fun s v h => by simp [hexP, h], fun s h => by simp [hexP, h]⟩

theorem reqP_of_model {g pf} (h : PFModel g pf) : reqP g = pf :=
  BedRd.req_of_model (f := fun s => g s 64) h.ok h.bad

theorem reqH_of_model {h} (hh : HexModel h) : reqH h = hexDec := BedRd.req_of_model hh.ok hh.bad

/-! ## `parseInts` -/

theorem intsSpec_ok {f} (hf : AtoiModel f) (strs : List Bytes) (p vs : List Int) (hl : strs.length = p.length)
    (h : strs.mapM atoi = some vs) : intsSpec f strs p = (GoErr.nil, vs) := by
  induction strs generalizing p vs with
  | nil =>
    cases p with
    | nil => simp at h; subst h; rfl
    | cons x p => simp at hl
  | cons s strs ih =>
    cases p with
    | nil => simp at hl
    | cons x p =>
      simp only [List.mapM_cons, Option.bind_eq_bind, Option.pure_def] at h
      cases ha : atoi s with
      | none => simp [ha] at h
      | some v =>
        cases hm : strs.mapM atoi with
        | none => simp [ha, hm] at h
        | some vs' =>
          simp [ha, hm] at h
          subst h
          simp [intsSpec, hf.ok s v ha, ih p vs' (by simpa using hl) hm]

theorem intsSpec_bad {f} (hf : AtoiModel f) (strs : List Bytes) (p vs : List Int) (i : Nat) (s : Bytes)
    (hl : strs.length = p.length) (hpre : (strs.take i).mapM atoi = some vs) (hs : strs[i]? = some s)
    (hbad : atoi s = none) :
    intsSpec f strs p = ((f s).2, vs ++ p.drop i) ∧ (f s).2 ≠ GoErr.nil := by
  refine ⟨?_, hf.bad s hbad⟩
  induction strs generalizing p vs i with
  | nil => simp at hs
  | cons s0 strs ih =>
    cases p with
    | nil => simp at hl
    | cons x p =>
      cases i with
      | zero =>
        simp at hs hpre
        subst hs; subst hpre
        simp [intsSpec, hf.bad s0 hbad]
      | succ i =>
        simp only [List.take_succ_cons, List.mapM_cons, Option.bind_eq_bind, Option.pure_def] at hpre
        simp only [List.getElem?_cons_succ] at hs
        cases ha : atoi s0 with
        | none => simp [ha] at hpre
        | some v =>
          cases hm : (strs.take i).mapM atoi with
          | none => simp [ha, hm] at hpre
          | some vs' =>
            simp [ha, hm] at hpre
            subst hpre
            simp [intsSpec, hf.ok s0 v ha, ih p vs' i (by simpa using hl) hm hs]

/-! ## The Go map (insertion order) and the model's sorted list -/

/-- `r` (the Go map: an association list in insertion order) and `m` (the model's list) are the same
finite map: same lookups, the keys of `r` are distinct, and `r` is a permutation of `m`. -/
def SameMap (r m : Sam.Tags) : Prop :=
  (∀ name, (r.find? (·.1 == name)).map (·.2) = (m.find? (·.1 == name)).map (·.2))
  ∧ r.Pairwise (fun a b => a.1 ≠ b.1)
  ∧ r.Perm m

theorem sameMap_of_perm_sorted {r m : Sam.Tags} (hp : r.Perm m) (hs : Sam.SortedTags m) : SameMap r m := by
  have hd : Sam.DistinctTags r := hs.distinct.perm hp.symm
  exact ⟨fun name => Assoc.get_perm (List.pairwise_map.2 hd) hp name, hd, hp⟩

theorem mapRepl_perm (k : Bytes) (v : Sam.TagVal) (r : Sam.Tags) (hd : Sam.DistinctTags r)
    (ha : r.any (fun e => e.1 == k) = true) :
    (r.map fun e => if e.1 == k then (k, v) else e).Perm ((k, v) :: r.filter (fun e => e.1 != k)) := by
  induction r with
  | nil => simp at ha
  | cons e rest ih =>
    unfold Sam.DistinctTags at hd ih
    rw [List.pairwise_cons] at hd
    by_cases he : e.1 = k
    · have hb : (e.1 == k) = true := by simpa using he
      have hf : rest.filter (fun z => z.1 != k) = rest :=
        List.filter_eq_self.2 (fun z hz => by have := hd.1 z hz; rw [he] at this; simpa using Ne.symm this)
      have hm : (rest.map fun z => if z.1 == k then (k, v) else z) = rest := by
        conv => rhs; rw [← List.map_id rest]
        apply List.map_congr_left
        intro z hz
        have := hd.1 z hz; rw [he] at this
        have : (z.1 == k) = false := by simpa using Ne.symm this
        simp [this]
      simp only [List.map_cons, hb, if_true, hm]
      have hf2 : (e :: rest).filter (fun e => e.1 != k) = rest.filter (fun e => e.1 != k) :=
        List.filter_cons_of_neg (by simp [he])
      rw [hf2, hf]
    · have hb : (e.1 == k) = false := by simpa using he
      have ha' : rest.any (fun e => e.1 == k) = true := by simpa [hb] using ha
      have := ih hd.2 ha'
      simp only [List.map_cons, hb, Bool.false_eq_true, if_false]
      have hf : (e :: rest).filter (fun e => e.1 != k) = e :: rest.filter (fun e => e.1 != k) :=
        List.filter_cons_of_pos (by simpa using he)
      rw [hf]
      exact (List.Perm.cons _ this).trans (List.Perm.swap _ _ _)

/-- `m[k] = v` on the association list: the entry with the key, if any, is replaced -/
theorem mapSet_general (k : Bytes) (v : Sam.TagVal) (r : Sam.Tags) (hd : Sam.DistinctTags r) :
    (mapSet r k v).Perm ((k, v) :: r.filter (fun e => e.1 != k)) := by
  unfold mapSet
  by_cases ha : r.any (fun e => e.1 == k) = true
  · rw [if_pos ha]; exact mapRepl_perm k v r hd ha
  · rw [if_neg ha]
    have hf : r.filter (fun e => e.1 != k) = r := by
      apply List.filter_eq_self.2
      intro z hz
      simp only [List.any_eq_true, not_exists, not_and] at ha
      simpa using ha z hz
    rw [hf]
    exact List.perm_append_comm

/-- one insertion on both sides keeps "permutation of the sorted list" -/
theorem mapSet_tagInsert (k : Bytes) (v : Sam.TagVal) {r m : Sam.Tags} (hp : r.Perm m) (hs : Sam.SortedTags m) :
    (mapSet r k v).Perm (Sam.tagInsert k v m) ∧ Sam.SortedTags (Sam.tagInsert k v m) := by
  obtain ⟨h1, h2⟩ := Sam.tagInsert_general k v m hs
  have hd : Sam.DistinctTags r := hs.distinct.perm hp.symm
  exact ⟨(mapSet_general k v r hd).trans ((List.Perm.cons _ (hp.filter _)).trans h2.symm), h1⟩

/-- the insertion-order parser and the model's parser: same verdict, and the results are the same map -/
theorem tagsSpec_model (pf : Bytes → Option Bytes) (vs : List Bytes) (r m : Sam.Tags)
    (hp : r.Perm m) (hs : Sam.SortedTags m) :
    match Sam.parseTags pf vs m with
    | none => tagsSpec atoi pf hexDec vs r = none
    | some m' => ∃ r', tagsSpec atoi pf hexDec vs r = some r' ∧ r'.Perm m' ∧ Sam.SortedTags m' := by
  induction vs generalizing r m with
  | nil => exact ⟨r, rfl, hp, hs⟩
  | cons fld rest ih =>
    rw [Sam.parseTags, tagsSpec, tagStep, tagValSpec_model]
    cases Sam.splitTag fld with
    | none => rfl
    | some t =>
      obtain ⟨n, ty, v⟩ := t
      dsimp only
      cases Sam.parseTagVal pf ty v with
      | none => rfl
      | some tv =>
        obtain ⟨h1, h2⟩ := mapSet_tagInsert n tv hp hs
        exact ih _ _ h1 h2

theorem tagsSpec_of_models {h f g pf} (hf : AtoiModel f) (hg : PFModel g pf) (hh : HexModel h) :
    tagsSpec (reqA f) (reqP g) (reqH h) = tagsSpec atoi pf hexDec := by
  rw [BedRd.reqA_of_model hf, reqP_of_model hg, reqH_of_model hh]

theorem tagsSpec_model_nil (pf : Bytes → Option Bytes) (vs : List Bytes) :
    match Sam.parseTags pf vs [] with
    | none => tagsSpec atoi pf hexDec vs [] = none
    | some m => ∃ r, tagsSpec atoi pf hexDec vs [] = some r ∧ r.Perm m ∧ Sam.SortedTags m :=
  tagsSpec_model pf vs [] [] (List.Perm.refl _) List.Pairwise.nil

/-! ## The tag texts depend on the finite map only -/

theorem sortBytes_eq_of_perm {l l' : List Bytes} (h : l.Perm l') : sortBytes l = sortBytes l' := by
  apply List.Perm.eq_of_pairwise (le := fun a b => bytesLe a b = true)
  · intro a b _ _ hab hba; exact bytesLe_antisymm hab hba
  · exact sortBytes_sorted l
  · exact sortBytes_sorted l'
  · exact (sortBytes_perm l).trans (h.trans (sortBytes_perm l').symm)

theorem tagsToText_perm {r m : Sam.Tags} (h : r.Perm m) : Sam.tagsToText r = Sam.tagsToText m :=
  sortBytes_eq_of_perm (h.map _)

/-! ## `parseLine` -/

theorem lineSpec_model {h f g pf} (hf : AtoiModel f) (hg : PFModel g pf) (hh : HexModel h) (line : List Bytes) :
    match Sam.parseLine pf line with
    | some s => ∃ r, lineSpec h f g line = (some (tupleOf s r), GoErr.nil) ∧ r.Perm s.tags ∧ Sam.SortedTags s.tags
    | none => ∃ e, e ≠ GoErr.nil ∧ lineSpec h f g line = (none, e) := by
  by_cases hn : line.length < 11
  · rw [Sam.parseLine_too_few pf line hn]
    exact ⟨GoErr.other, by decide, lineSpec_too_few h f g hn⟩
  · obtain ⟨qn, fl, rn, po, mq, cg, rx, pn, tl, sq, ql, tagFields, rfl⟩ := Sam.exists_cons11 (Nat.le_of_not_lt hn)
    unfold Sam.parseLine lineSpec
    simp only
    rw [tagsSpec_of_models hf hg hh]
    cases h1 : atoi fl with
    | none => exact ⟨(f fl).2, hf.bad fl h1, by simp [intsSpec, hf.bad fl h1]⟩
    | some v1 =>
    cases h2 : atoi po with
    | none => exact ⟨(f po).2, hf.bad po h2, by simp [intsSpec, hf.ok fl v1 h1, hf.bad po h2]⟩
    | some v2 =>
    cases h3 : atoi mq with
    | none => exact ⟨(f mq).2, hf.bad mq h3, by simp [intsSpec, hf.ok fl v1 h1, hf.ok po v2 h2, hf.bad mq h3]⟩
    | some v3 =>
    cases h4 : atoi pn with
    | none =>
      exact ⟨(f pn).2, hf.bad pn h4, by
        simp [intsSpec, hf.ok fl v1 h1, hf.ok po v2 h2, hf.ok mq v3 h3, hf.bad pn h4]⟩
    | some v4 =>
    cases h5 : atoi tl with
    | none =>
      exact ⟨(f tl).2, hf.bad tl h5, by
        simp [intsSpec, hf.ok fl v1 h1, hf.ok po v2 h2, hf.ok mq v3 h3, hf.ok pn v4 h4, hf.bad tl h5]⟩
    | some v5 =>
      have hi : intsSpec f [fl, po, mq, pn, tl] [0, 0, 0, 0, 0] = (GoErr.nil, [v1, v2, v3, v4, v5]) := by
        simp [intsSpec, hf.ok fl v1 h1, hf.ok po v2 h2, hf.ok mq v3 h3, hf.ok pn v4 h4, hf.ok tl v5 h5]
      simp only [hi, ne_eq, not_true_eq_false, if_false]
      have ht := tagsSpec_model_nil pf tagFields
      cases hm : Sam.parseTags pf tagFields [] with
      | none =>
        rw [hm] at ht
        simp only at ht
        rw [ht]
        exact ⟨GoErr.other, by decide, rfl⟩
      | some m =>
        rw [hm] at ht
        obtain ⟨r, hr, hp, hs⟩ := ht
        rw [hr]
        exact ⟨r, rfl, hp, hs⟩

end SamP
end Bio.GoSrcLemmas

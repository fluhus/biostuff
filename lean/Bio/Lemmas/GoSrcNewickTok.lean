/-
  `(*reader).nextToken` of formats/newick/newick.go, translated from the Go source text on every run
  into `Bio.Generated.GoSrc.newick_nextToken` (the labelled `for { }` loop bounded by `fuel`; the
  receiver's `*bufio.Reader` as a `ByteRd`, its `*bytes.Buffer` as the bytes written since `Reset`),
  IS the hand-written tokenizer `Newick.nextToken` of `Bio.Model.Newick`.

  The loop is a machine with three modes (`NwkTok.Mode`: skipping whitespace / inside a bare token /
  inside a quoted token).  `NwkTok.goTok` is the exact 4-tuple the Go code returns from a state (token,
  error, reader, buffer), `NwkTok.cost` the exact number of iterations it takes; `tok_step` says what one
  iteration does to both, and `newick_nextToken_char` follows by the fuel lemmas of `Bio.Lemmas.GoRt`.
  `sGo_agrees` relates the result to the model's `Tok`; `cost_rest` bounds the iterations by the bytes
  consumed, plus one.

  Guarded by the translator's `<f>_Found` flags as in `Bio.Lemmas.GoSrc`.
-/
import Bio.Generated.GoSrc
import Bio.Lemmas.GoRt
import Bio.Lemmas.Newick
set_option linter.unusedVariables false
namespace Bio.GoSrcLemmas
open Bio Bio.GoRt Bio.Generated Bio.Newick

namespace NwkTok

/-- what `nextToken` returns: token, error, and the receiver's fields `r.r`, `r.b` afterwards -/
abbrev Res := Bytes × GoErr × ByteRd × Bytes

/-- the mutable variables of the translated loop: pending `return`, `r.r`, `r.b`, `quote`,
`afterQuote`, the `break loop` flag -/
abbrev St := Option Res × ByteRd × Bytes × Bool × Bool × Bool

/-- one iteration of the translated loop (the body of `GoSrc.newick_nextToken`; the byte tests written
with the model's `QUOTE`, `isStruct`, `isWS`, which unfold to the literals of the code) -/
def goStep (s : St) : Option (ForInStep St) :=
  let rd := readByte s.2.1
  let b := rd.1
  let err := rd.2.1
  let r' := rd.2.2
  let buf := s.2.2.1
  let q := s.2.2.2.1
  let aq := s.2.2.2.2.1
  let d := s.2.2.2.2.2
  if err != GoErr.nil then
    if (err == GoErr.eof) && ((len buf) > 0) then
      some (.done (none, r', buf, q, aq, true))
    else some (.done (some ([], err, r', buf), r', buf, q, aq, d))
  else if q then
    if b == QUOTE then some (.yield (none, r', buf ++ [b], q, !aq, d))
    else if aq then some (.done (none, unreadByte r', buf, q, aq, true))
    else some (.yield (none, r', buf ++ [b], q, aq, d))
  else if b == QUOTE then
    if (len buf) > 0 then some (.done (some ([], GoErr.other, r', buf), r', buf, q, aq, d))
    else some (.yield (none, r', buf ++ [b], true, aq, d))
  else if isStruct b then
    if (len buf) > 0 then some (.done (none, unreadByte r', buf, q, aq, true))
    else some (.done (some ([b], GoErr.nil, r', buf), r', buf, q, aq, d))
  else if isWS b then
    if (len buf) > 0 then some (.done (none, r', buf, q, aq, true))
    else some (.yield (none, r', buf, q, aq, d))
  else some (.yield (none, r', buf ++ [b], q, aq, d))

/-- what follows the translated loop: a pending `return`, or `return r.b.String(), nil` after
`break loop` (out of fuel = `none`) -/
def fin (s : St) : Option Res :=
  match s.1 with
  | some r => some r
  | none => if s.2.2.2.2.2 = true then some (s.2.2.1, GoErr.nil, s.2.1, s.2.2.1) else none

/-! ### The loop as one machine with three modes -/

/-- `start`: nothing buffered, whitespace is skipped; `bare`: inside an unquoted token; `quoted aq`:
inside a quoted token, `aq` = the last byte was a quote (the code's `afterQuote`) -/
inductive Mode where
  | start
  | bare
  | quoted (aq : Bool)

/-- the machine's state: the mode, the buffer `r.b`, and the reader's `last` and remaining input -/
structure Cfg where
  m : Mode
  buf : Bytes
  last : Option UInt8
  x : Bytes

/-- the loop variables in the state `c` (of a source ending with `e`) -/
def Cfg.enc (e : Ending) (c : Cfg) : St :=
  match c.m with
  | .quoted aq => (none, ⟨c.last, c.x, e⟩, c.buf, true, aq, false)
  | _ => (none, ⟨c.last, c.x, e⟩, c.buf, false, false, false)

/-- the buffer is empty exactly in mode `start` -/
def Cfg.OK (c : Cfg) : Prop :=
  match c.m with
  | .start => c.buf = []
  | _ => c.buf ≠ []

/-- loop iterations (= `ReadByte` calls) still to make in mode `m` on the remaining input -/
def cost : Mode → Bytes → Nat
  | _, [] => 1
  | .quoted aq, b :: r =>
    if b == QUOTE then cost (.quoted !aq) r + 1 else if aq then 1 else cost (.quoted false) r + 1
  | .bare, b :: r =>
    if b == QUOTE then 1 else if isStruct b then 1 else if isWS b then 1 else cost .bare r + 1
  | .start, b :: r =>
    if b == QUOTE then cost (.quoted false) r + 1
    else if isStruct b then 1
    else if isWS b then cost .start r + 1
    else cost .bare r + 1

/-- what the Go code returns (token, error, `r.r`, `r.b`) in mode `m` with buffer `buf` on the remaining
input, exactly -/
def goTok (e : Ending) : Mode → Bytes → Bytes → Res
  | _, buf, [] =>
    if e = .eof ∧ buf ≠ [] then (buf, GoErr.nil, ⟨none, [], e⟩, buf)
    else ([], endErr e, ⟨none, [], e⟩, buf)
  | .quoted aq, buf, b :: r =>
    if b == QUOTE then goTok e (.quoted !aq) (buf ++ [b]) r
    else if aq then (buf, GoErr.nil, ⟨none, b :: r, e⟩, buf)
    else goTok e (.quoted false) (buf ++ [b]) r
  | .bare, buf, b :: r =>
    if b == QUOTE then ([], GoErr.other, ⟨some b, r, e⟩, buf)
    else if isStruct b then (buf, GoErr.nil, ⟨none, b :: r, e⟩, buf)
    else if isWS b then (buf, GoErr.nil, ⟨some b, r, e⟩, buf)
    else goTok e .bare (buf ++ [b]) r
  | .start, buf, b :: r =>
    if b == QUOTE then goTok e (.quoted false) (buf ++ [b]) r
    else if isStruct b then ([b], GoErr.nil, ⟨some b, r, e⟩, buf)
    else if isWS b then goTok e .start buf r
    else goTok e .bare (buf ++ [b]) r

/-- loop iterations `nextToken` makes on the remaining input `x` (= `ReadByte` calls) -/
abbrev sCost (x : Bytes) : Nat := cost .start x

/-- a whole call of `nextToken` on the remaining input `x` of a source ending with `e` -/
abbrev sGo (e : Ending) (x : Bytes) : Res := goTok e .start [] x

/-- the Go result `r` says what the model's `Tok` says (token, `nil`, exact remaining input /
`io.EOF` with nothing left / an error that is neither) -/
def Agrees (e : Ending) : Tok → Res → Prop
  | .tok t rest, r => r.1 = t ∧ r.2.1 = GoErr.nil ∧ r.2.2.1.rest = rest ∧ r.2.2.1.ending = e
  | .eof, r => r = ([], GoErr.eof, ⟨none, [], e⟩, [])
  | .err, r => r.1 = [] ∧ r.2.1 = GoErr.other ∧ r.2.2.1.ending = e

end NwkTok

open NwkTok

theorem nwk_len_pos (buf : Bytes) (h : buf ≠ []) : (len buf > 0) := by
  cases buf with
  | nil => exact absurd rfl h
  | cons a t => simp [len]

theorem nwk_snoc_ne (buf : Bytes) (b : UInt8) : buf ++ [b] ≠ [] := by simp

/-! ## One iteration -/

/-- One iteration from a state of the machine: it is the last one and leaves what `goTok` says, or it
leads to the next state, from where one iteration less is needed and `goTok` says the same. -/
theorem tok_step (e : Ending) (c : Cfg) (hc : c.OK) :
    (cost c.m c.x = 1 ∧ doneWith fin (goStep (c.enc e)) = some (goTok e c.m c.buf c.x)) ∨
    ∃ c' : Cfg, goStep (c.enc e) = some (.yield (c'.enc e)) ∧ c'.OK ∧ cost c.m c.x = cost c'.m c'.x + 1 ∧
      goTok e c'.m c'.buf c'.x = goTok e c.m c.buf c.x := by
  obtain ⟨m, buf, last, x⟩ := c
  cases x with
  | nil =>
    left
    cases m with
    | start =>
      cases (show buf = [] from hc)
      cases e <;> simp [cost, doneWith, goStep, fin, goTok, Cfg.enc, readByte, endErr, len]
    | bare =>
      have hp := nwk_len_pos buf hc
      have hb : buf ≠ [] := hc
      cases e <;> simp [cost, doneWith, goStep, fin, goTok, Cfg.enc, readByte, endErr, hp, hb]
    | quoted aq =>
      have hp := nwk_len_pos buf hc
      have hb : buf ≠ [] := hc
      cases e <;> simp [cost, doneWith, goStep, fin, goTok, Cfg.enc, readByte, endErr, hp, hb]
  | cons b r =>
    cases m with
    | quoted aq =>
      by_cases hq : (b == QUOTE) = true
      · exact Or.inr ⟨⟨.quoted !aq, buf ++ [b], some b, r⟩,
          by simp [goStep, Cfg.enc, readByte, hq], nwk_snoc_ne buf b, by simp [cost, hq],
          by simp [goTok, hq]⟩
      · cases aq with
        | true =>
          exact Or.inl ⟨by simp [cost, hq],
            by simp [doneWith, goStep, fin, goTok, Cfg.enc, readByte, unreadByte, hq]⟩
        | false =>
          exact Or.inr ⟨⟨.quoted false, buf ++ [b], some b, r⟩,
            by simp [goStep, Cfg.enc, readByte, hq], nwk_snoc_ne buf b, by simp [cost, hq],
            by simp [goTok, hq]⟩
    | bare =>
      have hp := nwk_len_pos buf hc
      by_cases hq : (b == QUOTE) = true
      · exact Or.inl ⟨by simp [cost, hq], by simp [doneWith, goStep, fin, goTok, Cfg.enc, readByte, hq, hp]⟩
      by_cases hs : isStruct b = true
      · exact Or.inl ⟨by simp [cost, hq, hs],
          by simp [doneWith, goStep, fin, goTok, Cfg.enc, readByte, unreadByte, hq, hs, hp]⟩
      by_cases hw : isWS b = true
      · exact Or.inl ⟨by simp [cost, hq, hs, hw],
          by simp [doneWith, goStep, fin, goTok, Cfg.enc, readByte, hq, hs, hw, hp]⟩
      · exact Or.inr ⟨⟨.bare, buf ++ [b], some b, r⟩,
          by simp [goStep, Cfg.enc, readByte, hq, hs, hw], nwk_snoc_ne buf b, by simp [cost, hq, hs, hw],
          by simp [goTok, hq, hs, hw]⟩
    | start =>
      cases (show buf = [] from hc)
      by_cases hq : (b == QUOTE) = true
      · exact Or.inr ⟨⟨.quoted false, [b], some b, r⟩,
          by simp [goStep, Cfg.enc, readByte, hq, len], nwk_snoc_ne [] b, by simp [cost, hq],
          by simp [goTok, hq]⟩
      by_cases hs : isStruct b = true
      · exact Or.inl ⟨by simp [cost, hq, hs],
          by simp [doneWith, goStep, fin, goTok, Cfg.enc, readByte, hq, hs, len]⟩
      by_cases hw : isWS b = true
      · exact Or.inr ⟨⟨.start, [], some b, r⟩,
          by simp [goStep, Cfg.enc, readByte, hq, hs, hw, len], rfl, by simp [cost, hq, hs, hw],
          by simp [goTok, hq, hs, hw]⟩
      · exact Or.inr ⟨⟨.bare, [b], some b, r⟩,
          by simp [goStep, Cfg.enc, readByte, hq, hs, hw], nwk_snoc_ne [] b, by simp [cost, hq, hs, hw],
          by simp [goTok, hq, hs, hw]⟩

theorem cost_pos (m : Mode) (x : Bytes) : 0 < cost m x := by
  cases x with
  | nil => simp [cost]
  | cons b r => cases m <;> simp only [cost] <;> (repeat' split) <;> omega

/-- the translated function is the loop `goStep` from the machine's start state, followed by `fin` -/
theorem newick_nextToken_unfold (hF : GoSrc.newick_nextToken_Found = true) (fuel : Nat)
    (last : Option UInt8) (x : Bytes) (e : Ending) (rb : Bytes) :
    GoSrc.newick_nextToken fuel ⟨last, x, e⟩ rb =
      (forIn (List.range fuel) (Cfg.enc e ⟨.start, [], last, x⟩) (fun _ s => goStep s)).bind fin := by
  first
  | exact absurd hF (by decide)
  | (unfold GoSrc.newick_nextToken
     simp only [Option.pure_def, Option.bind_eq_bind]
     exact Option.bind_congr fun s _ => by rcases s with ⟨_ | r, rr, buf, q, aq, _ | _⟩ <;> rfl)

/-- the translated `nextToken`, exactly: it returns `sGo e x` with `sCost x` iterations, and is out of
fuel (`none`, no claim) with fewer -/
theorem newick_nextToken_char (hF : GoSrc.newick_nextToken_Found = true) (fuel : Nat)
    (last : Option UInt8) (x : Bytes) (e : Ending) (rb : Bytes) :
    GoSrc.newick_nextToken fuel ⟨last, x, e⟩ rb = if sCost x ≤ fuel then some (sGo e x) else none := by
  rw [newick_nextToken_unfold hF]
  by_cases hf : sCost x ≤ fuel
  · rw [if_pos hf]
    exact forIn_fuel_le _ fin (Cfg.enc e) Cfg.OK (fun c => cost c.m c.x) (fun c => goTok e c.m c.buf c.x)
      (fun c _ => cost_pos c.m c.x)
      (fun _ c hc => (tok_step e c hc).imp (·.2) fun ⟨c', h1, h2, h3, h4⟩ => ⟨c', h1, h2, by omega, h4⟩)
      (List.range fuel) ⟨.start, [], last, x⟩ rfl (by rw [List.length_range]; exact hf)
  · rw [if_neg hf]
    exact forIn_fuel_short _ fin (Cfg.enc e) Cfg.OK (fun c => cost c.m c.x)
      (fun ⟨m, _, _, _⟩ _ => by cases m <;> rfl)
      (fun _ c hc => (tok_step e c hc).imp (fun h => Nat.le_of_eq h.1)
        fun ⟨c', h1, h2, h3, _⟩ => ⟨c', h1, h2, Nat.le_of_eq h3⟩)
      (List.range fuel) ⟨.start, [], last, x⟩ rfl (by rw [List.length_range]; exact Nat.lt_of_not_le hf)

theorem newick_nextToken_eq (hF : GoSrc.newick_nextToken_Found = true) (fuel : Nat)
    (last : Option UInt8) (x : Bytes) (e : Ending) (rb : Bytes) (hf : sCost x ≤ fuel) :
    GoSrc.newick_nextToken fuel ⟨last, x, e⟩ rb = some (sGo e x) := by
  rw [newick_nextToken_char hF, if_pos hf]

theorem newick_nextToken_short (hF : GoSrc.newick_nextToken_Found = true) (fuel : Nat)
    (last : Option UInt8) (x : Bytes) (e : Ending) (rb : Bytes) (hf : fuel < sCost x) :
    GoSrc.newick_nextToken fuel ⟨last, x, e⟩ rb = none := by
  rw [newick_nextToken_char hF, if_neg (Nat.not_le_of_lt hf)]

/-- neither `last` nor the buffer the call is given matter: the first iteration reads (which sets
`last`) before anything can be unread, and the buffer is reset -/
theorem newick_nextToken_indep (hF : GoSrc.newick_nextToken_Found = true) (fuel : Nat) (x : Bytes)
    (e : Ending) (l1 l2 : Option UInt8) (rb1 rb2 : Bytes) :
    GoSrc.newick_nextToken fuel ⟨l1, x, e⟩ rb1 = GoSrc.newick_nextToken fuel ⟨l2, x, e⟩ rb2 := by
  rw [newick_nextToken_char hF, newick_nextToken_char hF]

/-! ## Fuel: the iterations needed -/

/-- the iterations made and the input left unread add up to at most the input and one (the failed
`ReadByte` at the end, or the byte put back by `UnreadByte`) -/
theorem cost_rest (e : Ending) (x : Bytes) : ∀ (m : Mode) (buf : Bytes),
    cost m x + (goTok e m buf x).2.2.1.rest.length ≤ x.length + 1 := by
  induction x with
  | nil => intro m buf; simp only [cost, goTok]; split <;> simp
  | cons b r ih =>
    intro m buf
    cases m with
    | quoted aq =>
      simp only [cost, goTok, List.length_cons]
      split
      · have := ih (.quoted !aq) (buf ++ [b]); omega
      · split
        · simp; omega
        · have := ih (.quoted false) (buf ++ [b]); omega
    | bare =>
      simp only [cost, goTok, List.length_cons]
      split
      · simp; omega
      · split
        · simp; omega
        · split
          · simp; omega
          · have := ih .bare (buf ++ [b]); omega
    | start =>
      simp only [cost, goTok, List.length_cons]
      split
      · have := ih (.quoted false) (buf ++ [b]); omega
      · split
        · simp; omega
        · split
          · have := ih .start buf; omega
          · have := ih .bare (buf ++ [b]); omega

theorem sCost_le (x : Bytes) : sCost x ≤ x.length + 1 :=
  Nat.le_trans (Nat.le_add_right _ _) (cost_rest .eof x .start [])

theorem cost_bare_clean (x : Bytes) (h : Clean x) : cost .bare x = x.length + 1 := by
  induction x with
  | nil => rfl
  | cons b r ih =>
    have hb := h b (by simp)
    simp [cost, QUOTE, hb.1, hb.2.1, hb.2.2, ih fun c hc => h c (by simp [hc])]

/-- a token of ordinary bytes that runs to the end of the input costs one iteration more than it
has bytes (the failed `ReadByte`) -/
theorem sCost_clean (x : Bytes) (h : Clean x) : sCost x = x.length + 1 := by
  cases x with
  | nil => rfl
  | cons b r =>
    have hb := h b (by simp)
    simp [cost, QUOTE, hb.1, hb.2.1, hb.2.2, cost_bare_clean r fun c hc => h c (by simp [hc])]

/-! ## The Go result against the model's `Tok` -/

theorem goTok_quoted (e : Ending) (x : Bytes) : ∀ (aq : Bool) (buf : Bytes), buf ≠ [] →
    Agrees e (match quotedTail e aq x with | some p => .tok (buf ++ p.1) p.2 | none => .err)
      (goTok e (.quoted aq) buf x) := by
  induction x with
  | nil => intro aq buf hb; cases e <;> simp [quotedTail, goTok, Agrees, hb, endErr]
  | cons b r ih =>
    intro aq buf hb
    by_cases hq : (b == QUOTE) = true
    · have := ih (!aq) (buf ++ [b]) (by simp)
      simp only [quotedTail, goTok, hq, if_true]
      cases h : quotedTail e (!aq) r <;> simp only [h] at this <;> simpa [Agrees] using this
    · cases aq with
      | true => simp [quotedTail, goTok, hq, Agrees]
      | false =>
        have := ih false (buf ++ [b]) (by simp)
        simp only [quotedTail, goTok, hq, if_false, Bool.false_eq_true]
        cases h : quotedTail e false r <;> simp only [h] at this <;> simpa [Agrees] using this

theorem goTok_bare (e : Ending) (x : Bytes) : ∀ buf : Bytes, buf ≠ [] →
    Agrees e (match bareTail e x with | some (some p) => .tok (buf ++ p.1) p.2 | _ => .err)
      (goTok e .bare buf x) := by
  induction x with
  | nil => intro buf hb; cases e <;> simp [bareTail, goTok, Agrees, hb, endErr]
  | cons b r ih =>
    intro buf hb
    by_cases hq : (b == QUOTE) = true
    · simp [bareTail, goTok, hq, Agrees]
    by_cases hs : isStruct b = true
    · simp [bareTail, goTok, hq, hs, Agrees]
    by_cases hw : isWS b = true
    · simp [bareTail, goTok, hq, hs, hw, Agrees]
    · have := ih (buf ++ [b]) (by simp)
      simp only [bareTail, goTok, hq, hs, hw, if_false, Bool.false_eq_true]
      cases h : bareTail e r with
      | none => simp only [h] at this ⊢; exact this
      | some o =>
        cases o with
        | none => simp only [h] at this ⊢; exact this
        | some q => simp only [h] at this ⊢; simpa using this

theorem sGo_agrees (e : Ending) (x : Bytes) : Agrees e (nextToken e x) (sGo e x) := by
  induction x with
  | nil => cases e <;> simp [nextToken, goTok, Agrees, endErr]
  | cons b r ih =>
    by_cases hq : (b == QUOTE) = true
    · have := goTok_quoted e r false [b] (by simp)
      simp only [nextToken, goTok, hq, if_true, List.nil_append]
      cases h : quotedTail e false r <;> simp only [h] at this ⊢ <;> exact this
    by_cases hs : isStruct b = true
    · simp [nextToken, goTok, hq, hs, Agrees]
    by_cases hw : isWS b = true
    · simp only [nextToken, goTok, hq, hs, hw, if_false, if_true, Bool.false_eq_true]
      exact ih
    · have := goTok_bare e r [b] (by simp)
      simp only [nextToken, goTok, hq, hs, hw, if_false, Bool.false_eq_true, List.nil_append]
      cases h : bareTail e r with
      | none => simp only [h] at this ⊢; exact this
      | some o => cases o <;> simp only [h] at this ⊢ <;> exact this

/-- on a token, the loop makes at most (bytes consumed) + 1 iterations -/
theorem sCost_tight (e : Ending) (x t rest : Bytes) (h : nextToken e x = .tok t rest) :
    sCost x + rest.length ≤ x.length + 1 := by
  have ha := sGo_agrees e x
  rw [h] at ha
  rw [← ha.2.2.1]
  exact cost_rest e x .start []

/-! ## The translated function against the model -/

/-- the translated `nextToken` against the model's: the token and exactly the model's remaining
input / `io.EOF` with nothing left / an error that is neither `nil` nor `io.EOF` -/
theorem newick_nextToken_model (hF : GoSrc.newick_nextToken_Found = true) (x : Bytes) (e : Ending)
    (last : Option UInt8) (rb : Bytes) (fuel : Nat) (hf : sCost x ≤ fuel) :
    match nextToken e x with
    | .tok t rest => ∃ last' rb', GoSrc.newick_nextToken fuel ⟨last, x, e⟩ rb
        = some (t, GoErr.nil, ⟨last', rest, e⟩, rb')
    | .eof => GoSrc.newick_nextToken fuel ⟨last, x, e⟩ rb = some ([], GoErr.eof, ⟨none, [], e⟩, [])
    | .err => ∃ last' rest' rb', GoSrc.newick_nextToken fuel ⟨last, x, e⟩ rb
        = some ([], GoErr.other, ⟨last', rest', e⟩, rb') := by
  rw [newick_nextToken_eq hF fuel last x e rb hf]
  have h := sGo_agrees e x
  generalize sGo e x = r at h
  obtain ⟨t', err, ⟨l', rest', e'⟩, rb'⟩ := r
  cases hn : nextToken e x with
  | eof => simp only [hn, Agrees] at h; simp [h]
  | err =>
    simp only [hn, Agrees] at h
    obtain ⟨h1, h2, h3⟩ := h
    subst h1 h2 h3
    exact ⟨l', rest', rb', rfl⟩
  | tok t rest =>
    simp only [hn, Agrees] at h
    obtain ⟨h1, h2, h3, h4⟩ := h
    subst h1 h2 h3 h4
    exact ⟨l', rb', rfl⟩

/-! ## The token stream -/

namespace NwkTok

/-- the model's token stream: `Newick.nextToken` iterated on what it leaves, until it reports the
end of the input (`io.EOF`) or an error; the tokens and how the stream ended -/
def modelTokens (e : Ending) (x : Bytes) : List Bytes × GoErr :=
  match h : nextToken e x with
  | .eof => ([], GoErr.eof)
  | .err => ([], GoErr.other)
  | .tok t rest =>
    have : rest.length < x.length := nextToken_lt e x t rest h
    (t :: (modelTokens e rest).1, (modelTokens e rest).2)
termination_by x.length

/-- the translated `nextToken` called again and again on the same receiver (the reader state and the
buffer `r.b` are carried from call to call, as `read()` does), at most `calls` times, each call
with `fuel` loop iterations: the tokens, and the error that ended the stream (`none` = a call
panicked / ran out of fuel, or `calls` calls did not reach the end) -/
def goLoop (fuel : Nat) : Nat → ByteRd → Bytes → Option (List Bytes × GoErr)
  | 0, _, _ => none
  | calls + 1, r, rb =>
    match GoSrc.newick_nextToken fuel r rb with
    | none => none
    | some (t, err, r', rb') =>
      if err = GoErr.nil then (goLoop fuel calls r' rb').map fun p => (t :: p.1, p.2)
      else some ([], err)

/-- … started on a fresh reader over the input `x` of a source ending with `e` (`newReader`) -/
def goTokens (fuel : Nat) (e : Ending) (x : Bytes) : Option (List Bytes × GoErr) :=
  goLoop fuel fuel ⟨none, x, e⟩ []

end NwkTok

theorem modelTokens_eq (e : Ending) (x : Bytes) :
    modelTokens e x = match nextToken e x with
      | .eof => ([], GoErr.eof)
      | .err => ([], GoErr.other)
      | .tok t rest => (t :: (modelTokens e rest).1, (modelTokens e rest).2) := by
  rw [modelTokens]
  split <;> simp [*]

theorem goLoop_model (hF : GoSrc.newick_nextToken_Found = true) (e : Ending) (fuel : Nat) :
    ∀ (calls : Nat) (x : Bytes) (last : Option UInt8) (rb : Bytes),
      x.length + 1 ≤ calls → x.length + 1 ≤ fuel →
      goLoop fuel calls ⟨last, x, e⟩ rb = some (modelTokens e x) := by
  intro calls
  induction calls with
  | zero => intro x last rb h; omega
  | succ n ih =>
    intro x last rb hc hf
    have hm := newick_nextToken_model hF x e last rb fuel (Nat.le_trans (sCost_le x) hf)
    rw [modelTokens_eq]
    cases hn : nextToken e x with
    | eof => simp only [hn] at hm; simp [goLoop, hm]
    | err =>
      simp only [hn] at hm
      obtain ⟨l', r', rb', hm⟩ := hm
      simp [goLoop, hm]
    | tok t rest =>
      simp only [hn] at hm
      obtain ⟨l', rb', hm⟩ := hm
      have hlt := nextToken_lt e x t rest hn
      simp [goLoop, hm, ih rest l' rb' (by omega) (by omega)]

end Bio.GoSrcLemmas

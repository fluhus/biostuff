/-
  Helper lemmas about the FASTA model (`Bio/Model/Fasta.lean`): the writer's
  line wrapping, the reader's byte machine `loop`, and `decodeSrc`.
-/
import Bio.Model.Fasta
namespace Bio.Fasta

/-! ## `wrap` -/

theorem wrap_nil (w : Nat) : wrap w [] = [] := by
  rw [wrap]; simp

theorem wrap_cons_eq (w : Nat) (hw : 0 < w) (s : Bytes) (hs : s ≠ []) :
    wrap w s = s.take w :: wrap w (s.drop w) := by
  rw [wrap]
  have : ¬ (s = [] ∨ w = 0) := by
    intro h; cases h with
    | inl h => exact hs h
    | inr h => omega
  simp [this]

theorem wrap_ind (w : Nat) (hw : 0 < w) {P : Bytes → Prop} (h0 : P [])
    (hstep : ∀ s : Bytes, s ≠ [] → P (s.drop w) → P s) : ∀ s, P s := by
  intro s
  induction s using wrap.induct w with
  | case1 s h =>
    rcases h with rfl | h
    · exact h0
    · omega
  | case2 s h ih => exact hstep s (fun e => h (Or.inl e)) ih

theorem wrap_flatten (w : Nat) (hw : 0 < w) (s : Bytes) : (wrap w s).flatten = s := by
  induction s using wrap_ind w hw with
  | h0 => simp [wrap_nil]
  | hstep s hs this =>
    · rw [wrap_cons_eq w hw s hs]
      simp [this]

theorem wrap_mem_length (w : Nat) (hw : 0 < w) (s : Bytes) :
    ∀ l ∈ wrap w s, 0 < l.length ∧ l.length ≤ w := by
  induction s using wrap_ind w hw with
  | h0 => simp [wrap_nil]
  | hstep s hs this =>
    · rw [wrap_cons_eq w hw s hs]
      have hpos : 0 < s.length := List.length_pos_iff.mpr hs
      intro l hl
      rcases List.mem_cons.mp hl with rfl | hl
      · simp [List.length_take]; omega
      · exact this l hl

theorem wrap_dropLast_length (w : Nat) (hw : 0 < w) (s : Bytes) :
    ∀ l ∈ (wrap w s).dropLast, l.length = w := by
  induction s using wrap_ind w hw with
  | h0 => simp [wrap_nil]
  | hstep s hs this =>
    · rw [wrap_cons_eq w hw s hs]
      have hpos : 0 < s.length := List.length_pos_iff.mpr hs
      by_cases hd : s.drop w = []
      · rw [hd, wrap_nil]; simp
      · intro l hl
        have hne : wrap w (s.drop w) ≠ [] := by
          rw [wrap_cons_eq w hw _ hd]; simp
        rw [List.dropLast_cons_of_ne_nil hne] at hl
        rcases List.mem_cons.mp hl with rfl | hl
        · have : w < s.length := by
            have := List.length_pos_iff.mpr hd
            simp [List.length_drop] at this; omega
          simp [List.length_take]; omega
        · exact this l hl

theorem wrap_mem_subset (w : Nat) (hw : 0 < w) (s : Bytes) :
    ∀ l ∈ wrap w s, ∀ b ∈ l, b ∈ s := by
  intro l hl b hb
  have h := wrap_flatten w hw s
  rw [← h]
  exact List.mem_flatten.mpr ⟨l, hl, hb⟩

theorem wrap_length (w : Nat) (hw : 0 < w) (s : Bytes) :
    (wrap w s).length = (s.length + w - 1) / w := by
  induction s using wrap_ind w hw with
  | h0 =>
    simp only [wrap_nil, List.length_nil, Nat.zero_add]
    exact (Nat.div_eq_of_lt (Nat.sub_lt hw Nat.one_pos)).symm
  | hstep s hs ih =>
    have hpos : 0 < s.length := List.length_pos_iff.mpr hs
    rw [wrap_cons_eq w hw s hs, List.length_cons, ih, List.length_drop,
      show s.length + w - 1 = (s.length - 1) + w by omega, Nat.add_div_right _ hw]
    congr 1
    by_cases hle : w ≤ s.length
    · rw [Nat.sub_add_cancel hle]
    · have hlt := Nat.lt_of_not_le hle
      rw [Nat.sub_eq_zero_of_le (Nat.le_of_lt hlt), Nat.zero_add,
        Nat.div_eq_of_lt (Nat.sub_lt hw Nat.one_pos), Nat.div_eq_of_lt (by omega)]

theorem wrap_getElem? (w : Nat) (hw : 0 < w) (k : Nat) : ∀ s : Bytes,
    (wrap w s)[k]? = if k * w < s.length then some ((s.drop (k * w)).take w) else none := by
  induction k with
  | zero =>
    intro s
    by_cases hs : s = []
    · subst hs; simp [wrap_nil]
    · rw [wrap_cons_eq w hw s hs]; simp [List.length_pos_iff.2 hs]
  | succ k ih =>
    intro s
    by_cases hs : s = []
    · subst hs; simp [wrap_nil]
    · rw [wrap_cons_eq w hw s hs, List.getElem?_cons_succ, ih, List.length_drop, List.drop_drop,
        Nat.succ_mul, Nat.add_comm w]
      by_cases hlt : k * w + w < s.length
      · rw [if_pos hlt, if_pos (by omega)]
      · rw [if_neg hlt, if_neg (by omega)]

/-- The lines of `wrap`, by their offsets (Go: `for i := 0; i < len; i += w`). -/
theorem wrap_eq_map_range (w : Nat) (hw : 0 < w) (s : Bytes) :
    wrap w s = (List.range ((s.length + w - 1) / w)).map fun k => (s.drop (k * w)).take w := by
  rw [← wrap_length w hw s]
  apply List.ext_getElem?
  intro k
  rw [List.getElem?_map]
  by_cases hk : k < (wrap w s).length
  · rw [List.getElem?_range hk, wrap_getElem? w hw]
    split
    · rfl
    · rename_i hc
      have := wrap_getElem? w hw k s
      rw [if_neg hc, List.getElem?_eq_none_iff] at this
      omega
  · rw [List.getElem?_eq_none (by omega), List.getElem?_eq_none (by simpa using hk)]; rfl

theorem flatten_map_append_length (ls : List Bytes) :
    ((ls.map (· ++ [(10 : UInt8)])).flatten).length = ls.flatten.length + ls.length := by
  induction ls with
  | nil => simp
  | cons l ls ih => simp [ih]; omega

/-! ## The byte machine `loop` -/

theorem isNL_iff (b : UInt8) : isNL b = true ↔ (b = 10 ∨ b = 13) := by
  simp [isNL]

theorem isNL_false_iff (b : UInt8) : isNL b = false ↔ (b ≠ 10 ∧ b ≠ 13) := by
  simp [isNL]

@[simp] theorem loop_nil (st : St) : loop st [] = ([], [], []) := by
  cases st <;> simp [loop]

theorem loop_cons_nl (st : St) (b : UInt8) (rest : Bytes) (h : isNL b = true) :
    loop st (b :: rest) = loop .newline rest := by
  cases st <;> simp [loop, h]

theorem loop_cons_seq (b : UInt8) (rest : Bytes) (h : isNL b = false) :
    loop .seq (b :: rest) = ((loop .seq rest).1, b :: (loop .seq rest).2.1, (loop .seq rest).2.2) := by
  simp [loop, h]

theorem loop_cons_name (b : UInt8) (rest : Bytes) (h : isNL b = false) :
    loop .name (b :: rest) = (b :: (loop .name rest).1, (loop .name rest).2.1, (loop .name rest).2.2) := by
  simp [loop, h]

theorem loop_cons_gt (b : UInt8) (rest : Bytes) (h : isNL b = false) (hb : (b == 62) = true) :
    loop .newline (b :: rest) = ([], [], b :: rest) := by
  simp [loop, h, hb]

theorem loop_cons_other (b : UInt8) (rest : Bytes) (h : isNL b = false) (hb : (b == 62) = false) :
    loop .newline (b :: rest)
      = ((loop .seq rest).1, b :: (loop .seq rest).2.1, (loop .seq rest).2.2) := by
  simp [loop, h, hb]

/-- Induction along `loop`, with its value: end of input; a line break; a sequence byte; a name byte;
`'>'` at the start of a line (the loop stops in front of it); any other byte at the start of a line. -/
theorem loop_ind {P : St → Bytes → Bytes × Bytes × Bytes → Prop}
    (nil : ∀ st, P st [] ([], [], []))
    (nl : ∀ st b rest, isNL b = true → P .newline rest (loop .newline rest) →
      P st (b :: rest) (loop .newline rest))
    (seq : ∀ b rest, isNL b = false → P .seq rest (loop .seq rest) →
      P .seq (b :: rest) ((loop .seq rest).1, b :: (loop .seq rest).2.1, (loop .seq rest).2.2))
    (name : ∀ b rest, isNL b = false → P .name rest (loop .name rest) →
      P .name (b :: rest) (b :: (loop .name rest).1, (loop .name rest).2.1, (loop .name rest).2.2))
    (gt : ∀ b rest, isNL b = false → (b == 62) = true → P .newline (b :: rest) ([], [], b :: rest))
    (other : ∀ b rest, isNL b = false → (b == 62) = false → P .seq rest (loop .seq rest) →
      P .newline (b :: rest) ((loop .seq rest).1, b :: (loop .seq rest).2.1, (loop .seq rest).2.2))
    (st : St) (x : Bytes) : P st x (loop st x) := by
  induction x generalizing st with
  | nil => rw [loop_nil]; exact nil st
  | cons b rest ih =>
    cases hnl : isNL b with
    | true => rw [loop_cons_nl st b rest hnl]; exact nl st b rest hnl (ih _)
    | false =>
      cases st with
      | seq => rw [loop_cons_seq b rest hnl]; exact seq b rest hnl (ih _)
      | name => rw [loop_cons_name b rest hnl]; exact name b rest hnl (ih _)
      | newline =>
        cases hb : b == 62 with
        | true => rw [loop_cons_gt b rest hnl hb]; exact gt b rest hnl hb
        | false => rw [loop_cons_other b rest hnl hb]; exact other b rest hnl hb (ih _)

theorem loop_suffix (st : St) (x : Bytes) : (loop st x).2.2 <:+ x := by
  induction st, x using loop_ind with
  | nil st => exact List.suffix_refl _
  | gt b rest => exact List.suffix_refl _
  | nl st b rest _ ih => exact ih.trans (List.suffix_cons _ _)
  | seq b rest _ ih => exact ih.trans (List.suffix_cons _ _)
  | name b rest _ ih => exact ih.trans (List.suffix_cons _ _)
  | other b rest _ _ ih => exact ih.trans (List.suffix_cons _ _)

theorem readOne_rest_lt (b : UInt8) (rest : Bytes) : (readOne b rest).2.length < (b :: rest).length :=
  Nat.lt_succ_of_le (loop_rest_le (startState b) rest)

/-- A (possibly empty, if nothing follows) run of line breaks brings the machine to
the `newline` state from any state. -/
theorem loop_sep (st : St) (sep rest : Bytes) (hsep : ∀ b ∈ sep, b = 10 ∨ b = 13)
    (hne : sep ≠ [] ∨ rest = []) : loop st (sep ++ rest) = loop .newline rest := by
  induction sep generalizing st with
  | nil =>
    rcases hne with h | h
    · exact absurd rfl h
    · subst h; simp
  | cons b sep ih =>
    have hb : isNL b = true := (isNL_iff b).mpr (hsep b (by simp))
    have hsep' : ∀ b ∈ sep, b = 10 ∨ b = 13 := fun c hc => hsep c (by simp [hc])
    rw [List.cons_append, loop_cons_nl st b _ hb]
    by_cases hs : sep = []
    · subst hs; simp
    · exact ih .newline hsep' (Or.inl hs)

theorem loop_name (n rest : Bytes) (hn : ∀ b ∈ n, b ≠ 10 ∧ b ≠ 13) :
    loop .name (n ++ rest) =
      (n ++ (loop .name rest).1, (loop .name rest).2.1, (loop .name rest).2.2) := by
  induction n with
  | nil => simp
  | cons b n ih =>
    rw [List.cons_append, loop_cons_name b _ ((isNL_false_iff b).mpr (hn b (by simp))),
      ih fun c hc => hn c (by simp [hc])]
    rfl

theorem loop_seq (s rest : Bytes) (hs : ∀ b ∈ s, b ≠ 10 ∧ b ≠ 13) :
    loop .seq (s ++ rest) =
      ((loop .seq rest).1, s ++ (loop .seq rest).2.1, (loop .seq rest).2.2) := by
  induction s with
  | nil => simp
  | cons b s ih =>
    rw [List.cons_append, loop_cons_seq b _ ((isNL_false_iff b).mpr (hs b (by simp))),
      ih fun c hc => hs c (by simp [hc])]
    rfl

/-- A non-empty chunk free of line breaks and not starting with `'>'`, read at the
beginning of a line. -/
theorem loop_newline_chunk (c rest : Bytes) (hc : c ≠ [])
    (hs : ∀ b ∈ c, b ≠ 10 ∧ b ≠ 13 ∧ b ≠ 62) :
    loop .newline (c ++ rest) =
      ((loop .seq rest).1, c ++ (loop .seq rest).2.1, (loop .seq rest).2.2) := by
  cases c with
  | nil => exact absurd rfl hc
  | cons b c =>
    have hb := hs b (by simp)
    rw [List.cons_append, loop_cons_other b _ ((isNL_false_iff b).mpr ⟨hb.1, hb.2.1⟩)
      (beq_eq_false_iff_ne.mpr hb.2.2),
      loop_seq c rest fun x hx => ⟨(hs x (by simp [hx])).1, (hs x (by simp [hx])).2.1⟩]
    rfl

theorem loop_newline_gt (rest : Bytes) : loop .newline (62 :: rest) = ([], [], 62 :: rest) :=
  loop_cons_gt 62 rest rfl rfl

/-- At the beginning of a line, end of data or a `'>'` closes the record. -/
theorem loop_newline_close (rest : Bytes) (h : rest = [] ∨ ∃ r, rest = 62 :: r) :
    loop .newline rest = ([], [], rest) := by
  rcases h with rfl | ⟨r, rfl⟩
  · simp
  · exact loop_newline_gt r

/-- Once `loop` has stopped before the end of its input (at a `'>'`), what follows
the input is irrelevant. -/
theorem loop_append (st : St) (y z : Bytes) (h : (loop st y).2.2 ≠ []) :
    loop st (y ++ z) = ((loop st y).1, (loop st y).2.1, (loop st y).2.2 ++ z) := by
  induction st, y using loop_ind with
  | nil st => exact absurd rfl h
  | gt b rest hnl hb => rw [List.cons_append, loop_cons_gt _ _ hnl hb]
  | nl st b rest hnl ih => rw [List.cons_append, loop_cons_nl _ _ _ hnl, ih h]
  | seq b rest hnl ih => rw [List.cons_append, loop_cons_seq _ _ hnl, ih h]
  | name b rest hnl ih => rw [List.cons_append, loop_cons_name _ _ hnl, ih h]
  | other b rest hnl hb ih => rw [List.cons_append, loop_cons_other _ _ hnl hb, ih h]

/-! ## Separators of a layout -/

/-- The separators `seps` (in file order) are acceptable in front of `rest`: they
consist of line-break bytes, all but the last are non-empty, and the last one may
be empty only if nothing follows. -/
def SepsOK (seps : List Bytes) (rest : Bytes) : Prop :=
  (∀ s ∈ seps, ∀ b ∈ s, b = 10 ∨ b = 13) ∧ (∀ s ∈ seps.dropLast, s ≠ []) ∧
    (rest = [] ∨ ∀ s ∈ seps, s ≠ [])

theorem SepsOK.tail {s : Bytes} {ss : List Bytes} {rest : Bytes} (h : SepsOK (s :: ss) rest) :
    SepsOK ss rest := by
  obtain ⟨h1, h2, h3⟩ := h
  refine ⟨fun t ht => h1 t (by simp [ht]), ?_, ?_⟩
  · intro t ht
    cases ss with
    | nil => simp at ht
    | cons u us =>
      apply h2 t
      rw [List.dropLast_cons_of_ne_nil (by simp)]
      simp [ht]
  · rcases h3 with h3 | h3
    · exact Or.inl h3
    · exact Or.inr (fun t ht => h3 t (by simp [ht]))

theorem SepsOK.head_ne {s : Bytes} {ss : List Bytes} {rest : Bytes} (h : SepsOK (s :: ss) rest) :
    s ≠ [] ∨ (ss = [] ∧ rest = []) := by
  obtain ⟨_, h2, h3⟩ := h
  cases ss with
  | nil =>
    rcases h3 with h3 | h3
    · exact Or.inr ⟨rfl, h3⟩
    · exact Or.inl (h3 s (by simp))
  | cons u us =>
    left
    apply h2 s
    rw [List.dropLast_cons_of_ne_nil (by simp)]
    simp

theorem SepsOK.head_nl {s : Bytes} {ss : List Bytes} {rest : Bytes} (h : SepsOK (s :: ss) rest) :
    ∀ b ∈ s, b = 10 ∨ b = 13 := h.1 s (by simp)

/-- Splitting the separators of a file into those of the first record (`a`) and the rest (`b`): all
of `a` but its last are non-empty; its last may be empty only if it is the last of the file, and
then nothing follows (`hb`). -/
theorem SepsOK.of_append {a b : List Bytes}
    (h1 : ∀ s ∈ a ++ b, ∀ c ∈ s, c = 10 ∨ c = 13) (h2 : ∀ s ∈ (a ++ b).dropLast, s ≠ [])
    (rest : Bytes) (hb : b = [] → rest = []) : SepsOK a rest := by
  refine ⟨fun s hs => h1 s (by simp [hs]), ?_, ?_⟩
  · intro s hs
    by_cases hb0 : b = []
    · subst hb0; exact h2 s (by simpa using hs)
    · rw [List.dropLast_append_of_ne_nil hb0] at h2
      exact h2 s (List.mem_append_left _ (List.dropLast_subset a hs))
  · by_cases hb0 : b = []
    · exact Or.inl (hb hb0)
    · rw [List.dropLast_append_of_ne_nil hb0] at h2
      exact Or.inr fun s hs => h2 s (by simp [hs])

theorem dropLast_append_right {a b : List Bytes} (hb : b ≠ [])
    (h2 : ∀ s ∈ (a ++ b).dropLast, s ≠ []) : ∀ s ∈ b.dropLast, s ≠ [] := by
  rw [List.dropLast_append_of_ne_nil hb] at h2
  exact fun s hs => h2 s (by simp [hs])

/-! ## Reading one laid-out record -/

/-- The body of a record: chunks (non-empty, free of line breaks and `'>'`), each
followed by its separator; then `rest`, which is empty or starts the next record. -/
theorem loop_chunks (cs : List (Bytes × Bytes)) (rest : Bytes)
    (hc : ∀ c ∈ cs, c.1 ≠ [] ∧ ∀ b ∈ c.1, b ≠ 10 ∧ b ≠ 13 ∧ b ≠ 62)
    (hs : SepsOK (cs.map (·.2)) rest) (hrest : rest = [] ∨ ∃ r, rest = 62 :: r) :
    loop .newline ((cs.map (fun c => c.1 ++ c.2)).flatten ++ rest) =
      ([], (cs.map (·.1)).flatten, rest) := by
  induction cs with
  | nil => simpa using loop_newline_close rest hrest
  | cons c cs ih =>
    have hc0 := hc c (by simp)
    have ih' := ih (fun d hd => hc d (by simp [hd])) hs.tail
    have hne : c.2 ≠ [] ∨ (cs.map (fun c => c.1 ++ c.2)).flatten ++ rest = [] := by
      rcases hs.head_ne with h | ⟨h1, h2⟩
      · exact Or.inl h
      · right
        have : cs = [] := by simpa using h1
        subst this; simp [h2]
    have e : ((c :: cs).map (fun c => c.1 ++ c.2)).flatten ++ rest =
        c.1 ++ (c.2 ++ ((cs.map (fun c => c.1 ++ c.2)).flatten ++ rest)) := by simp
    rw [e, loop_newline_chunk _ _ hc0.1 hc0.2, loop_sep _ _ _ hs.head_nl hne, ih']
    simp

theorem readOne_record (name nsep : Bytes) (cs : List (Bytes × Bytes)) (rest : Bytes)
    (hn : ∀ b ∈ name, b ≠ 10 ∧ b ≠ 13)
    (hc : ∀ c ∈ cs, c.1 ≠ [] ∧ ∀ b ∈ c.1, b ≠ 10 ∧ b ≠ 13 ∧ b ≠ 62)
    (hs : SepsOK (nsep :: cs.map (·.2)) rest) (hrest : rest = [] ∨ ∃ r, rest = 62 :: r) :
    readOne 62 (name ++ nsep ++ (cs.map (fun c => c.1 ++ c.2)).flatten ++ rest) =
      (⟨name, (cs.map (·.1)).flatten⟩, rest) := by
  have hne : nsep ≠ [] ∨ (cs.map (fun c => c.1 ++ c.2)).flatten ++ rest = [] := by
    rcases hs.head_ne with h | ⟨h1, h2⟩
    · exact Or.inl h
    · right
      have : cs = [] := by simpa using h1
      subst this; simp [h2]
  have e : name ++ nsep ++ (cs.map (fun c => c.1 ++ c.2)).flatten ++ rest =
      name ++ (nsep ++ ((cs.map (fun c => c.1 ++ c.2)).flatten ++ rest)) := by simp
  have h1 : startState 62 = .name := by simp [startState]
  have h2 : startSeq 62 = [] := by simp [startSeq]
  simp only [readOne, h1, h2]
  rw [e, loop_name _ _ hn, loop_sep _ _ _ hs.head_nl hne, loop_chunks cs rest hc hs.tail hrest]
  simp

/-! ## `decodeSrc` -/

theorem decodeSrc_nil (e : Ending) :
    decodeSrc e [] = (match e with | .eof => [] | .fail => [.err]) := by
  cases e <;> rw [decodeSrc]

theorem decodeSrc_cons (e : Ending) (b : UInt8) (rest : Bytes) :
    decodeSrc e (b :: rest) =
      if (readOne b rest).2 = [] then
        (match e with | .eof => [.ok (readOne b rest).1] | .fail => [.err])
      else .ok (readOne b rest).1 :: decodeSrc e (readOne b rest).2 := by
  cases e <;> rw [decodeSrc]

/-- `decode_cons` with the two endings in one `if`, the shape `GoSrcLemmas.fasta_read_cons` yields. -/
theorem decodeSrc_cons' (e : Ending) (b : UInt8) (rest : Bytes) :
    decodeSrc e (b :: rest) =
      if (readOne b rest).2 = [] ∧ e = Ending.fail then [.err]
      else .ok (readOne b rest).1 :: decodeSrc e (readOne b rest).2 := by
  rw [decodeSrc_cons]
  by_cases h : (readOne b rest).2 = []
  · cases e <;> simp [h, decodeSrc_nil]
  · simp [h]

/-- With a clean end of the data every call delivers its record, also the last one. -/
theorem decode_cons (b : UInt8) (rest : Bytes) :
    decode (b :: rest) = .ok (readOne b rest).1 :: decode (readOne b rest).2 := by
  rw [decode, decodeSrc_cons]
  split
  · rename_i h; rw [h, decode, decodeSrc_nil]
  · rfl

/-- Induction along `decodeSrc`, with its value: no byte left; the last record (it ran into the end
of the data); a record with more data after it. -/
theorem decodeSrc_ind (e : Ending) {P : Bytes → List (Item Fa) → Prop}
    (empty : P [] (match e with | .eof => [] | .fail => [.err]))
    (last : ∀ b rest, (readOne b rest).2 = [] →
      P (b :: rest) (match (generalizing := false) e with
        | .eof => [.ok (readOne b rest).1] | .fail => [.err]))
    (more : ∀ b rest, (readOne b rest).2 ≠ [] →
      P (readOne b rest).2 (decodeSrc e (readOne b rest).2) →
      P (b :: rest) (.ok (readOne b rest).1 :: decodeSrc e (readOne b rest).2))
    (x : Bytes) : P x (decodeSrc e x) := by
  induction hn : x.length using Nat.strongRecOn generalizing x with
  | _ n ih =>
    cases x with
    | nil => rw [decodeSrc_nil]; exact empty
    | cons b rest =>
      rw [decodeSrc_cons]
      split
      · exact last b rest ‹_›
      · exact more b rest ‹_› (ih _ (hn ▸ readOne_rest_lt b rest) _ rfl)

theorem decodeSrc_ne_nil (e : Ending) (x : Bytes) (hx : x ≠ []) : decodeSrc e x ≠ [] := by
  cases x with
  | nil => exact absurd rfl hx
  | cons b rest =>
    rw [decodeSrc_cons]
    split
    · cases e <;> simp
    · simp

theorem err_last (e : Ending) (x : Bytes) :
    ∀ i, (decodeSrc e x)[i]? = some Item.err → i + 1 = (decodeSrc e x).length := by
  induction x using decodeSrc_ind e with
  | empty => intro i; cases e <;> cases i <;> simp
  | last b rest _ => intro i; cases e <;> cases i <;> simp
  | more b rest _ ih =>
    intro i
    cases i with
    | zero => simp
    | succ j => simpa using ih j

theorem eof_no_err' (x : Bytes) : Item.err ∉ decodeSrc .eof x := by
  induction x using decodeSrc_ind .eof with
  | empty => simp
  | last b rest _ => simp
  | more b rest _ ih => simpa using ih

/-- With a failing source the last item of the clean decode is replaced by an error. -/
theorem decodeSrc_fail_eq (x : Bytes) :
    decodeSrc .fail x = (decodeSrc .eof x).dropLast ++ [Item.err] := by
  induction x using decodeSrc_ind .eof with
  | empty => exact decodeSrc_nil _
  | last b rest h => rw [decodeSrc_cons, if_pos h]; rfl
  | more b rest h ih =>
    rw [decodeSrc_cons, if_neg h, ih, List.dropLast_cons_of_ne_nil (decodeSrc_ne_nil _ _ h)]
    rfl

theorem readOne_append (b : UInt8) (y z : Bytes) (h : (readOne b y).2 ≠ []) :
    readOne b (y ++ z) = ((readOne b y).1, (readOne b y).2 ++ z) := by
  simp only [readOne] at h ⊢
  rw [loop_append _ _ _ h]

/-- The complete records of a prefix of the data are records of the whole data. -/
theorem decode_prefix (y z : Bytes) :
    (decodeSrc .eof y).dropLast <+: decodeSrc .eof (y ++ z) := by
  induction y using decodeSrc_ind .eof with
  | empty => simp
  | last b rest _ => simp
  | more b rest h ih =>
    rw [List.dropLast_cons_of_ne_nil (decodeSrc_ne_nil _ _ h), List.cons_append, decodeSrc_cons,
      readOne_append b rest z h, if_neg (by simp [h])]
    exact List.cons_prefix_cons.mpr ⟨rfl, ih⟩

end Bio.Fasta

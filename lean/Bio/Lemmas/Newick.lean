/-
  The hypotheses of the C05 theorems (`QS_OK`, `DistOK`, `DistClean`, `AllDist`, `outsideQuotesNoWS`) and the
  lemmas of the Newick codec, bottom-up: bytes, name quoting, tokenizer, the parser one token at a time
  (`step`, `Reads`), forests and writer pieces, reading one node back, the Reader loop (`decodeSrc`),
  condensed output.
-/
import Bio.Model.Newick
namespace Bio.Newick

/-! ## Hypotheses used by the C05 theorems -/

/-- The quote set contains every structural byte, the quote, the underscore,
TAB, LF and CR. -/
def QS_OK (qs : Bytes) : Prop := ∀ b ∈ [40,41,44,58,59,39,95,9,10,13], b ∈ qs

/-- Assumption on the external float codec for one distance token. -/
def DistOK (pd : Bytes → Option Dist) (d : Dist) : Prop :=
  match d with
  | none => True
  | some t => pd t = some (some t) ∧ t ≠ [] ∧
      (∀ b ∈ t, isStruct b = false ∧ isWS b = false ∧ b ≠ 39)

/-- The part of `DistOK` that does not mention the parser: a distance token has
no whitespace and no quote. -/
def DistClean (d : Dist) : Prop :=
  match d with
  | none => True
  | some t => ∀ b ∈ t, isWS b = false ∧ b ≠ 39

/-- `P` holds of every distance in the forest. -/
def Forest.AllDist (P : Dist → Prop) : Forest → Prop
  | .nil => True
  | .cons _ d k r => P d ∧ k.AllDist P ∧ r.AllDist P

/-- `P` holds of every distance in the tree. -/
def Tree.AllDist (P : Dist → Prop) (t : Tree) : Prop := P t.dist ∧ t.kids.AllDist P

/-- Scanner for "condensed": toggles the in-quote flag at every quote byte (a
doubled quote inside a quoted name toggles out and straight back in), rejects
whitespace outside quotes, and requires the text to end outside quotes. -/
def scanNoWS : Bool → Bytes → Bool
  | q, [] => !q
  | false, b :: r => if b == QUOTE then scanNoWS true r else !isWS b && scanNoWS false r
  | true, b :: r => if b == QUOTE then scanNoWS false r else scanNoWS true r

def outsideQuotesNoWS (x : Bytes) : Bool := scanNoWS false x

/-! All hypotheses are decidable predicates on the inputs. -/

instance (qs : Bytes) : Decidable (QS_OK qs) :=
  inferInstanceAs (Decidable (∀ b ∈ [40,41,44,58,59,39,95,9,10,13], b ∈ qs))

instance (pd : Bytes → Option Dist) : (d : Dist) → Decidable (DistOK pd d)
  | none => isTrue trivial
  | some t => inferInstanceAs (Decidable (pd t = some (some t) ∧ t ≠ [] ∧
      (∀ b ∈ t, isStruct b = false ∧ isWS b = false ∧ b ≠ 39)))

instance : (d : Dist) → Decidable (DistClean d)
  | none => isTrue trivial
  | some t => inferInstanceAs (Decidable (∀ b ∈ t, isWS b = false ∧ b ≠ 39))

def Forest.decAllDist (P : Dist → Prop) [DecidablePred P] : (f : Forest) → Decidable (f.AllDist P)
  | .nil => isTrue trivial
  | .cons _ d k r =>
    have := Forest.decAllDist P k
    have := Forest.decAllDist P r
    inferInstanceAs (Decidable (P d ∧ k.AllDist P ∧ r.AllDist P))

instance (P : Dist → Prop) [DecidablePred P] (f : Forest) : Decidable (f.AllDist P) :=
  Forest.decAllDist P f

instance (P : Dist → Prop) [DecidablePred P] (t : Tree) : Decidable (t.AllDist P) :=
  inferInstanceAs (Decidable (P t.dist ∧ t.kids.AllDist P))

theorem DistOK.clean {pd d} (h : DistOK pd d) : DistClean d := by
  cases d with
  | none => trivial
  | some t => intro b hb; exact ⟨(h.2.2 b hb).2.1, (h.2.2 b hb).2.2⟩

theorem Forest.AllDist.mono {P Q : Dist → Prop} (hPQ : ∀ d, P d → Q d) :
    ∀ f : Forest, f.AllDist P → f.AllDist Q
  | .nil, _ => trivial
  | .cons _ _ k r, h => ⟨hPQ _ h.1, Forest.AllDist.mono hPQ k h.2.1, Forest.AllDist.mono hPQ r h.2.2⟩

/-! ## Bytes -/

/-- No structural byte, no whitespace, no quote. -/
def Clean (t : Bytes) : Prop := ∀ b ∈ t, isStruct b = false ∧ isWS b = false ∧ b ≠ 39

/-- What may follow a token for it to be cut exactly there. -/
def Term (e : Ending) (rest : Bytes) : Prop :=
  (rest = [] ∧ e = .eof) ∨ ∃ c r, rest = c :: r ∧ isStruct c = true

theorem Term.struct {e c r} (h : isStruct c = true) : Term e (c :: r) := Or.inr ⟨c, r, rfl, h⟩

theorem isStruct_ne_quote {c : UInt8} (h : isStruct c = true) : c ≠ 39 := by
  rintro rfl; simp [isStruct] at h

theorem isStruct_not_ws {c : UInt8} (h : isStruct c = true) : isWS c = false := by
  simp only [isStruct, Bool.or_eq_true, beq_iff_eq] at h
  rcases h with (((h | h) | h) | h) | h <;> subst h <;> decide

theorem isStruct_cases {c : UInt8} (h : isStruct c = true) :
    c = 40 ∨ c = 41 ∨ c = 44 ∨ c = 58 ∨ c = 59 := by
  simp only [isStruct, Bool.or_eq_true, beq_iff_eq] at h
  rcases h with (((h | h) | h) | h) | h <;> simp [h]

theorem isWS_cases {c : UInt8} (h : isWS c = true) : c = 32 ∨ c = 9 ∨ c = 10 ∨ c = 13 := by
  simp only [isWS, Bool.or_eq_true, beq_iff_eq] at h
  rcases h with ((h | h) | h) | h <;> simp [h]

/-! ## Names -/

theorem undouble_double (s : Bytes) : undoubleQuotes (doubleQuotes s) = s := by
  induction s with
  | nil => rfl
  | cons b rest ih =>
    simp only [doubleQuotes]
    split
    · rename_i h
      have : b = QUOTE := by simpa using h
      subst this
      simp [undoubleQuotes, ih]
    · rename_i h
      cases hr : doubleQuotes rest with
      | nil =>
        rw [hr] at ih
        simp [undoubleQuotes, ← ih]
      | cons a r =>
        rw [hr] at ih
        simp only [undoubleQuotes]
        simp [h, ih]

theorem needsQuote_false_iff {qs s} : needsQuote qs s = false ↔ ∀ b ∈ s, b ∉ qs := by
  simp [needsQuote]

theorem needsQuote_true_iff {qs s} : needsQuote qs s = true ↔ ∃ b ∈ s, b ∈ qs := by
  simp [needsQuote]

theorem quoted_wrap (u : Bytes) : quoted (QUOTE :: u ++ [QUOTE]) = true := by
  have : (QUOTE :: u ++ [QUOTE]).getLast? = some QUOTE := by
    rw [show QUOTE :: u ++ [QUOTE] = (QUOTE :: u) ++ [QUOTE] from rfl, List.getLast?_concat]
  simp only [quoted, this]
  simp

/-- Text of a name that needs no quoting. -/
theorem nameToText_bare {qs s} (h : needsQuote qs s = false) :
    nameToText qs s = s.map fun b => if b == 32 then 95 else b := by
  simp [nameToText, h]

theorem nameToText_quoted {qs s} (h : needsQuote qs s = true) :
    nameToText qs s = QUOTE :: doubleQuotes s ++ [QUOTE] := by
  simp [nameToText, h]

/-- A byte outside the quote set is not structural, not a quote, not an underscore, and the only
whitespace it can be is the space. -/
theorem QS_OK.of_not_mem {qs} (hq : QS_OK qs) {a : UInt8} (ha : a ∉ qs) :
    isStruct a = false ∧ (isWS a = true → a = 32) ∧ a ≠ 39 ∧ a ≠ 95 := by
  have h : a ∉ ([40, 41, 44, 58, 59, 39, 95, 9, 10, 13] : Bytes) := fun h => ha (hq a h)
  simp only [List.mem_cons, List.not_mem_nil, or_false, not_or] at h
  obtain ⟨h40, h41, h44, h58, h59, h39, h95, h9, h10, h13⟩ := h
  refine ⟨by simp [isStruct, *], fun hw => ?_, h39, h95⟩
  simpa [isWS, *] using hw

theorem bare_clean {qs s} (hq : QS_OK qs) (h : needsQuote qs s = false) :
    Clean (s.map fun b => if b == 32 then 95 else b) := by
  rw [needsQuote_false_iff] at h
  intro b hb
  obtain ⟨a, ha, rfl⟩ := List.mem_map.1 hb
  obtain ⟨h1, h2, h3, _⟩ := hq.of_not_mem (h a ha)
  by_cases h32 : a = 32
  · subst h32; decide
  · have hw : isWS a = false := by
      cases hw : isWS a with
      | false => rfl
      | true => exact absurd (h2 hw) h32
    simp only [beq_iff_eq, h32, if_false]
    exact ⟨h1, hw, h3⟩

theorem nameToText_nil_iff {qs s} : nameToText qs s = [] → s = [] := by
  unfold nameToText
  split
  · simp
  · simp

theorem nameToText_ne_nil {qs s} (h : s ≠ []) : nameToText qs s ≠ [] :=
  fun hh => h (nameToText_nil_iff hh)

theorem name_roundtrip' (qs : Bytes) (h : QS_OK qs) (s : Bytes) :
    nameFromText (nameToText qs s) = s := by
  cases hn : needsQuote qs s with
  | true =>
    rw [nameToText_quoted hn]
    unfold nameFromText
    rw [quoted_wrap]
    simp [undouble_double]
  | false =>
    rw [nameToText_bare hn]
    -- the text does not start with a quote, so it is not taken for a quoted name
    have hnq : quoted (s.map fun b => if b == 32 then 95 else b) = false := by
      cases s with
      | nil => rfl
      | cons a r =>
        have h3 := (bare_clean h hn _ List.mem_cons_self).2.2
        simp only [quoted, List.map_cons, List.head?_cons, QUOTE]
        rw [show ((some (if (a == 32) = true then (95 : UInt8) else a) == some 39) = false) from by
          simpa using h3]
        simp
    unfold nameFromText
    rw [hnq]
    simp only [Bool.false_eq_true, if_false, List.map_map]
    rw [needsQuote_false_iff] at hn
    conv => rhs; rw [← List.map_id s]
    apply List.map_congr_left
    intro a ha
    have h95 := (h.of_not_mem (hn a ha)).2.2.2
    by_cases h32 : a = 32
    · subst h32; decide
    · simp [h32, h95]

/-- A name text is never a single structural byte. -/
def NotStructTok (t : Bytes) : Prop := t ≠ [40] ∧ t ≠ [41] ∧ t ≠ [44] ∧ t ≠ [58] ∧ t ≠ [59]

theorem Clean.notStructTok {t} (h : Clean t) : NotStructTok t := by
  refine ⟨?_, ?_, ?_, ?_, ?_⟩ <;> rintro rfl <;>
    · have := (h _ List.mem_cons_self).1
      revert this; decide

theorem quote_head_notStructTok (u : Bytes) : NotStructTok (QUOTE :: u) := by
  refine ⟨?_, ?_, ?_, ?_, ?_⟩ <;> intro h <;> injection h with h1 _ <;> revert h1 <;> decide

theorem nameToText_notStructTok {qs} (hq : QS_OK qs) (s : Bytes) : NotStructTok (nameToText qs s) := by
  cases hn : needsQuote qs s with
  | true => rw [nameToText_quoted hn]; exact quote_head_notStructTok _
  | false => rw [nameToText_bare hn]; exact (bare_clean hq hn).notStructTok

/-! ## Tokenizer -/

theorem nextToken_struct (e : Ending) {c : UInt8} (r : Bytes) (h : isStruct c = true) :
    nextToken e (c :: r) = .tok [c] r := by
  have := isStruct_ne_quote h
  simp [nextToken, QUOTE, this, h]

theorem bareTail_clean (e : Ending) (t rest : Bytes) (ht : Clean t) (hr : Term e rest) :
    bareTail e (t ++ rest) = some (some (t, rest)) := by
  induction t with
  | nil =>
    rcases hr with ⟨rfl, rfl⟩ | ⟨c, r, rfl, hc⟩
    · rfl
    · have := isStruct_ne_quote hc
      simp [bareTail, QUOTE, this, hc]
  | cons b t ih =>
    have hb := ht b List.mem_cons_self
    have ih := ih (fun x hx => ht x (List.mem_cons_of_mem _ hx))
    simp [bareTail, QUOTE, hb.1, hb.2.1, hb.2.2, ih]

theorem nextToken_clean (e : Ending) (t rest : Bytes) (ht : Clean t) (hne : t ≠ [])
    (hr : Term e rest) : nextToken e (t ++ rest) = .tok t rest := by
  cases t with
  | nil => exact absurd rfl hne
  | cons b t =>
    have hb := ht b List.mem_cons_self
    have := bareTail_clean e t rest (fun x hx => ht x (List.mem_cons_of_mem _ hx)) hr
    simp [nextToken, QUOTE, hb.1, hb.2.1, hb.2.2, this]

theorem quotedTail_double (e : Ending) (s rest : Bytes) (hr : Term e rest) :
    quotedTail e false (doubleQuotes s ++ QUOTE :: rest) = some (doubleQuotes s ++ [QUOTE], rest) := by
  induction s with
  | nil =>
    rcases hr with ⟨rfl, rfl⟩ | ⟨c, r, rfl, hc⟩
    · simp [doubleQuotes, quotedTail]
    · have := isStruct_ne_quote hc
      simp [doubleQuotes, quotedTail, QUOTE, this]
  | cons b s ih =>
    simp only [doubleQuotes]
    split
    · simp [quotedTail, ih]
    · rename_i h
      simp [quotedTail, h, ih]

theorem nextToken_quoted (e : Ending) (s rest : Bytes) (hr : Term e rest) :
    nextToken e (QUOTE :: doubleQuotes s ++ [QUOTE] ++ rest) = .tok (QUOTE :: doubleQuotes s ++ [QUOTE]) rest := by
  have := quotedTail_double e s rest hr
  simp [nextToken, this]

theorem nextToken_name (qs : Bytes) (hq : QS_OK qs) (e : Ending) (s rest : Bytes)
    (hne : nameToText qs s ≠ []) (hr : Term e rest) :
    nextToken e (nameToText qs s ++ rest) = .tok (nameToText qs s) rest := by
  cases hn : needsQuote qs s with
  | true => rw [nameToText_quoted hn]; exact nextToken_quoted e s rest hr
  | false =>
    rw [nameToText_bare hn] at hne ⊢
    exact nextToken_clean e _ rest (bare_clean hq hn) hne hr

/-- Leading whitespace is invisible to the tokenizer. -/
theorem nextToken_ws (e : Ending) (w x : Bytes) (hw : ∀ b ∈ w, isWS b = true) :
    nextToken e (w ++ x) = nextToken e x := by
  induction w with
  | nil => rfl
  | cons b w ih =>
    have hb := hw b List.mem_cons_self
    have h39 : b ≠ 39 := by rintro rfl; simp [isWS] at hb
    have hs : isStruct b = false := by
      cases hsb : isStruct b with
      | false => rfl
      | true => rw [isStruct_not_ws hsb] at hb; cases hb
    simp only [List.cons_append, nextToken]
    simp [QUOTE, h39, hs, hb]
    exact ih (fun x hx => hw x (List.mem_cons_of_mem _ hx))

/-- A token is never empty: every branch of `nextToken` that delivers one delivers `b :: _`. -/
theorem nextToken_ne_tok_nil (e : Ending) (x rest : Bytes) : nextToken e x ≠ .tok [] rest := by
  fun_induction nextToken e x <;> simp_all

theorem nextToken_tok_ne_nil (e : Ending) (x t rest : Bytes) (h : nextToken e x = .tok t rest) :
    t ≠ [] :=
  fun ht => nextToken_ne_tok_nil e x rest (ht ▸ h)

/-! ## Parser: one token at a time -/

/-- Outcome of processing one token (no recursion). -/
inductive Step where
  | err
  | done (t : Tree)
  | cont (cur : Tree) (stack : List Tree) (st : PState)

/-- What `readLoop` does with the token `t` in the given parser configuration. -/
def step (pd : Bytes → Option Dist) (t : Bytes) (cur : Tree) (stack : List Tree)
    (st : PState) : Step :=
  match t with
  | [40] => if st != .beforeNode then .err else .cont emptyNode (cur :: stack) st
  | [41] =>
    if st == .afterColon then .err
    else match stack with
      | [] => .err
      | parent :: stack' => .cont (closeTop cur parent) stack' .afterChildren
  | [44] =>
    if st == .afterColon then .err
    else match stack with
      | [] => .err
      | parent :: stack' => .cont emptyNode (closeTop cur parent :: stack') .beforeNode
  | [58] =>
    if st == .afterColon || st == .afterDist then .err else .cont cur stack .afterColon
  | [59] =>
    if !stack.isEmpty then .err else if st == .afterColon then .err else .done cur
  | _ =>
    if st == .afterName || st == .afterDist then .err
    else if st == .beforeNode || st == .afterChildren then
      .cont { cur with name := nameFromText t } stack .afterName
    else match pd t with
      | none => .err
      | some d => .cont { cur with dist := d } stack .afterDist

/-- Continue after a step, with `rest` the unread input. -/
def afterStep (pd : Bytes → Option Dist) (e : Ending) (rest : Bytes) : Step → ReadRes
  | .err => .err
  | .done t => .tree t rest
  | .cont c s st => readLoop pd e rest c s st true

theorem step_other (pd) {t} (ht : NotStructTok t) (cur stack st) :
    step pd t cur stack st =
      if st == .afterName || st == .afterDist then .err
      else if st == .beforeNode || st == .afterChildren then
        .cont { cur with name := nameFromText t } stack .afterName
      else match pd t with
        | none => .err
        | some d => .cont { cur with dist := d } stack .afterDist := by
  obtain ⟨h1, h2, h3, h4, h5⟩ := ht
  unfold step
  split
  · exact absurd rfl h1
  · exact absurd rfl h2
  · exact absurd rfl h3
  · exact absurd rfl h4
  · exact absurd rfl h5
  · rfl

/-- `readLoop` is: next token, then one `step`.  (The `match` of `readLoop` carries the equation
`nextToken e x = …` for its termination proof; that is what the `≍` hypotheses of the last case are.) -/
theorem readLoop_cases (pd e x cur stack st ra) :
    readLoop pd e x cur stack st ra =
      match nextToken e x with
      | .eof => if ra then .err else .eof
      | .err => .err
      | .tok t rest => afterStep pd e rest (step pd t cur stack st) := by
  rw [readLoop]
  split
  · rename_i h; conv => rhs; rw [h]
  · rename_i h; conv => rhs; rw [h]
  · rename_i t rest h
    conv => rhs; rw [h]
    split
    · simp only [step]; split <;> rfl
    · simp only [step]
      split
      · rfl
      · split <;> rfl
    · simp only [step]
      split
      · rfl
      · split <;> rfl
    · simp only [step]; split <;> rfl
    · simp only [step]
      split
      · rfl
      · split <;> rfl
    · rename_i h1 h2 h3 h4 h5
      show _ = afterStep pd e rest (step pd t cur stack st)
      rw [step_other pd ⟨fun hh => h1 (hh ▸ h) hh (proof_irrel_heq _ _),
        fun hh => h2 (hh ▸ h) hh (proof_irrel_heq _ _), fun hh => h3 (hh ▸ h) hh (proof_irrel_heq _ _),
        fun hh => h4 (hh ▸ h) hh (proof_irrel_heq _ _), fun hh => h5 (hh ▸ h) hh (proof_irrel_heq _ _)⟩]
      split
      · rfl
      · split
        · rfl
        · cases pd t <;> rfl

theorem readLoop_eof (pd e x cur stack st ra) (h : nextToken e x = .eof) :
    readLoop pd e x cur stack st ra = if ra then .err else .eof := by
  rw [readLoop_cases, h]

theorem readLoop_err (pd e x cur stack st ra) (h : nextToken e x = .err) :
    readLoop pd e x cur stack st ra = .err := by
  rw [readLoop_cases, h]

theorem readLoop_tok (pd) {e x t rest} (h : nextToken e x = .tok t rest) (cur stack st ra) :
    readLoop pd e x cur stack st ra = afterStep pd e rest (step pd t cur stack st) := by
  rw [readLoop_cases, h]

/-- Induction along the recursive calls of `readLoop`. -/
theorem readLoop_induct (pd e) {M : Bytes → Tree → List Tree → PState → Bool → Prop}
    (h : ∀ x cur stack st ra,
      (∀ tk y c s st', nextToken e x = .tok tk y → step pd tk cur stack st = .cont c s st' →
        M y c s st' true) → M x cur stack st ra) :
    ∀ x cur stack st ra, M x cur stack st ra := by
  intro x
  induction hl : x.length using Nat.strongRecOn generalizing x with
  | _ n ih =>
    intro cur stack st ra
    refine h x cur stack st ra fun tk y c s st' hn _ => ?_
    have := nextToken_lt e x tk y hn
    exact ih y.length (by omega) y rfl c s st' true

/-- The chain of tokens by which `readLoop` delivers the tree `t` and leaves `rest`: steps that
continue, ended by the step for `;`. -/
inductive Reads (pd : Bytes → Option Dist) (e : Ending) :
    Bytes → Tree → List Tree → PState → Tree → Bytes → Prop
  | done {x cur stack st tk rest t} (hn : nextToken e x = .tok tk rest)
      (hs : step pd tk cur stack st = .done t) : Reads pd e x cur stack st t rest
  | cont {x cur stack st tk y c s st' t rest} (hn : nextToken e x = .tok tk y)
      (hs : step pd tk cur stack st = .cont c s st') (h : Reads pd e y c s st' t rest) :
      Reads pd e x cur stack st t rest

theorem Reads.readLoop_eq {pd e x cur stack st t rest} (h : Reads pd e x cur stack st t rest) (ra : Bool) :
    readLoop pd e x cur stack st ra = .tree t rest := by
  induction h generalizing ra with
  | done hn hs => rw [readLoop_tok pd hn, hs]; rfl
  | cont hn hs _ ih => rw [readLoop_tok pd hn, hs]; exact ih true

theorem Reads.of_readLoop {pd e t rest} : ∀ x cur stack st ra,
    readLoop pd e x cur stack st ra = .tree t rest → Reads pd e x cur stack st t rest := by
  intro x cur stack st ra
  induction x, cur, stack, st, ra using readLoop_induct pd e with
  | h x cur stack st ra ih =>
    intro h
    cases hn : nextToken e x with
    | eof => rw [readLoop_eof _ _ _ _ _ _ _ hn] at h; split at h <;> cases h
    | err => rw [readLoop_err _ _ _ _ _ _ _ hn] at h; cases h
    | tok tk y =>
      rw [readLoop_tok pd hn] at h
      cases hs : step pd tk cur stack st with
      | err => rw [hs] at h; cases h
      | done u => rw [hs] at h; cases h; exact .done hn hs
      | cont c s st' => rw [hs] at h; exact .cont hn hs (ih tk y c s st' hn hs h)

/-- Every tree consumes at least one byte (so the progress guard in `decodeSrc` never fires). -/
theorem Reads.rest_lt {pd e x cur stack st t rest} (h : Reads pd e x cur stack st t rest) :
    rest.length < x.length := by
  induction h with
  | done hn _ => exact nextToken_lt _ _ _ _ hn
  | cont hn _ _ ih => exact Nat.lt_trans ih (nextToken_lt _ _ _ _ hn)

/-- After a first token the clean end is never reported. -/
theorem readLoop_true_ne_eof (pd e) : ∀ x cur stack st ra, ra = true →
    readLoop pd e x cur stack st ra ≠ .eof := by
  intro x cur stack st ra
  induction x, cur, stack, st, ra using readLoop_induct pd e with
  | h x cur stack st ra ih =>
    intro hra h
    subst hra
    cases hn : nextToken e x with
    | eof => rw [readLoop_eof _ _ _ _ _ _ _ hn] at h; cases h
    | err => rw [readLoop_err _ _ _ _ _ _ _ hn] at h; cases h
    | tok tk y =>
      rw [readLoop_tok pd hn] at h
      cases hs : step pd tk cur stack st with
      | err => rw [hs] at h; cases h
      | done u => rw [hs] at h; cases h
      | cont c s st' => rw [hs] at h; exact ih tk y c s st' hn hs rfl h

/-- The clean end is reported exactly when the input holds no token at all. -/
theorem readLoop_eq_eof_iff (pd e x cur stack st ra) :
    readLoop pd e x cur stack st ra = .eof ↔ ra = false ∧ nextToken e x = .eof := by
  constructor
  · intro h
    cases ra with
    | true => exact absurd h (readLoop_true_ne_eof pd e x cur stack st true rfl)
    | false =>
      refine ⟨rfl, ?_⟩
      cases hn : nextToken e x with
      | eof => rfl
      | err => rw [readLoop_err _ _ _ _ _ _ _ hn] at h; cases h
      | tok tk y =>
        rw [readLoop_tok pd hn] at h
        cases hs : step pd tk cur stack st with
        | err => rw [hs] at h; cases h
        | done u => rw [hs] at h; cases h
        | cont c s st' =>
          rw [hs] at h; exact absurd h (readLoop_true_ne_eof pd e y c s st' true rfl)
  · rintro ⟨rfl, hn⟩
    rw [readLoop_eof _ _ _ _ _ _ _ hn]; rfl

section Steps

variable (pd : Bytes → Option Dist) (e : Ending)

theorem step_open (x cur stack ra) :
    readLoop pd e (40 :: x) cur stack .beforeNode ra
      = readLoop pd e x emptyNode (cur :: stack) .beforeNode true := by
  rw [readLoop_tok pd (nextToken_struct e x (c := 40) (by decide))]; rfl

theorem step_close (x cur p stack st ra) (hst : st ≠ .afterColon) :
    readLoop pd e (41 :: x) cur (p :: stack) st ra
      = readLoop pd e x (closeTop cur p) stack .afterChildren true := by
  rw [readLoop_tok pd (nextToken_struct e x (c := 41) (by decide))]
  cases st <;> first | rfl | exact absurd rfl hst

theorem step_comma (x cur p stack st ra) (hst : st ≠ .afterColon) :
    readLoop pd e (44 :: x) cur (p :: stack) st ra
      = readLoop pd e x emptyNode (closeTop cur p :: stack) .beforeNode true := by
  rw [readLoop_tok pd (nextToken_struct e x (c := 44) (by decide))]
  cases st <;> first | rfl | exact absurd rfl hst

theorem step_colon (x cur stack st ra) (h1 : st ≠ .afterColon) (h2 : st ≠ .afterDist) :
    readLoop pd e (58 :: x) cur stack st ra
      = readLoop pd e x cur stack .afterColon true := by
  rw [readLoop_tok pd (nextToken_struct e x (c := 58) (by decide))]
  cases st <;> first | rfl | exact absurd rfl h1 | exact absurd rfl h2

theorem step_semi (x cur st ra) (hst : st ≠ .afterColon) :
    readLoop pd e (59 :: x) cur [] st ra = .tree cur x := by
  rw [readLoop_tok pd (nextToken_struct e x (c := 59) (by decide))]
  cases st <;> first | rfl | exact absurd rfl hst

theorem step_name (x t rest cur stack st ra) (hx : nextToken e x = .tok t rest)
    (ht : NotStructTok t) (hst : st = .beforeNode ∨ st = .afterChildren) :
    readLoop pd e x cur stack st ra
      = readLoop pd e rest { cur with name := nameFromText t } stack .afterName true := by
  rw [readLoop_tok pd hx, step_other pd ht]
  rcases hst with rfl | rfl <;> rfl

theorem step_dist (x t rest cur stack ra d) (hx : nextToken e x = .tok t rest)
    (ht : NotStructTok t) (hd : pd t = some d) :
    readLoop pd e x cur stack .afterColon ra
      = readLoop pd e rest { cur with dist := d } stack .afterDist true := by
  rw [readLoop_tok pd hx, step_other pd ht]
  simp [afterStep, hd]

end Steps


/-! ## Forests -/

def Forest.append : Forest → Forest → Forest
  | .nil, g => g
  | .cons n d k r, g => .cons n d k (r.append g)

theorem Forest.snoc_eq_append (p : Forest) (t : Tree) :
    p.snoc t = p.append (.cons t.name t.dist t.kids .nil) := by
  induction p with
  | nil => rfl
  | cons n d k r _ ih => simp [Forest.snoc, Forest.append, ih]

theorem Forest.append_assoc (a b c : Forest) : (a.append b).append c = a.append (b.append c) := by
  induction a with
  | nil => rfl
  | cons n d k r _ ih => simp [Forest.append, ih]

theorem Forest.snoc_append (p : Forest) (t : Tree) (r : Forest) :
    (p.snoc t).append r = p.append (.cons t.name t.dist t.kids r) := by
  rw [Forest.snoc_eq_append, Forest.append_assoc]; rfl

/-! ## Writer pieces -/

def kidsText (qs : Bytes) (k : Forest) : Bytes :=
  match k with
  | .nil => []
  | _ => 40 :: writeForest qs k ++ [41]

def sibText (qs : Bytes) (r : Forest) : Bytes :=
  match r with
  | .nil => []
  | _ => 44 :: writeForest qs r

theorem writeForest_cons (qs n d k r) :
    writeForest qs (.cons n d k r)
      = kidsText qs k ++ (nameToText qs n ++ (distText d ++ sibText qs r)) := by
  cases k <;> cases r <;> simp only [writeForest, kidsText, sibText, List.append_assoc]

theorem kidsText_cons (qs n d k r) :
    kidsText qs (.cons n d k r) = 40 :: (writeForest qs (.cons n d k r) ++ [41]) := rfl

theorem sibText_cons (qs n d k r) :
    sibText qs (.cons n d k r) = 44 :: writeForest qs (.cons n d k r) := rfl

/-! ## Parser: pieces of one node -/

section Node
variable (qs : Bytes) (pd : Bytes → Option Dist) (e : Ending)

/-- What it means for the parser to read the children `k` (non-empty) of some
node correctly: from just after "(", up to and including ")". -/
def ReadsKids (k : Forest) : Prop :=
  ∀ (parent : Tree) (stack : List Tree) (rest : Bytes) (ra : Bool),
    readLoop pd e (writeForest qs k ++ 41 :: rest) emptyNode (parent :: stack) .beforeNode ra
      = readLoop pd e rest { parent with kids := parent.kids.append k } stack .afterChildren true

theorem read_kids_part (k : Forest) (hk : k ≠ .nil → ReadsKids qs pd e k)
    (y : Bytes) (stack : List Tree) (ra : Bool) :
    ∃ st1 ra1, (st1 = .beforeNode ∨ st1 = .afterChildren) ∧
      readLoop pd e (kidsText qs k ++ y) emptyNode stack .beforeNode ra
        = readLoop pd e y ⟨[], none, k⟩ stack st1 ra1 := by
  cases k with
  | nil => exact ⟨.beforeNode, ra, Or.inl rfl, rfl⟩
  | cons n d k r =>
    refine ⟨.afterChildren, true, Or.inr rfl, ?_⟩
    rw [kidsText_cons]
    simp only [List.cons_append, List.append_assoc, List.nil_append]
    rw [step_open, hk (by simp) emptyNode stack y true]
    rfl

theorem read_name_part (hq : QS_OK qs) (n : Bytes) (dd : Dist) (k : Forest)
    (y : Bytes) (hy : Term e y) (stack : List Tree) (st1 : PState) (ra1 : Bool)
    (hst : st1 = .beforeNode ∨ st1 = .afterChildren) :
    ∃ st2 ra2, (st2 ≠ .afterColon ∧ st2 ≠ .afterDist) ∧
      readLoop pd e (nameToText qs n ++ y) ⟨[], dd, k⟩ stack st1 ra1
        = readLoop pd e y ⟨n, dd, k⟩ stack st2 ra2 := by
  by_cases hne : nameToText qs n = []
  · have : n = [] := nameToText_nil_iff hne
    subst this
    refine ⟨st1, ra1, ?_, by rw [hne]; rfl⟩
    rcases hst with rfl | rfl <;> simp
  · refine ⟨.afterName, true, by simp, ?_⟩
    rw [step_name pd e _ _ _ _ _ _ _ (nextToken_name qs hq e n y hne hy)
      (nameToText_notStructTok hq n) hst]
    simp [name_roundtrip' qs hq n]

theorem read_dist_part (n : Bytes) (d : Dist) (hd : DistOK pd d) (k : Forest)
    (y : Bytes) (hy : Term e y) (stack : List Tree) (st2 : PState) (ra2 : Bool)
    (hst : st2 ≠ .afterColon ∧ st2 ≠ .afterDist) :
    ∃ st3 ra3, st3 ≠ .afterColon ∧
      readLoop pd e (distText d ++ y) ⟨n, none, k⟩ stack st2 ra2
        = readLoop pd e y ⟨n, d, k⟩ stack st3 ra3 := by
  cases d with
  | none => exact ⟨st2, ra2, hst.1, rfl⟩
  | some t =>
    obtain ⟨hp, hne, hc⟩ := hd
    refine ⟨.afterDist, true, by simp, ?_⟩
    simp only [distText, List.cons_append]
    rw [step_colon pd e _ _ _ _ _ hst.1 hst.2]
    rw [step_dist pd e _ _ _ _ _ _ _ (nextToken_clean e t y hc hne hy)
      (Clean.notStructTok hc) hp]

/-- One whole node (children, name, distance), followed by a structural byte. -/
theorem read_node (hq : QS_OK qs) (n : Bytes) (d : Dist) (k : Forest) (hd : DistOK pd d)
    (hk : k ≠ .nil → ReadsKids qs pd e k)
    (y : Bytes) (hy : Term e y) (stack : List Tree) (ra : Bool) :
    ∃ st' ra', st' ≠ .afterColon ∧
      readLoop pd e (kidsText qs k ++ (nameToText qs n ++ (distText d ++ y))) emptyNode stack
          .beforeNode ra
        = readLoop pd e y ⟨n, d, k⟩ stack st' ra' := by
  have hy2 : Term e (distText d ++ y) := by
    cases d with
    | none => exact hy
    | some t => exact Term.struct (c := 58) (by decide)
  obtain ⟨st1, ra1, h1, e1⟩ := read_kids_part qs pd e k hk (nameToText qs n ++ (distText d ++ y)) stack ra
  obtain ⟨st2, ra2, h2, e2⟩ := read_name_part qs pd e hq n none k _ hy2 stack st1 ra1 h1
  obtain ⟨st3, ra3, h3, e3⟩ := read_dist_part pd e n d hd k y hy stack st2 ra2 h2
  exact ⟨st3, ra3, h3, by rw [e1, e2, e3]⟩

/-- The forest invariant: every non-empty forest of siblings is read back. -/
theorem readsKids (hq : QS_OK qs) (f : Forest) (hd : f.AllDist (DistOK pd)) (hne : f ≠ .nil) :
    ReadsKids qs pd e f := by
  induction f with
  | nil => exact absurd rfl hne
  | cons n d k r ihk ihr =>
    obtain ⟨hd1, hdk, hdr⟩ := hd
    intro parent stack rest ra
    rw [writeForest_cons]
    simp only [List.append_assoc]
    cases r with
    | nil =>
      obtain ⟨st', ra', hs, eq⟩ := read_node qs pd e hq n d k hd1 (ihk hdk) (41 :: rest)
        (Term.struct (by decide)) (parent :: stack) ra
      simp only [sibText, List.nil_append]
      rw [eq, step_close pd e _ _ _ _ _ _ hs]
      simp [closeTop, Forest.snoc_eq_append]
    | cons n2 d2 k2 r2 =>
      obtain ⟨st', ra', hs, eq⟩ := read_node qs pd e hq n d k hd1 (ihk hdk)
        (44 :: (writeForest qs (.cons n2 d2 k2 r2) ++ 41 :: rest))
        (Term.struct (by decide)) (parent :: stack) ra
      rw [sibText_cons]
      simp only [List.cons_append]
      rw [eq, step_comma pd e _ _ _ _ _ _ hs]
      rw [ihr hdr (by simp) (closeTop ⟨n, d, k⟩ parent) stack rest true]
      simp [closeTop, Forest.snoc_append]

end Node

theorem write_eq (qs : Bytes) (t : Tree) :
    write qs t = kidsText qs t.kids ++ (nameToText qs t.name ++ (distText t.dist ++ [59])) := by
  simp [write, writeForest_cons, sibText]

theorem readTree_write (qs pd) (e : Ending) (hq : QS_OK qs) (t : Tree)
    (hd : t.AllDist (DistOK pd)) (rest : Bytes) :
    readTree pd e (write qs t ++ rest) = .tree t rest := by
  obtain ⟨n, d, k⟩ := t
  obtain ⟨hd1, hdk⟩ := hd
  rw [write_eq]
  simp only [List.append_assoc, readTree]
  obtain ⟨st', ra', hs, eq⟩ := read_node qs pd e hq n d k hd1
    (fun hne => readsKids qs pd e hq k hdk hne) (59 :: rest) (Term.struct (by decide)) [] false
  simp only [List.singleton_append]
  rw [eq, step_semi pd e _ _ _ _ hs]



/-! ## The Reader loop -/

theorem readLoop_congr (pd e) (x y : Bytes) (h : nextToken e x = nextToken e y) (cur stack st ra) :
    readLoop pd e x cur stack st ra = readLoop pd e y cur stack st ra := by
  rw [readLoop_cases, readLoop_cases, h]

theorem readTree_ws (pd e) (w x : Bytes) (hw : ∀ b ∈ w, isWS b = true) :
    readTree pd e (w ++ x) = readTree pd e x :=
  readLoop_congr pd e _ _ (nextToken_ws e w x hw) _ _ _ _

theorem readTree_rest_lt (pd e x t rest) (h : readTree pd e x = .tree t rest) :
    rest.length < x.length :=
  (Reads.of_readLoop _ _ _ _ _ h).rest_lt

theorem decodeSrc_eof (pd e x) (h : readTree pd e x = .eof) : decodeSrc pd e x = [] := by
  rw [decodeSrc, h]

theorem decodeSrc_err (pd e x) (h : readTree pd e x = .err) : decodeSrc pd e x = [.err] := by
  rw [decodeSrc, h]

theorem decodeSrc_tree (pd e x t rest) (h : readTree pd e x = .tree t rest) :
    decodeSrc pd e x = .ok t :: decodeSrc pd e rest := by
  rw [decodeSrc, h]
  exact dif_pos (readTree_rest_lt pd e x t rest h)

/-- Induction along `decodeSrc`: a clean end, an error, or a tree and the items of what it leaves. -/
theorem decodeSrc_induct (pd e) {M : Bytes → List (Item Tree) → Prop}
    (heof : ∀ x, readTree pd e x = .eof → M x [])
    (herr : ∀ x, readTree pd e x = .err → M x [.err])
    (htree : ∀ x t rest, readTree pd e x = .tree t rest → M rest (decodeSrc pd e rest) →
      M x (.ok t :: decodeSrc pd e rest)) :
    ∀ x, M x (decodeSrc pd e x) := by
  intro x
  induction hl : x.length using Nat.strongRecOn generalizing x with
  | _ n ih =>
    cases hr : readTree pd e x with
    | eof => rw [decodeSrc_eof _ _ _ hr]; exact heof x hr
    | err => rw [decodeSrc_err _ _ _ hr]; exact herr x hr
    | tree t rest =>
      have hlt := readTree_rest_lt _ _ _ _ _ hr
      rw [decodeSrc_tree _ _ _ _ _ hr]
      exact htree x t rest hr (ih rest.length (by omega) rest rfl)

theorem decodeSrc_ws (pd e) (w x : Bytes) (hw : ∀ b ∈ w, isWS b = true) :
    decodeSrc pd e (w ++ x) = decodeSrc pd e x := by
  have h := readTree_ws pd e w x hw
  cases hx : readTree pd e x with
  | eof => rw [decodeSrc_eof _ _ _ (h.trans hx), decodeSrc_eof _ _ _ hx]
  | err => rw [decodeSrc_err _ _ _ (h.trans hx), decodeSrc_err _ _ _ hx]
  | tree t rest => rw [decodeSrc_tree _ _ _ _ _ (h.trans hx), decodeSrc_tree _ _ _ _ _ hx]

theorem decodeSrc_nil (pd) : decodeSrc pd .eof [] = [] :=
  decodeSrc_eof pd .eof [] (readLoop_eof _ _ _ _ _ _ _ rfl)

/-- Shape of every decoder output: records, then at most one final error. -/
theorem decodeSrc_shape (pd e) (x : Bytes) :
    ∃ oks : List Tree, decodeSrc pd e x = oks.map .ok ∨ decodeSrc pd e x = oks.map .ok ++ [.err] := by
  induction x using decodeSrc_induct pd e with
  | heof x _ => exact ⟨[], Or.inl rfl⟩
  | herr x _ => exact ⟨[], Or.inr rfl⟩
  | htree x t rest _ ih =>
    obtain ⟨oks, h | h⟩ := ih
    · exact ⟨t :: oks, Or.inl (by rw [h]; rfl)⟩
    · exact ⟨t :: oks, Or.inr (by rw [h]; rfl)⟩

/-- Trees each followed by a whitespace string. -/
def writeAll (qs : Bytes) (tws : List (Tree × Bytes)) : Bytes :=
  tws.flatMap fun p => write qs p.1 ++ p.2

theorem decodeSrc_writeAll (qs pd) (hq : QS_OK qs) (tws : List (Tree × Bytes))
    (hd : ∀ p ∈ tws, p.1.AllDist (DistOK pd)) (hw : ∀ p ∈ tws, ∀ b ∈ p.2, isWS b = true) :
    decodeSrc pd .eof (writeAll qs tws) = tws.map fun p => Item.ok p.1 := by
  induction tws with
  | nil => exact decodeSrc_nil pd
  | cons p tws ih =>
    have ih := ih (fun q hq' => hd q (List.mem_cons_of_mem _ hq')) (fun q hq' => hw q (List.mem_cons_of_mem _ hq'))
    simp only [writeAll, List.flatMap_cons, List.append_assoc, List.map_cons] at ih ⊢
    rw [decodeSrc_tree _ _ _ _ _ (readTree_write qs pd .eof hq p.1 (hd p List.mem_cons_self) _)]
    rw [decodeSrc_ws _ _ _ _ (hw p List.mem_cons_self)]
    rw [← ih]

/-- The written form of one tree decodes to exactly that tree. -/
theorem decodeSrc_write (qs pd) (hq : QS_OK qs) (t : Tree) (hd : t.AllDist (DistOK pd)) :
    decodeSrc pd .eof (write qs t) = [.ok t] := by
  have := decodeSrc_tree pd .eof _ _ _ (readTree_write qs pd .eof hq t hd [])
  rwa [List.append_nil, decodeSrc_nil] at this

/-! ## Condensed output -/

theorem scan_true_double (s y : Bytes) : scanNoWS true (doubleQuotes s ++ y) = scanNoWS true y := by
  induction s with
  | nil => rfl
  | cons b s ih =>
    simp only [doubleQuotes]
    split
    · simp [scanNoWS, ih]
    · rename_i h; simp [scanNoWS, h, ih]

theorem scan_clean (t y : Bytes) (ht : ∀ b ∈ t, isWS b = false ∧ b ≠ 39) :
    scanNoWS false (t ++ y) = scanNoWS false y := by
  induction t with
  | nil => rfl
  | cons b t ih =>
    have hb := ht b List.mem_cons_self
    simp [scanNoWS, QUOTE, hb.1, hb.2, ih (fun x hx => ht x (List.mem_cons_of_mem _ hx))]

theorem scan_struct {c : UInt8} (hc : isStruct c = true) (y : Bytes) :
    scanNoWS false (c :: y) = scanNoWS false y :=
  scan_clean [c] y (by
    intro b hb; simp only [List.mem_singleton] at hb; subst hb
    exact ⟨isStruct_not_ws hc, isStruct_ne_quote hc⟩)

theorem scan_name (qs) (hq : QS_OK qs) (n y : Bytes) :
    scanNoWS false (nameToText qs n ++ y) = scanNoWS false y := by
  cases hn : needsQuote qs n with
  | true =>
    rw [nameToText_quoted hn]
    simp [scanNoWS, scan_true_double]
  | false =>
    rw [nameToText_bare hn]
    exact scan_clean _ _ (fun b hb => (bare_clean hq hn b hb).2)

theorem scan_dist (d : Dist) (hd : DistClean d) (y : Bytes) :
    scanNoWS false (distText d ++ y) = scanNoWS false y := by
  cases d with
  | none => rfl
  | some t =>
    simp only [distText, List.cons_append]
    rw [scan_struct (by decide), scan_clean t y hd]

theorem scan_forest (qs) (hq : QS_OK qs) (f : Forest) (hd : f.AllDist DistClean) (y : Bytes) :
    scanNoWS false (writeForest qs f ++ y) = scanNoWS false y := by
  induction f generalizing y with
  | nil => rfl
  | cons n d k r ihk ihr =>
    obtain ⟨hd1, hdk, hdr⟩ := hd
    rw [writeForest_cons]
    simp only [List.append_assoc]
    have hk : ∀ z, scanNoWS false (kidsText qs k ++ z) = scanNoWS false z := by
      intro z
      cases k with
      | nil => rfl
      | cons n1 d1 k1 r1 =>
        rw [kidsText_cons]
        simp only [List.cons_append, List.append_assoc]
        rw [scan_struct (by decide), ihk hdk]
        exact scan_struct (by decide) _
    have hr : ∀ z, scanNoWS false (sibText qs r ++ z) = scanNoWS false z := by
      intro z
      cases r with
      | nil => rfl
      | cons n1 d1 k1 r1 =>
        rw [sibText_cons]
        simp only [List.cons_append]
        rw [scan_struct (by decide), ihr hdr]
    rw [hk, scan_name qs hq, scan_dist d hd1, hr]

theorem scan_write (qs) (hq : QS_OK qs) (t : Tree) (hd : t.AllDist DistClean) :
    outsideQuotesNoWS (write qs t) = true := by
  unfold outsideQuotesNoWS write
  rw [scan_forest qs hq (.cons t.name t.dist t.kids .nil) ⟨hd.1, hd.2, trivial⟩]
  decide

theorem write_getLast (qs) (t : Tree) : (write qs t).getLast? = some 59 := by
  unfold write; rw [List.getLast?_concat]


/-! ## Index form of "an error is last" -/

theorem err_index_last (l : List (Item Tree))
    (hs : ∃ oks : List Tree, l = oks.map .ok ∨ l = oks.map .ok ++ [.err])
    (i : Nat) (hi : l[i]? = some .err) : i + 1 = l.length := by
  obtain ⟨oks, rfl | rfl⟩ := hs
  · simp [List.getElem?_map] at hi
  · rw [List.getElem?_append] at hi
    split at hi
    · simp [List.getElem?_map] at hi
    · rename_i h
      have : i - (oks.map Item.ok).length = 0 := by
        cases hk : i - (oks.map Item.ok).length with
        | zero => rfl
        | succ k => rw [hk] at hi; cases hi
      simp at h this ⊢; omega

end Bio.Newick

/-
  `(*reader).read` of formats/newick/newick.go, translated from the Go source text on every run into
  `Bio.Generated.GoSrc.newick_read` (over an EXPLICIT HEAP of `Node` cells), against the hand-written
  parser `Newick.readLoop` of `Bio.Model.Newick`.  Part 1: vocabulary.

  * `NwkRd.RepF heap lo hi ptrs f` / `NwkRd.RepT heap p t`: the abstraction relation (a list of
    `*Node` pointers represents a forest; a pointer represents a tree).  Every subtree occupies its own
    interval of cell indices, children after their parent, siblings in increasing order — the shape
    the allocation order of `read()` produces; it rules out sharing and cycles.
  * `NwkRd.Anc`: the unfinished ancestors of the node being read (the Go stack below the top).
  * `NwkRd.absT heap fuel p`: total read-back of a tree from the heap.
  * `idx`/`setIdx` on `heap ++ [cell]` and on updated heaps.
-/
import Bio.Generated.GoSrc
import Bio.Model.Newick
import Bio.Lemmas.GoRt
namespace Bio.GoSrcLemmas
open Bio Bio.GoRt Bio.Generated Bio.Newick

namespace NwkRd

/-- a `Node` cell: `Name`, `Distance`, `Children` (pointers) -/
abbrev Cell := Bytes × Newick.Dist × List Int
/-- all `Node`s allocated so far; a `*Node` is an index, `nil` is `-1` -/
abbrev Heap := List Cell

/-- `&Node{}` -/
def zero : Cell := ([], none, [])

/-- `heap[p] = v` as a total function (`setIdx` when `p` is in range) -/
def upd (heap : Heap) (p : Int) (v : Cell) : Heap := heap.set p.toNat v

/-! ## The abstraction relation -/

/-- The pointers `ptrs` represent the forest `f` in `heap`, all cells involved lying in `[lo, hi)`:
the first pointer `p` is in range, its cell holds the first tree's name, distance and the pointers of
its children, which (with everything below them) lie in `(p, mid)`; the remaining siblings lie in
`[mid, hi)`. -/
def RepF (heap : Heap) : Int → Int → List Int → Forest → Prop
  | _, _, [], .nil => True
  | lo, hi, p :: ps, .cons n d k r => ∃ ks mid, lo ≤ p ∧ p < mid ∧ mid ≤ hi ∧
      idx heap p = some (n, d, ks) ∧ RepF heap (p + 1) mid ks k ∧ RepF heap mid hi ps r
  | _, _, [], .cons _ _ _ _ => False
  | _, _, _ :: _, .nil => False

/-- The cell at `p` holds `t`'s name and distance, and its `Children` represent `t.kids` (in cells
after `p`). -/
def RepT (heap : Heap) (p : Int) (t : Tree) : Prop :=
  ∃ ks, idx heap p = some (t.name, t.dist, ks) ∧ RepF heap (p + 1) (len heap) ks t.kids

/-- The unfinished ancestors of the node `q` being read (Go: the stack below `q`, nearest first; model:
`readLoop`'s stack): the parent's cell holds its partial tree's name and distance, its `Children` are
the pointers of the children already closed — representing the partial tree's `kids`, in cells between
the parent and `q` — followed by `q` itself.  The outermost pointer is `root`. -/
def Anc (heap : Heap) (root : Int) : Int → List Int → List Tree → Prop
  | q, [], [] => q = root
  | q, p :: ps, t :: ts => ∃ ks, p < q ∧ idx heap p = some (t.name, t.dist, ks ++ [q]) ∧
      RepF heap (p + 1) q ks t.kids ∧ Anc heap root p ps ts
  | _, [], _ :: _ => False
  | _, _ :: _, [] => False

/-- `heap` is `h0` with cells appended -/
def Ext (h0 heap : Heap) : Prop := ∃ ext, heap = h0 ++ ext

/-! ## Reading a tree back -/

def forestOfList : List Tree → Forest
  | [] => .nil
  | t :: ts => .cons t.name t.dist t.kids (forestOfList ts)

/-- the tree at `p`, following at most `fuel` levels of pointers (total: an invalid pointer or no fuel
left reads as the empty node) -/
def absT (heap : Heap) : Nat → Int → Tree
  | 0 => fun _ => emptyNode
  | fuel + 1 => fun p =>
    match idx heap p with
    | none => emptyNode
    | some c => ⟨c.1, c.2.1, forestOfList (c.2.2.map (absT heap fuel))⟩

end NwkRd

open NwkRd

/-! ## `idx` / `setIdx` -/

theorem nwk_idx_isSome {α : Type} (l : List α) (i : Int) (h0 : 0 ≤ i) (h1 : i < len l) :
    ∃ v, idx l i = some v := by
  unfold idx
  unfold len at h1
  have : ¬ i < 0 := by omega
  simp only [this, if_false]
  exact ⟨l[i.toNat]'(by omega), List.getElem?_eq_getElem (by omega)⟩

theorem nwk_len_nonneg {α : Type} (l : List α) : 0 ≤ len l := by simp [len]

/-- the cell updates below are the Go run-time facts of `Bio.Lemmas.GoRt` (`setIdx_lt`, `idx_set_self`,
`idx_set_ne`) at a pointer `p : Int` known to be non-negative -/
theorem nwk_setIdx_upd (heap : Heap) (p : Int) (v : Cell) (h0 : 0 ≤ p) (h1 : p < len heap) :
    setIdx heap p v = some (upd heap p v) := by
  have := setIdx_lt heap p.toNat v (by unfold len at h1; omega)
  rwa [Int.toNat_of_nonneg h0] at this

theorem nwk_len_upd (heap : Heap) (p : Int) (v : Cell) : len (upd heap p v) = len heap := by
  simp [len, upd]

theorem nwk_idx_upd_eq (heap : Heap) (p : Int) (v : Cell) (h0 : 0 ≤ p) (h1 : p < len heap) :
    idx (upd heap p v) p = some v := by
  have := idx_set_self heap p.toNat v (by unfold len at h1; omega)
  rwa [Int.toNat_of_nonneg h0] at this

theorem nwk_idx_upd_ne (heap : Heap) (p q : Int) (v : Cell) (h0 : 0 ≤ p) (hne : q ≠ p) :
    idx (upd heap p v) q = idx heap q :=
  idx_set_ne heap p.toNat v q (by rw [Int.toNat_of_nonneg h0]; exact hne)

/-! ## `Ext` -/

theorem Ext.refl (h0 : Heap) : Ext h0 h0 := ⟨[], by simp⟩

theorem Ext.append {h0 heap : Heap} (h : Ext h0 heap) (m : Heap) : Ext h0 (heap ++ m) := by
  obtain ⟨ext, rfl⟩ := h
  exact ⟨ext ++ m, by simp⟩

theorem Ext.len_le {h0 heap : Heap} (h : Ext h0 heap) : len h0 ≤ len heap := by
  obtain ⟨ext, rfl⟩ := h
  simp [len]; omega

theorem Ext.upd {h0 heap : Heap} (h : Ext h0 heap) (p : Int) (v : Cell) (hp : len h0 ≤ p) :
    Ext h0 (upd heap p v) := by
  obtain ⟨ext, rfl⟩ := h
  refine ⟨ext.set (p.toNat - h0.length) v, ?_⟩
  unfold NwkRd.upd
  unfold len at hp
  rw [List.set_append_right _ _ (by omega)]

theorem Ext.trans {a b c : Heap} (h1 : Ext a b) (h2 : Ext b c) : Ext a c := by
  obtain ⟨e1, rfl⟩ := h1
  obtain ⟨e2, rfl⟩ := h2
  exact ⟨e1 ++ e2, by simp⟩

/-- cells below `len h0` are those of `h0` -/
theorem Ext.idx {h0 heap : Heap} (h : Ext h0 heap) (i : Int) (hi : i < len h0) :
    idx heap i = idx h0 i := by
  obtain ⟨ext, rfl⟩ := h
  exact idx_append_lt h0 ext i hi

/-! ## `RepF` -/

theorem RepF.nil_iff (heap : Heap) (lo hi : Int) (ps : List Int) :
    RepF heap lo hi ps .nil ↔ ps = [] := by
  cases ps <;> simp [RepF]

/-- frame: `RepF … lo hi` only reads cells in `[lo, hi)` -/
theorem RepF.frame {heap heap' : Heap} : ∀ (f : Forest) {lo hi : Int} {ps : List Int},
    RepF heap lo hi ps f → (∀ i, lo ≤ i → i < hi → idx heap' i = idx heap i) →
    RepF heap' lo hi ps f := by
  intro f
  induction f with
  | nil => intro lo hi ps h _; cases ps <;> simp_all [RepF]
  | cons n d k r ihk ihr =>
    intro lo hi ps h hfr
    cases ps with
    | nil => simp [RepF] at h
    | cons p ps =>
      simp only [RepF] at h ⊢
      obtain ⟨ks, mid, h1, h2, h3, h4, h5, h6⟩ := h
      refine ⟨ks, mid, h1, h2, h3, ?_, ?_, ?_⟩
      · rw [hfr p h1 (by omega)]; exact h4
      · exact ihk h5 (fun i hi1 hi2 => hfr i (by omega) (by omega))
      · exact ihr h6 (fun i hi1 hi2 => hfr i (by omega) (by omega))

theorem RepF.mono {heap : Heap} : ∀ (f : Forest) {lo hi lo' hi' : Int} {ps : List Int},
    RepF heap lo hi ps f → lo' ≤ lo → hi ≤ hi' → RepF heap lo' hi' ps f := by
  intro f
  induction f with
  | nil => intro lo hi lo' hi' ps h _ _; cases ps <;> simp_all [RepF]
  | cons n d k r ihk ihr =>
    intro lo hi lo' hi' ps h hl hh
    cases ps with
    | nil => simp [RepF] at h
    | cons p ps =>
      simp only [RepF] at h ⊢
      obtain ⟨ks, mid, h1, h2, h3, h4, h5, h6⟩ := h
      exact ⟨ks, mid, by omega, h2, by omega, h4, h5, ihr h6 (Int.le_refl _) hh⟩

/-- closing a finished child `q` (its subtree in `[q, hi)`) into a parent whose closed children lie
below `q`: the model's `Forest.snoc` -/
theorem RepF.snoc {heap : Heap} : ∀ (f : Forest) {lo hi q : Int} {ps ks : List Int} (u : Tree),
    RepF heap lo q ps f → lo ≤ q → q < hi → idx heap q = some (u.name, u.dist, ks) →
    RepF heap (q + 1) hi ks u.kids → RepF heap lo hi (ps ++ [q]) (f.snoc u) := by
  intro f
  induction f with
  | nil =>
    intro lo hi q ps ks u h hlo hq hc hk
    cases ps with
    | cons p ps => simp [RepF] at h
    | nil =>
      simp only [List.nil_append, Forest.snoc, RepF]
      exact ⟨ks, hi, hlo, hq, Int.le_refl _, hc, hk, trivial⟩
  | cons n d k r ihk ihr =>
    intro lo hi q ps ks u h hlo hq hc hk
    cases ps with
    | nil => simp [RepF] at h
    | cons p ps =>
      simp only [RepF] at h
      obtain ⟨ks', mid, h1, h2, h3, h4, h5, h6⟩ := h
      simp only [List.cons_append, Forest.snoc, RepF]
      exact ⟨ks', mid, h1, h2, by omega, h4, h5, ihr u h6 h3 hq hc hk⟩

/-! ## `RepT` -/

theorem RepT.frame {heap heap' : Heap} {p : Int} {t : Tree} (h : RepT heap p t)
    (hl : len heap ≤ len heap') (hfr : ∀ i, p ≤ i → i < len heap → idx heap' i = idx heap i) :
    RepT heap' p t := by
  obtain ⟨ks, h1, h2⟩ := h
  have hb := idx_some h1
  refine ⟨ks, ?_, ?_⟩
  · rw [hfr p (Int.le_refl _) hb.2]; exact h1
  · exact RepF.mono _ (RepF.frame _ h2 (fun i hi1 hi2 => hfr i (by omega) hi2)) (Int.le_refl _) hl

/-- appending cells does not disturb a represented tree -/
theorem RepT.append {heap : Heap} {p : Int} {t : Tree} (h : RepT heap p t) (m : Heap) :
    RepT (heap ++ m) p t :=
  RepT.frame h (by simp [len]; omega) (fun i _ hi => idx_append_lt heap m i hi)

/-! ## `Anc` -/

theorem NwkRd.Anc.root_le {heap : Heap} {root : Int} : ∀ {ps : List Int} {q : Int} {ts : List Tree},
    Anc heap root q ps ts → root ≤ q := by
  intro ps
  induction ps with
  | nil => intro q ts h; cases ts <;> simp [Anc] at h; omega
  | cons p ps ih =>
    intro q ts h
    cases ts with
    | nil => simp [Anc] at h
    | cons t ts =>
      simp only [Anc] at h
      obtain ⟨ks, h1, _, _, h4⟩ := h
      have := ih h4
      omega

/-- frame: `Anc … q` only reads cells below `q` -/
theorem NwkRd.Anc.frame {heap heap' : Heap} {root : Int} : ∀ {ps : List Int} {q : Int} {ts : List Tree},
    Anc heap root q ps ts → (∀ i, i < q → idx heap' i = idx heap i) → Anc heap' root q ps ts := by
  intro ps
  induction ps with
  | nil => intro q ts h _; cases ts <;> simp_all [Anc]
  | cons p ps ih =>
    intro q ts h hfr
    cases ts with
    | nil => simp [Anc] at h
    | cons t ts =>
      simp only [Anc] at h ⊢
      obtain ⟨ks, h1, h2, h3, h4⟩ := h
      refine ⟨ks, h1, ?_, ?_, ?_⟩
      · rw [hfr p h1]; exact h2
      · exact RepF.frame _ h3 (fun i _ hi2 => hfr i hi2)
      · exact ih h4 (fun i hi => hfr i (by omega))

/-! ## The simulation steps on the heap -/

/-- `(` : a new child `len heap` of the current node `p` -/
theorem nwk_sim_open {heap : Heap} {root p : Int} {ps : List Int} {cur : Tree} {stack : List Tree}
    {ks : List Int} (hc : idx heap p = some (cur.name, cur.dist, ks))
    (hk : RepF heap (p + 1) (len heap) ks cur.kids) (ha : Anc heap root p ps stack) :
    RepT (upd (heap ++ [zero]) p (cur.name, cur.dist, ks ++ [len heap])) (len heap) emptyNode ∧
    Anc (upd (heap ++ [zero]) p (cur.name, cur.dist, ks ++ [len heap])) root (len heap) (p :: ps)
      (cur :: stack) := by
  have hb := idx_some hc
  have hne : len heap ≠ p := by omega
  have hfr : ∀ i, i ≠ p → i < len heap →
      idx (upd (heap ++ [zero]) p (cur.name, cur.dist, ks ++ [len heap])) i = idx heap i := by
    intro i hi1 hi2
    rw [nwk_idx_upd_ne _ _ _ _ hb.1 hi1, idx_append_lt _ _ _ hi2]
  constructor
  · refine ⟨[], ?_, ?_⟩
    · rw [nwk_idx_upd_ne _ _ _ _ hb.1 hne, show len heap = ((heap.length : Nat) : Int) from rfl, idx_snoc_last]; rfl
    · simp [emptyNode, RepF]
  · simp only [Anc]
    refine ⟨ks, hb.2, ?_, ?_, ?_⟩
    · exact nwk_idx_upd_eq _ _ _ hb.1 (by rw [len_append_one]; omega)
    · exact RepF.frame _ hk (fun i hi1 hi2 => hfr i (by omega) hi2)
    · exact Anc.frame ha (fun i hi => hfr i (by omega) (by omega))

/-- `)` : the current node `p` is finished; its parent `p'` becomes the current node, representing
the model's `closeTop cur t` -/
theorem nwk_sim_close {heap : Heap} {root p p' : Int} {ps : List Int} {cur t : Tree}
    {stack : List Tree} (hr : RepT heap p cur) (ha : Anc heap root p (p' :: ps) (t :: stack)) :
    ∃ ks', idx heap p' = some ((closeTop cur t).name, (closeTop cur t).dist, ks') ∧
      RepF heap (p' + 1) (len heap) ks' (closeTop cur t).kids ∧ Anc heap root p' ps stack := by
  simp only [Anc] at ha
  obtain ⟨ks, h1, h2, h3, h4⟩ := ha
  obtain ⟨kc, hc1, hc2⟩ := hr
  have hb := idx_some hc1
  exact ⟨ks ++ [p], h2, RepF.snoc _ cur h3 (by omega) hb.2 hc1 hc2, h4⟩

/-- a write to the current node's own cell that keeps its `Children` -/
theorem nwk_sim_set {heap : Heap} {root p : Int} {ps : List Int} {cur : Tree} {stack : List Tree}
    {ks : List Int} (n : Bytes) (d : Dist) (hc : idx heap p = some (cur.name, cur.dist, ks))
    (hk : RepF heap (p + 1) (len heap) ks cur.kids) (ha : Anc heap root p ps stack) :
    idx (upd heap p (n, d, ks)) p = some (n, d, ks) ∧
    RepF (upd heap p (n, d, ks)) (p + 1) (len (upd heap p (n, d, ks))) ks cur.kids ∧
    Anc (upd heap p (n, d, ks)) root p ps stack := by
  have hb := idx_some hc
  refine ⟨nwk_idx_upd_eq _ _ _ hb.1 hb.2, ?_, ?_⟩
  · rw [nwk_len_upd]
    exact RepF.frame _ hk (fun i hi1 _ => nwk_idx_upd_ne _ _ _ _ hb.1 (by omega))
  · exact Anc.frame ha (fun i hi => nwk_idx_upd_ne _ _ _ _ hb.1 (by omega))

/-! ## Read-back -/

theorem forestOfList_absT {heap : Heap} : ∀ (f : Forest) {lo hi : Int} {ps : List Int} (fuel : Nat),
    RepF heap lo hi ps f → (hi - lo).toNat ≤ fuel →
    forestOfList (ps.map (absT heap fuel)) = f := by
  intro f
  induction f with
  | nil => intro lo hi ps fuel h _; cases ps <;> simp [RepF] at h; rfl
  | cons n d k r ihk ihr =>
    intro lo hi ps fuel h hf
    cases ps with
    | nil => simp [RepF] at h
    | cons p ps =>
      simp only [RepF] at h
      obtain ⟨ks, mid, h1, h2, h3, h4, h5, h6⟩ := h
      cases fuel with
      | zero => omega
      | succ fuel =>
        have e1 : absT heap (fuel + 1) p = ⟨n, d, k⟩ := by
          simp only [absT, h4]
          rw [ihk fuel h5 (by omega)]
        simp only [List.map_cons, forestOfList, e1]
        rw [ihr (fuel + 1) h6 (by omega)]

/-- reading back a represented tree gives that tree (any fuel ≥ the number of cells after `p`) -/
theorem absT_of_RepT {heap : Heap} {p : Int} {t : Tree} (h : RepT heap p t) (fuel : Nat)
    (hf : heap.length ≤ fuel + p.toNat) : absT heap fuel p = t := by
  obtain ⟨ks, h1, h2⟩ := h
  have hb := idx_some h1
  unfold len at hb h2
  cases fuel with
  | zero => omega
  | succ fuel =>
    simp only [absT, h1]
    rw [forestOfList_absT _ fuel h2 (by omega)]

end Bio.GoSrcLemmas

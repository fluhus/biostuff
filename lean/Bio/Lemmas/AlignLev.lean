/-
  Edit distance and the Levenshtein matrix: under `levMat` no alignment of two gap-free strings beats
  minus their edit distance, and one attains it.
-/
import Bio.Lemmas.AlignOpt
namespace Bio.Align

/-- Edit distance (insertions, deletions, substitutions, unit cost): the
Wagner–Fischer recurrence from the front of the strings, in the unconditional
three-way-minimum form. -/
def editDistance : Bytes → Bytes → Nat
  | [], b => b.length
  | a, [] => a.length
  | x :: a, y :: b =>
    min (editDistance a b + (if x = y then 0 else 1))
      (min (editDistance a (y :: b) + 1) (editDistance (x :: a) b + 1))

/-- `align.Levenshtein`: 0 on the diagonal (all 256 byte values, so also
`(GAP, GAP)`), -1 off the diagonal. -/
def levMat : Mat := fun x y => if x = y then 0 else -1

theorem editDistance_nil_left (b : Bytes) : editDistance [] b = b.length := by simp [editDistance]

theorem editDistance_nil_right (a : Bytes) : editDistance a [] = a.length := by
  cases a <;> simp [editDistance]

theorem editDistance_cons_cons (x y : UInt8) (a b : Bytes) :
    editDistance (x :: a) (y :: b) =
      min (editDistance a b + (if x = y then 0 else 1))
        (min (editDistance a (y :: b) + 1) (editDistance (x :: a) b + 1)) := by
  simp [editDistance]

theorem editDistance_cons_left_le (x : UInt8) (a b : Bytes) :
    editDistance (x :: a) b ≤ editDistance a b + 1 := by
  cases b with
  | nil => simp [editDistance_nil_right]
  | cons y b => rw [editDistance_cons_cons]; omega

theorem editDistance_cons_right_le (y : UInt8) (a b : Bytes) :
    editDistance a (y :: b) ≤ editDistance a b + 1 := by
  cases a with
  | nil => simp [editDistance_nil_left]
  | cons x a => rw [editDistance_cons_cons]; omega

theorem levMat_gap_gap : levMat GAP GAP = 0 := by simp [levMat]

theorem levMat_gap_right {x : UInt8} (h : x ≠ GAP) : levMat x GAP = -1 := by simp [levMat, h]

theorem levMat_gap_left {y : UInt8} (h : y ≠ GAP) : levMat GAP y = -1 := by
  simp [levMat, Ne.symm h]

theorem lev_le_ed {p : Step} {a b : Bytes} {s : List Step} {v : Int} {ra rb : Bytes}
    (h : Aligns levMat p a b s v ra rb) (hra : ra = []) (hrb : rb = []) (ha : GAP ∉ a)
    (hb : GAP ∉ b) : v ≤ -(editDistance a b : Int) := by
  induction h with
  | nil => subst hra hrb; simp [editDistance]
  | mch _ x y _ ih =>
    have := ih hra hrb (fun h => ha (List.mem_cons_of_mem _ h)) (fun h => hb (List.mem_cons_of_mem _ h))
    rw [editDistance_cons_cons]
    simp only [levMat]
    split <;> omega
  | @del _ x a b _ _ _ _ _ ih =>
    have := ih hra hrb (fun h => ha (List.mem_cons_of_mem _ h)) hb
    have := editDistance_cons_left_le x a b
    rw [levMat_gap_right (fun h => ha (h ▸ List.mem_cons_self)), Opt.openIf_zero levMat_gap_gap]
    omega
  | @ins _ y a b _ _ _ _ _ ih =>
    have := ih hra hrb ha (fun h => hb (List.mem_cons_of_mem _ h))
    have := editDistance_cons_right_le y a b
    rw [levMat_gap_left (fun h => hb (h ▸ List.mem_cons_self)), Opt.openIf_zero levMat_gap_gap]
    omega

/-- Follow the branch of the `min` that is attained.  `prev_irrel` (gap-open is 0) lets the induction
hypothesis, stated after `.none`, be used after any step. -/
theorem lev_attains_ed (a b : Bytes) : GAP ∉ a → GAP ∉ b →
    ∃ s, Aligns levMat .none a b s (-(editDistance a b : Int)) [] [] := by
  induction a generalizing b with
  | nil =>
    induction b with
    | nil => exact fun _ _ => ⟨[], (Aligns.nil ..).cast (by simp [editDistance])⟩
    | cons y b ihb =>
      intro ha hb
      obtain ⟨s, hs⟩ := ihb ha (fun h => hb (List.mem_cons_of_mem _ h))
      refine ⟨.ins :: s, (Aligns.ins _ y (Opt.prev_irrel levMat_gap_gap _ hs)).cast ?_⟩
      rw [levMat_gap_left (fun h => hb (h ▸ List.mem_cons_self)), Opt.openIf_zero levMat_gap_gap]
      simp [editDistance_nil_left]; omega
  | cons x a iha =>
    induction b with
    | nil =>
      intro ha hb
      obtain ⟨s, hs⟩ := iha [] (fun h => ha (List.mem_cons_of_mem _ h)) hb
      refine ⟨.del :: s, (Aligns.del _ x (Opt.prev_irrel levMat_gap_gap _ hs)).cast ?_⟩
      rw [levMat_gap_right (fun h => ha (h ▸ List.mem_cons_self)), Opt.openIf_zero levMat_gap_gap]
      simp [editDistance_nil_right]; omega
    | cons y b ihb =>
      intro ha hb
      have ha' : GAP ∉ a := fun h => ha (List.mem_cons_of_mem _ h)
      have hb' : GAP ∉ b := fun h => hb (List.mem_cons_of_mem _ h)
      have hE := editDistance_cons_cons x y a b
      have hcases : editDistance (x :: a) (y :: b) = editDistance a b + (if x = y then 0 else 1) ∨
          editDistance (x :: a) (y :: b) = editDistance a (y :: b) + 1 ∨
          editDistance (x :: a) (y :: b) = editDistance (x :: a) b + 1 := by omega
      rcases hcases with h | h | h
      · obtain ⟨s, hs⟩ := iha b ha' hb'
        refine ⟨.mch :: s, (Aligns.mch _ x y (Opt.prev_irrel levMat_gap_gap _ hs)).cast ?_⟩
        rw [h]; simp only [levMat]
        split <;> simp <;> omega
      · obtain ⟨s, hs⟩ := iha (y :: b) ha' hb
        refine ⟨.del :: s, (Aligns.del _ x (Opt.prev_irrel levMat_gap_gap _ hs)).cast ?_⟩
        rw [h, levMat_gap_right (fun h => ha (h ▸ List.mem_cons_self)), Opt.openIf_zero levMat_gap_gap]
        omega
      · obtain ⟨s, hs⟩ := ihb ha hb'
        refine ⟨.ins :: s, (Aligns.ins _ y (Opt.prev_irrel levMat_gap_gap _ hs)).cast ?_⟩
        rw [h, levMat_gap_left (fun h => hb (h ▸ List.mem_cons_self)), Opt.openIf_zero levMat_gap_gap]
        omega

end Bio.Align

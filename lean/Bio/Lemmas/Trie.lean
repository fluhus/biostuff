/-
  The trie as a set of maximal sequences (property C15): the abstraction `abs`
  (leaf paths), the invariant `NoDupKeys` (a Go map has distinct keys), what
  `has` / `add` / `del` / `ForEach` do to `abs`, histories of calls, and a reader
  of the JSON text `toJSON` writes.
-/
import Bio.Lemmas.Iter
import Bio.Lemmas.Codec
namespace Bio.Trie

/-- Paths from the root to the leaf nodes (nodes without edges), the root
itself excluded. -/
def abs : T → List Bytes
  | .nil => []
  | .cons k c r => (if c.isNil then [[k]] else (abs c).map (k :: ·)) ++ abs r

/-- Leaf paths of a *node*, the node itself included when it is a leaf. -/
def sub (c : T) : List Bytes := if c.isNil then [[]] else abs c

/-- `b` is the key of one of the edges of the node. -/
def hasKey (b : UInt8) : T → Bool
  | .nil => false
  | .cons k _ r => k == b || hasKey b r

def noDupKeysB : T → Bool
  | .nil => true
  | .cons k c r => !hasKey k r && noDupKeysB c && noDupKeysB r

/-- Sibling keys are distinct at every node (the Go `map` invariant). -/
def NoDupKeys (t : T) : Prop := noDupKeysB t = true

instance (t : T) : Decidable (NoDupKeys t) := by unfold NoDupKeys; infer_instance

@[simp] theorem noDupKeys_nil : NoDupKeys .nil := rfl

@[simp] theorem noDupKeys_cons {k c r} :
    NoDupKeys (.cons k c r) ↔ hasKey k r = false ∧ NoDupKeys c ∧ NoDupKeys r := by
  simp [NoDupKeys, noDupKeysB, and_assoc]

@[simp] theorem isNil_iff {t : T} : t.isNil = true ↔ t = .nil := T.isNil_iff t

@[simp] theorem isNil_false_iff {t : T} : t.isNil = false ↔ t ≠ .nil := by
  cases t <;> simp [T.isNil]

@[simp] theorem abs_nil : abs .nil = [] := rfl

@[simp] theorem sub_nil : sub .nil = [[]] := rfl

theorem sub_of_ne {c : T} (h : c ≠ .nil) : sub c = abs c := by
  cases c with
  | nil => exact absurd rfl h
  | cons => rfl

theorem abs_cons (k c r) : abs (.cons k c r) = (sub c).map (k :: ·) ++ abs r := by
  cases c <;> rfl

theorem sub_ne_nil (c : T) : sub c ≠ [] := by
  induction c with
  | nil => simp
  | cons k c r ihc _ => rw [sub_of_ne (by simp), abs_cons]; simp [ihc]

theorem abs_ne_nil {t : T} (h : t ≠ .nil) : abs t ≠ [] := sub_of_ne h ▸ sub_ne_nil t

theorem mem_abs_cons {y : Bytes} {k c r} :
    y ∈ abs (.cons k c r) ↔ (∃ ys, ys ∈ sub c ∧ y = k :: ys) ∨ y ∈ abs r := by
  rw [abs_cons]; simp [eq_comm]

theorem mem_sub {y : Bytes} {c : T} :
    y ∈ sub c ↔ (c = .nil ∧ y = []) ∨ (c ≠ .nil ∧ y ∈ abs c) := by
  cases c <;> simp [sub_of_ne]

theorem head_of_mem_abs : ∀ {t : T} {y : Bytes}, y ∈ abs t →
    ∃ k ys, y = k :: ys ∧ hasKey k t = true
  | .nil, y, h => by simp at h
  | .cons k c r, y, h => by
    rcases mem_abs_cons.1 h with ⟨ys, _, rfl⟩ | h
    · exact ⟨k, ys, rfl, by simp [hasKey]⟩
    · obtain ⟨k', ys, rfl, hk⟩ := head_of_mem_abs h
      exact ⟨k', ys, rfl, by simp [hasKey, hk]⟩

theorem not_prefix_of_not_hasKey {t : T} {k : UInt8} {y : Bytes} (h : hasKey k t = false)
    (hy : y ∈ abs t) (p : Bytes) : ¬ (k :: p) <+: y ∧ ¬ y <+: (k :: p) := by
  obtain ⟨k', ys, rfl, hk'⟩ := head_of_mem_abs hy
  have hne : k ≠ k' := by rintro rfl; rw [h] at hk'; exact Bool.noConfusion hk'
  simp [List.cons_prefix_cons, hne, Ne.symm hne]

theorem ne_nil_of_mem_abs {t : T} {y : Bytes} (h : y ∈ abs t) : y ≠ [] := by
  obtain ⟨k, ys, rfl, _⟩ := head_of_mem_abs h
  simp

theorem exists_prefix_sub {c : T} {x : Bytes} :
    (∃ m ∈ sub c, x <+: m) ↔ x = [] ∨ ∃ m ∈ abs c, x <+: m := by
  by_cases h : c = .nil
  · subst h; simp
  · rw [sub_of_ne h]
    constructor
    · exact Or.inr
    · rintro (rfl | h')
      · obtain ⟨m, hm⟩ := List.exists_mem_of_ne_nil _ (abs_ne_nil h)
        exact ⟨m, hm, List.nil_prefix⟩
      · exact h'

theorem has_iff_sub (t : T) (x : Bytes) (h : NoDupKeys t) :
    has x t = true ↔ ∃ m ∈ sub t, x <+: m := by
  induction t generalizing x with
  | nil => cases x <;> simp [has]
  | cons k c r ihc ihr =>
    cases x with
    | nil =>
      obtain ⟨m, hm⟩ := List.exists_mem_of_ne_nil _ (sub_ne_nil (.cons k c r))
      exact iff_of_true (by simp [has]) ⟨m, hm, List.nil_prefix⟩
    | cons b bs =>
      obtain ⟨hk, hc, hr⟩ := noDupKeys_cons.1 h
      rw [sub_of_ne (by simp), has]
      by_cases hkb : k = b
      · subst hkb
        rw [if_pos (beq_self_eq_true k), ihc bs hc]
        constructor
        · rintro ⟨m, hm, hp⟩
          exact ⟨k :: m, mem_abs_cons.2 (Or.inl ⟨m, hm, rfl⟩), by simpa using hp⟩
        · rintro ⟨m, hm, hp⟩
          rcases mem_abs_cons.1 hm with ⟨ys, hys, rfl⟩ | hm
          · exact ⟨ys, hys, by simpa using hp⟩
          · exact absurd hp (not_prefix_of_not_hasKey hk hm bs).1
      · -- a sibling list has no empty member, so `sub r` and `abs r` offer the same to `b :: bs`
        rw [if_neg (by simpa using hkb), ihr (b :: bs) hr, exists_prefix_sub]
        simp only [reduceCtorEq, false_or]
        constructor
        · rintro ⟨m, hm, hp⟩
          exact ⟨m, mem_abs_cons.2 (Or.inr hm), hp⟩
        · rintro ⟨m, hm, hp⟩
          rcases mem_abs_cons.1 hm with ⟨ys, hys, rfl⟩ | hm
          · exact absurd (List.cons_prefix_cons.1 hp).1.symm hkb
          · exact ⟨m, hm, hp⟩

theorem has_iff_abs (t : T) (x : Bytes) (h : NoDupKeys t) :
    has x t = true ↔ x = [] ∨ ∃ m ∈ abs t, x <+: m := by
  rw [has_iff_sub t x h, exists_prefix_sub]

theorem has_congr {t t' : T} (h : NoDupKeys t) (h' : NoDupKeys t')
    (hm : ∀ y, y ∈ abs t' ↔ y ∈ abs t) (x : Bytes) : has x t' = has x t := by
  rw [Bool.eq_iff_iff, has_iff_abs t' x h', has_iff_abs t x h]
  simp only [hm]

@[simp] theorem add_nil_left (t : T) : add [] t = t := by cases t <;> rfl

theorem chain_eq_nil {b : Bytes} : chain b = .nil ↔ b = [] := by
  cases b <;> simp [chain]

theorem sub_chain : ∀ b : Bytes, sub (chain b) = [b]
  | [] => rfl
  | b :: bs => by simp [chain, sub_of_ne, abs_cons, sub_chain bs]

theorem noDupKeys_chain : ∀ b : Bytes, NoDupKeys (chain b)
  | [] => rfl
  | b :: bs => by simp [chain, hasKey, noDupKeys_chain bs]

theorem add_ne_nil {b : Bytes} (hb : b ≠ []) (t : T) : add b t ≠ .nil := by
  cases b with
  | nil => exact absurd rfl hb
  | cons b bs =>
    cases t with
    | nil => simp [add]
    | cons k c r => rw [add]; split <;> simp

theorem hasKey_add : ∀ (t : T) (b : UInt8) (bs : Bytes) (x : UInt8),
    hasKey x (add (b :: bs) t) = (hasKey x t || b == x)
  | .nil, b, bs, x => by simp [add, hasKey]
  | .cons k c r, b, bs, x => by
    rw [add]
    split
    · rename_i h
      rw [beq_iff_eq.1 h]
      simp only [hasKey]
      cases b == x <;> simp
    · rw [hasKey, hasKey, hasKey_add r b bs x, Bool.or_assoc]

theorem noDupKeys_add : ∀ (b : Bytes) (t : T), NoDupKeys t → NoDupKeys (add b t)
  | [], t, h => by simpa using h
  | b :: bs, .nil, _ => by simp [add, hasKey, noDupKeys_chain bs]
  | b :: bs, .cons k c r, h => by
    obtain ⟨hk, hc, hr⟩ := noDupKeys_cons.1 h
    rw [add]
    split
    · exact noDupKeys_cons.2 ⟨hk, noDupKeys_add bs c hc, hr⟩
    · rename_i hkb
      refine noDupKeys_cons.2 ⟨?_, hc, noDupKeys_add (b :: bs) r hr⟩
      rw [hasKey_add, hk, Bool.false_or]
      exact beq_eq_false_iff_ne.2 fun e => hkb (beq_iff_eq.2 e.symm)

theorem add_of_has : ∀ (b : Bytes) (t : T), has b t = true → add b t = t
  | [], t, _ => by simp
  | _ :: _, .nil, h => by simp [has] at h
  | b :: bs, .cons k c r, h => by
    rw [has] at h
    rw [add]
    split
    · rename_i hkb
      rw [add_of_has bs c (by rwa [if_pos hkb] at h)]
    · rename_i hkb
      rw [add_of_has (b :: bs) r (by rwa [if_neg hkb] at h)]

theorem mem_sub_add_aux (c : T) (bs : Bytes) (hbs : bs ≠ [])
    (ih : ∀ y, y ∈ abs (add bs c) ↔ y = bs ∨ (y ∈ abs c ∧ ¬ y <+: bs)) (ys : Bytes) :
    ys ∈ sub (add bs c) ↔ ys = bs ∨ (ys ∈ sub c ∧ ¬ ys <+: bs) := by
  rw [sub_of_ne (add_ne_nil hbs c), ih]
  cases c with
  | nil =>
    simp only [abs_nil, List.not_mem_nil, false_and, or_false, sub_nil, List.mem_singleton]
    exact ⟨Or.inl, fun h => h.elim id fun ⟨e, h⟩ => absurd (e ▸ List.nil_prefix) h⟩
  | cons => rfl

theorem mem_abs_add_of_not_has : ∀ (b : Bytes) (t : T), NoDupKeys t → has b t = false →
    ∀ y, y ∈ abs (add b t) ↔ y = b ∨ (y ∈ abs t ∧ ¬ y <+: b)
  | [], t, _, h => by simp [has] at h
  | b :: bs, .nil, _, _ => by
    intro y
    rw [add, abs_cons, sub_chain]; simp
  | b :: bs, .cons k c r, hnd, h => by
    intro y
    obtain ⟨hk, hc, hr⟩ := noDupKeys_cons.1 hnd
    rw [has] at h
    rw [add]
    split
    · rename_i hkb
      rw [if_pos hkb] at h
      cases beq_iff_eq.1 hkb
      have hbs : bs ≠ [] := by rintro rfl; simp [has] at h
      have ih := mem_sub_add_aux c bs hbs (mem_abs_add_of_not_has bs c hc h)
      rw [mem_abs_cons, mem_abs_cons]
      constructor
      · rintro (⟨ys, hys, rfl⟩ | hy)
        · rcases (ih ys).1 hys with rfl | ⟨h1, h2⟩
          · exact Or.inl rfl
          · exact Or.inr ⟨Or.inl ⟨ys, h1, rfl⟩, by simpa using h2⟩
        · exact Or.inr ⟨Or.inr hy, (not_prefix_of_not_hasKey hk hy bs).2⟩
      · rintro (rfl | ⟨⟨ys, hys, rfl⟩ | hy, hnp⟩)
        · exact Or.inl ⟨bs, (ih bs).2 (Or.inl rfl), rfl⟩
        · exact Or.inl ⟨ys, (ih ys).2 (Or.inr ⟨hys, by simpa using hnp⟩), rfl⟩
        · exact Or.inr hy
    · rename_i hkb
      rw [if_neg hkb] at h
      have hkb : k ≠ b := by simpa using hkb
      rw [mem_abs_cons, mem_abs_cons, mem_abs_add_of_not_has (b :: bs) r hr h]
      constructor
      · rintro (⟨ys, hys, rfl⟩ | rfl | ⟨hy, hnp⟩)
        · exact Or.inr ⟨Or.inl ⟨ys, hys, rfl⟩, by simp [hkb]⟩
        · exact Or.inl rfl
        · exact Or.inr ⟨Or.inr hy, hnp⟩
      · rintro (rfl | ⟨⟨ys, hys, rfl⟩ | hy, hnp⟩)
        · exact Or.inr (Or.inl rfl)
        · exact Or.inl ⟨ys, hys, rfl⟩
        · exact Or.inr (Or.inr ⟨hy, hnp⟩)

@[simp] theorem del_nil_left (t : T) : del [] t = some t := by cases t <;> rfl

theorem del_cons_nil (b : UInt8) (bs : Bytes) : del (b :: bs) .nil = none := rfl

theorem del_cons_cons_eq_single (k : UInt8) (c r : T) : del [k] (.cons k c r) = some r := by
  simp [del]

theorem del_cons_cons_eq (k b1 : UInt8) (bs : Bytes) (c r : T) :
    del (k :: b1 :: bs) (.cons k c r) =
      match del (b1 :: bs) c with
      | none => none
      | some c' => if c'.isNil then some r else some (.cons k c' r) := by
  simp only [del, beq_self_eq_true, if_true]
  cases del (b1 :: bs) c <;> rfl

theorem del_cons_cons_ne {k b : UInt8} (h : k ≠ b) (bs : Bytes) (c r : T) :
    del (b :: bs) (.cons k c r) = (del (b :: bs) r).map (.cons k c ·) := by
  have : (k == b) = false := by simpa using h
  cases bs <;> simp [del, this]

theorem del_cases {b k : UInt8} {bs : Bytes} {c r t' : T}
    (h : del (b :: bs) (.cons k c r) = some t') :
    (k = b ∧ bs = [] ∧ t' = r) ∨
    (k = b ∧ bs ≠ [] ∧ ∃ c', del bs c = some c' ∧ t' = if c'.isNil then r else .cons k c' r) ∨
    (k ≠ b ∧ ∃ r', del (b :: bs) r = some r' ∧ t' = .cons k c r') := by
  by_cases hkb : k = b
  · subst hkb
    cases bs with
    | nil => rw [del_cons_cons_eq_single] at h; cases h; exact Or.inl ⟨rfl, rfl, rfl⟩
    | cons b1 bs =>
      rw [del_cons_cons_eq] at h
      cases hd : del (b1 :: bs) c with
      | none => rw [hd] at h; cases h
      | some c' =>
        refine Or.inr (Or.inl ⟨rfl, by simp, c', rfl, ?_⟩)
        rw [hd] at h
        dsimp only at h
        rw [← apply_ite some] at h
        exact (Option.some.inj h).symm
  · rw [del_cons_cons_ne hkb] at h
    obtain ⟨r', hd, rfl⟩ := Option.map_eq_some_iff.1 h
    exact Or.inr (Or.inr ⟨hkb, r', hd, rfl⟩)

/-- `Delete` fails exactly when `Has` fails (no invariant needed: same walk). -/
theorem isSome_del : ∀ (b : Bytes) (t : T), (del b t).isSome = has b t
  | [], t => by simp [has]
  | _ :: _, .nil => rfl
  | b :: bs, .cons k c r => by
    by_cases hkb : k = b
    · subst hkb
      cases bs with
      | nil => simp [del_cons_cons_eq_single, has]
      | cons b1 bs =>
        rw [del_cons_cons_eq, has, if_pos (beq_self_eq_true k), ← isSome_del]
        cases del (b1 :: bs) c with
        | none => rfl
        | some c' => dsimp only; split <;> rfl
    · rw [del_cons_cons_ne hkb, has, if_neg (by simpa using hkb), ← isSome_del, Option.isSome_map]

theorem del_eq_none_iff (b : Bytes) (t : T) : del b t = none ↔ has b t = false := by
  rw [← isSome_del, Option.isSome_eq_false_iff, Option.isNone_iff_eq_none]

theorem not_hasKey_of_del : ∀ {b : Bytes} {t t' : T} {x : UInt8}, del b t = some t' →
    hasKey x t = false → hasKey x t' = false
  | [], t, t', x, h, hx => by cases (del_nil_left t).symm.trans h; exact hx
  | _ :: _, .nil, _, _, h, _ => by cases h
  | b :: bs, .cons k c r, t', x, h, hx => by
    simp only [hasKey, Bool.or_eq_false_iff] at hx
    rcases del_cases h with ⟨_, _, rfl⟩ | ⟨_, _, c', _, rfl⟩ | ⟨_, r', hd, rfl⟩
    · exact hx.2
    · split
      · exact hx.2
      · simp [hasKey, hx]
    · simp [hasKey, hx.1, not_hasKey_of_del hd hx.2]

theorem noDupKeys_del : ∀ (b : Bytes) (t t' : T), del b t = some t' → NoDupKeys t → NoDupKeys t'
  | [], t, t', h, hnd => by cases (del_nil_left t).symm.trans h; exact hnd
  | _ :: _, .nil, _, h, _ => by cases h
  | b :: bs, .cons k c r, t', h, hnd => by
    obtain ⟨hk, hc, hr⟩ := noDupKeys_cons.1 hnd
    rcases del_cases h with ⟨_, _, rfl⟩ | ⟨_, _, c', hd, rfl⟩ | ⟨_, r', hd, rfl⟩
    · exact hr
    · split
      · exact hr
      · exact noDupKeys_cons.2 ⟨hk, noDupKeys_del _ c c' hd hc, hr⟩
    · exact noDupKeys_cons.2 ⟨not_hasKey_of_del hd hk, hc, noDupKeys_del _ r r' hd hr⟩

theorem filter_prefix_abs_of_not_hasKey {r : T} {k : UInt8} (hk : hasKey k r = false) (p : Bytes) :
    (abs r).filter (fun y => !(k :: p).isPrefixOf y) = abs r :=
  List.filter_eq_self.2 fun y hy => by
    rw [Bool.not_eq_true', ← Bool.not_eq_true, List.isPrefixOf_iff_prefix]
    exact (not_prefix_of_not_hasKey hk hy p).1

theorem filter_prefix_map_cons (b k : UInt8) (bs : Bytes) (l : List Bytes) :
    (l.map (k :: ·)).filter (fun y => !(b :: bs).isPrefixOf y) =
      if k = b then (l.filter fun y => !bs.isPrefixOf y).map (k :: ·) else l.map (k :: ·) := by
  rw [List.filter_map]
  split
  · rename_i h; subst h
    congr 2; funext y; simp [List.isPrefixOf]
  · rename_i h
    rw [List.filter_eq_self.2]
    intro y _
    simp [List.isPrefixOf, Ne.symm h]

/-- The members after a successful `Delete` are exactly the old members that do
not have the deleted prefix, in the old order: in particular no childless
remnant of the deleted path survives as a new member. -/
theorem abs_del : ∀ (b : Bytes) (t t' : T), b ≠ [] → NoDupKeys t → del b t = some t' →
    abs t' = (abs t).filter fun y => !b.isPrefixOf y
  | [], _, _, hb, _, _ => absurd rfl hb
  | _ :: _, .nil, _, _, _, h => by cases h
  | b :: bs, .cons k c r, t', _, hnd, h => by
    obtain ⟨hk, hc, hr⟩ := noDupKeys_cons.1 hnd
    rw [abs_cons, List.filter_append, filter_prefix_map_cons]
    rcases del_cases h with ⟨rfl, rfl, rfl⟩ | ⟨rfl, hbs, c', hd, rfl⟩ | ⟨hkb, r', hd, rfl⟩
    · rw [if_pos rfl, filter_prefix_abs_of_not_hasKey hk]
      simp [List.isPrefixOf]
    · have hcne : c ≠ .nil := by
        rintro rfl
        obtain ⟨b1, bs', rfl⟩ := List.exists_cons_of_ne_nil hbs
        cases (del_cons_nil b1 bs').symm.trans hd
      rw [if_pos rfl, filter_prefix_abs_of_not_hasKey hk, sub_of_ne hcne, ← abs_del bs c c' hbs hc hd]
      split
      · rename_i hnil
        simp [isNil_iff.1 hnil]
      · rename_i hnil
        rw [abs_cons, sub_of_ne (by simpa using hnil)]
    · rw [if_neg hkb, abs_cons, abs_del _ r r' (by simp) hr hd]

theorem mem_abs_del (b : Bytes) (t t' : T) (hb : b ≠ []) (h : NoDupKeys t) (hd : del b t = some t')
    (y : Bytes) : y ∈ abs t' ↔ y ∈ abs t ∧ ¬ b <+: y := by
  rw [abs_del b t t' hb h hd, List.mem_filter, Bool.not_eq_true', ← Bool.not_eq_true,
    List.isPrefixOf_iff_prefix]

theorem abs_nodup : ∀ (t : T), NoDupKeys t → (abs t).Nodup
  | .nil, _ => by simp
  | .cons k c r, hnd => by
    obtain ⟨hk, hc, hr⟩ := noDupKeys_cons.1 hnd
    rw [abs_cons, List.nodup_append]
    refine ⟨?_, abs_nodup r hr, ?_⟩
    · have : (sub c).Nodup := by
        cases c with
        | nil => simp
        | cons => exact abs_nodup _ hc
      rw [List.Nodup, List.pairwise_map]
      exact this.imp (fun h => by simpa using h)
    · rintro _ ha b hb rfl
      obtain ⟨ys, _, rfl⟩ := List.mem_map.1 ha
      exact (not_prefix_of_not_hasKey hk hb ys).1 (List.prefix_refl _)

theorem abs_antichain : ∀ (t : T), NoDupKeys t →
    ∀ m1 ∈ abs t, ∀ m2 ∈ abs t, m1 <+: m2 → m1 = m2
  | .nil, _ => by simp
  | .cons k c r, hnd => by
    obtain ⟨hk, hc, hr⟩ := noDupKeys_cons.1 hnd
    intro m1 h1 m2 h2 hp
    rcases mem_abs_cons.1 h1 with ⟨y1, hy1, rfl⟩ | h1 <;>
      rcases mem_abs_cons.1 h2 with ⟨y2, hy2, rfl⟩ | h2
    · rw [List.cons_prefix_cons] at hp
      cases c with
      | nil =>
        rw [sub_nil, List.mem_singleton] at hy1 hy2
        rw [hy1, hy2]
      | cons => rw [abs_antichain _ hc y1 hy1 y2 hy2 hp.2]
    · exact absurd hp (not_prefix_of_not_hasKey hk h2 y1).1
    · exact absurd hp (not_prefix_of_not_hasKey hk h1 y2).2
    · exact abs_antichain r hr m1 h1 m2 h2 hp

theorem leavesFrom_eq_abs (p : Bytes) (t : T) : leavesFrom p t = (abs t).map (p ++ ·) := by
  induction t generalizing p with
  | nil => rfl
  | cons k c r ihc ihr =>
    rw [leavesFrom, ihc, ihr, abs]
    cases c <;> simp [T.isNil]

/-- With a consumer that never stops, `ForEach` reports exactly the leaf paths,
each once, in edge order; the root is never reported. -/
theorem members_eq_abs (t : T) : members t = abs t := by
  rw [members, forEachLog, eachLoop_start _ t _ (by omega), leaves, leavesFrom_eq_abs]
  simp [takeThrough_false]

inductive Op where
  | add (b : Bytes)
  | del (b : Bytes)
  deriving Repr, DecidableEq

/-- One call: the new trie and, for `Delete`, the returned flag.  A failed
`Delete` leaves the trie unchanged. -/
def step : Op → T → T × Option Bool
  | .add b, t => (add b t, none)
  | .del b, t =>
    match del b t with
    | none => (t, some false)
    | some t' => (t', some true)

def run : List Op → T → T
  | [], t => t
  | op :: ops, t => run ops (step op t).1

/-- The values returned by the calls of the history, in order. -/
def results : List Op → T → List (Option Bool)
  | [], _ => []
  | op :: ops, t => (step op t).2 :: results ops (step op t).1

/-! ## The size of the trie (a bound on the fuel `ForEach` needs) -/

theorem size_chain : ∀ b : Bytes, (chain b).size = b.length
  | [] => rfl
  | k :: bs => by simp [chain, T.size, size_chain bs]; omega

theorem size_add : ∀ (b : Bytes) (t : T), (add b t).size ≤ t.size + b.length
  | [], t => by simp
  | k :: bs, .nil => by simp [add, T.size, size_chain]; omega
  | k :: bs, .cons k' c r => by
    rw [add]
    split
    · have := size_add bs c; simp only [T.size, List.length_cons]; omega
    · have := size_add (k :: bs) r; simp only [T.size, List.length_cons] at this ⊢; omega

theorem size_del : ∀ (b : Bytes) (t t' : T), del b t = some t' → t'.size ≤ t.size
  | [], t, t', h => by cases (del_nil_left t).symm.trans h; exact Nat.le_refl _
  | _ :: _, .nil, _, h => by cases h
  | b :: bs, .cons k c r, t', h => by
    rcases del_cases h with ⟨_, _, rfl⟩ | ⟨_, _, c', hd, rfl⟩ | ⟨_, r', hd, rfl⟩
    · simp only [T.size]; omega
    · have := size_del bs c c' hd
      split <;> simp only [T.size] <;> omega
    · have := size_del _ r r' hd
      simp only [T.size]; omega

/-! ## JSON: a reader of exactly the text `toJSON` writes -/

/-- `{"m":{` -/
def openB : Bytes := [123, 34, 109, 34, 58, 123]
/-- `}}` -/
def closeB : Bytes := [125, 125]

/-- Remove the prefix `p`, if it is there. -/
def dropPre : Bytes → Bytes → Option Bytes
  | [], s => some s
  | _ :: _, [] => none
  | a :: p, b :: s => if a == b then dropPre p s else none

/-- Reads the entries of one object up to and including its closing `}}`;
the opening `{"m":{` has been consumed.  `first`: no entry has been read yet
(only then may the object be empty).  An entry is `"<decimal>":<object>` with a
canonical decimal below 256; entries are separated by single commas. -/
def parseEntries : Nat → Bool → Bytes → Option (T × Bytes)
  | 0, _, _ => none
  | fuel + 1, first, s =>
    match (if first then dropPre closeB s else none) with
    | some rest => some (.nil, rest)
    | none =>
      match dropPre [34] s with
      | none => none
      | some s1 =>
        let ds := s1.takeWhile isDigit
        match parseNat ds with
        | none => none
        | some n =>
          if n < 256 ∧ natDigits n = ds then
            match dropPre (34 :: 58 :: openB) (s1.dropWhile isDigit) with
            | none => none
            | some s2 =>
              match parseEntries fuel true s2 with
              | none => none
              | some (c, s3) =>
                match dropPre closeB s3 with
                | some s4 => some (.cons (UInt8.ofNat n) c .nil, s4)
                | none =>
                  match dropPre [44] s3 with
                  | none => none
                  | some s4 =>
                    match parseEntries fuel false s4 with
                    | none => none
                    | some (r, s5) => some (.cons (UInt8.ofNat n) c r, s5)
          else none

/-- `UnmarshalJSON` restricted to the texts `MarshalJSON` produces. -/
def fromJSON (s : Bytes) : Option T :=
  match dropPre openB s with
  | none => none
  | some s1 =>
    match parseEntries (s.length + 1) true s1 with
    | some (t, []) => some t
    | _ => none

theorem dropPre_append (p s : Bytes) : dropPre p (p ++ s) = some s := by
  induction p with
  | nil => rfl
  | cons a p ih => simp [dropPre, ih]

theorem dropPre_ne {a b : UInt8} (h : a ≠ b) (p s : Bytes) : dropPre (a :: p) (b :: s) = none := by
  simp [dropPre, h]

/-- `u` is `r` with the edge `(k, c)` inserted somewhere. -/
inductive Ins (k : UInt8) (c : T) : T → T → Prop
  | here (r : T) : Ins k c r (.cons k c r)
  | there (k' : UInt8) (c' : T) {r u : T} : Ins k c r u → Ins k c (.cons k' c' r) (.cons k' c' u)

/-- Same trie up to the order of the edges at every node. -/
inductive Sim : T → T → Prop
  | nil : Sim .nil .nil
  | cons {k : UInt8} {c c' r r' u : T} : Sim c c' → Sim r r' → Ins k c' r' u → Sim (.cons k c r) u

theorem Ins.hasKey {k c r u} (h : Ins k c r u) (x : UInt8) :
    hasKey x u = (k == x || hasKey x r) := by
  induction h with
  | here r => rfl
  | there k' c' _ ih =>
    simp only [Trie.hasKey, ih]
    cases k' == x <;> cases k == x <;> simp

theorem Ins.mem_abs {k c r u} (h : Ins k c r u) (y : Bytes) :
    y ∈ abs u ↔ y ∈ abs (.cons k c r) := by
  induction h with
  | here r => exact Iff.rfl
  | there k' c' _ ih =>
    rw [mem_abs_cons, ih, mem_abs_cons, mem_abs_cons, mem_abs_cons]
    exact or_left_comm

theorem Ins.noDupKeys {k c r u} (h : Ins k c r u) :
    NoDupKeys u ↔ NoDupKeys (.cons k c r) := by
  induction h with
  | here r => exact Iff.rfl
  | there k' c' hi ih =>
    rename_i r u
    rw [noDupKeys_cons, ih, noDupKeys_cons, noDupKeys_cons, noDupKeys_cons, hi.hasKey]
    simp only [Trie.hasKey, Bool.or_eq_false_iff, beq_eq_false_iff_ne, ne_eq]
    constructor
    · rintro ⟨⟨h1, h2⟩, h3, h4, h5, h6⟩
      exact ⟨⟨fun h => h1 h.symm, h4⟩, h5, h2, h3, h6⟩
    · rintro ⟨⟨h1, h2⟩, h3, h4, h5, h6⟩
      exact ⟨⟨fun h => h1 h.symm, h4⟩, h5, h2, h3, h6⟩

theorem Ins.ne_nil {k c r u} (h : Ins k c r u) : u ≠ .nil := by
  cases h <;> simp

theorem Sim.nil_iff {t t'} (h : Sim t t') : t = .nil ↔ t' = .nil := by
  cases h with
  | nil => simp
  | cons _ _ hi => simp [hi.ne_nil]

theorem Sim.hasKey {t t'} (h : Sim t t') (x : UInt8) : hasKey x t' = hasKey x t := by
  induction h with
  | nil => rfl
  | cons _ _ hi _ ihr => rw [hi.hasKey, ihr]; rfl

theorem Sim.mem_abs {t t'} (h : Sim t t') : ∀ y, y ∈ abs t' ↔ y ∈ abs t := by
  induction h with
  | nil => intro y; exact Iff.rfl
  | @cons k c c' r r' u hc hr hi ihc ihr =>
    intro y
    rw [hi.mem_abs, mem_abs_cons, mem_abs_cons, ihr]
    have : ∀ ys, ys ∈ sub c' ↔ ys ∈ sub c := fun ys => by
      rw [mem_sub, mem_sub, ihc ys, ne_eq, ne_eq, hc.nil_iff]
    simp only [this]

theorem Sim.noDupKeys {t t'} (h : Sim t t') : NoDupKeys t' ↔ NoDupKeys t := by
  induction h with
  | nil => exact Iff.rfl
  | cons hc hr hi ihc ihr =>
    rw [hi.noDupKeys, noDupKeys_cons, noDupKeys_cons, ihc, ihr, hr.hasKey]

/-- The reader, given enough fuel, turns `body` followed by anything into `u`
and leaves what follows.  Every call of `parseEntries` consumes a byte before it
calls itself, so the length of the text bounds the fuel (`fromJSON` passes `s.length + 1`). -/
def Parses (body : Bytes) (first : Bool) (u : T) : Prop :=
  ∀ fuel rest, body.length < fuel → parseEntries fuel first (body ++ rest) = some (u, rest)

/-- The entry list consists of canonical keys and readable objects, and `u`
is what reading them one after the other gives. -/
inductive EntsOK : List (Bytes × Bytes) → T → Prop
  | nil : EntsOK [] .nil
  | cons (k : UInt8) {body : Bytes} {c u : T} {E : List (Bytes × Bytes)} :
      Parses body true c → EntsOK E u →
      EntsOK ((natDigits k.toNat, openB ++ body) :: E) (.cons k c u)

theorem takeWhile_digits (n : Nat) (s : Bytes) :
    (natDigits n ++ 34 :: s).takeWhile isDigit = natDigits n := by
  rw [List.takeWhile_append_of_pos (natDigits_isDigit n)]
  simp [List.takeWhile, isDigit]

theorem dropWhile_digits (n : Nat) (s : Bytes) :
    (natDigits n ++ 34 :: s).dropWhile isDigit = 34 :: s := by
  rw [List.dropWhile_append_of_pos (natDigits_isDigit n)]
  simp [List.dropWhile, isDigit]

theorem parseEntries_entry (k : UInt8) (body tail : Bytes) (c : T) (first : Bool) (fuel : Nat)
    (hp : Parses body true c) (hf : body.length < fuel) :
    parseEntries (fuel + 1) first
        (34 :: (natDigits k.toNat ++ 34 :: 58 :: (openB ++ (body ++ tail)))) =
      match dropPre closeB tail with
      | some s4 => some (.cons k c .nil, s4)
      | none =>
        match dropPre [44] tail with
        | none => none
        | some s4 =>
          match parseEntries fuel false s4 with
          | none => none
          | some (r, s5) => some (.cons k c r, s5) := by
  have h1 : ∀ x, (if first = true then dropPre closeB (34 :: x) else none) = none := fun x => by
    split
    · exact dropPre_ne (by decide) _ _
    · rfl
  have h2 : ∀ x, dropPre [34] (34 :: x) = some x := fun x => by simp [dropPre]
  have h3 : dropPre (34 :: 58 :: openB) (34 :: (58 :: (openB ++ (body ++ tail)))) =
      some (body ++ tail) := dropPre_append (34 :: 58 :: openB) (body ++ tail)
  have hk : k.toNat < 256 := UInt8.toNat_lt k
  rw [parseEntries]
  simp only [h1, h2, takeWhile_digits, dropWhile_digits, parseNat_natDigits, hk, true_and,
    if_true, h3, hp fuel tail hf, UInt8.ofNat_toNat]

theorem parses_close : Parses closeB true .nil := by
  intro fuel rest hf
  cases fuel with
  | zero => simp at hf
  | succ fuel =>
    rw [parseEntries]
    simp [dropPre_append]

theorem parses_entries {E : List (Bytes × Bytes)} {u : T} (h : EntsOK E u) :
    E ≠ [] → ∀ first, Parses (renderEntries E ++ closeB) first u := by
  induction h with
  | nil => intro h; exact absurd rfl h
  | @cons k body c u E hp hE ih =>
    intro _ first fuel rest hf
    cases fuel with
    | zero => simp at hf
    | succ fuel =>
      cases E with
      | nil =>
        cases hE
        simp only [renderEntries, List.append_assoc, List.cons_append, List.length_cons,
          List.length_append] at hf ⊢
        rw [parseEntries_entry k body (closeB ++ rest) c first fuel hp (by omega)]
        simp [dropPre_append]
      | cons e es =>
        have ih' := ih (by simp) false fuel rest
        simp only [renderEntries, List.append_assoc, List.cons_append, List.length_cons,
          List.length_append] at hf ih' ⊢
        rw [parseEntries_entry k body _ c first fuel hp (by omega)]
        have hc : ∀ x, dropPre closeB (44 :: x) = none :=
          fun x => dropPre_ne (a := 125) (b := 44) (by decide) [125] x
        have h44 : ∀ x, dropPre [44] (44 :: x) = some x := fun x => by simp [dropPre]
        simp only [hc, h44]
        rw [ih' (by omega)]

theorem parses_of_entsOK {E : List (Bytes × Bytes)} {u : T} (h : EntsOK E u) :
    Parses (renderEntries E ++ closeB) true u := by
  cases E with
  | nil => cases h; exact parses_close
  | cons e es => exact parses_entries h (by simp) true

theorem entsOK_insertE (k : UInt8) {body : Bytes} {c : T} (hp : Parses body true c)
    {E : List (Bytes × Bytes)} {u : T} (h : EntsOK E u) :
    ∃ u', Ins k c u u' ∧ EntsOK (toJSON.insertE (natDigits k.toNat, openB ++ body) E) u' := by
  induction h with
  | nil => exact ⟨_, .here _, .cons k hp .nil⟩
  | @cons k' body' c' u E hp' hE ih =>
    rw [toJSON.insertE]
    split
    · exact ⟨_, .here _, .cons k hp (.cons k' hp' hE)⟩
    · obtain ⟨u', hi, he⟩ := ih
      exact ⟨_, .there k' c' hi, .cons k' hp' he⟩

theorem toJSON_eq (t : T) :
    toJSON t = openB ++ (renderEntries (toJSON.entries t) ++ closeB) := by
  rw [toJSON]; simp [openB, closeB]

theorem entsOK_entries : ∀ t : T, ∃ t', Sim t t' ∧ EntsOK (toJSON.entries t) t'
  | .nil => ⟨.nil, .nil, by rw [toJSON.entries]; exact .nil⟩
  | .cons k c r => by
    obtain ⟨c', sc, ec⟩ := entsOK_entries c
    obtain ⟨r', sr, er⟩ := entsOK_entries r
    obtain ⟨u, hi, hu⟩ := entsOK_insertE k (parses_of_entsOK ec) er
    refine ⟨u, .cons sc sr hi, ?_⟩
    rw [toJSON.entries, toJSON_eq]
    exact hu

theorem fromJSON_toJSON (t : T) : ∃ t', fromJSON (toJSON t) = some t' ∧ Sim t t' := by
  obtain ⟨t', st, et⟩ := entsOK_entries t
  refine ⟨t', ?_, st⟩
  have hp := parses_of_entsOK et (toJSON t).length.succ []
  rw [fromJSON, toJSON_eq, dropPre_append]
  rw [toJSON_eq] at hp
  simp only [List.append_nil] at hp
  simp only [hp (by simp; omega)]

end Bio.Trie

/-
  `Reader` of formats/newick/newick.go, as translated on every run from the Go SOURCE TEXT into
  `Bio.Generated.GoSrc.newick_Reader` (the `iter.Seq2[*Node, error]` closure: a fresh `reader`, the
  `for { }` loop with fuel around the translated `read()`, `yield` a HISTORY consumer of
  `(pointer, error)` pairs, the result the log of the pairs handed over and the final heap).

  * `NwkIt.goReads`: the results of the successive `read()` calls of an UNINTERRUPTED run (every call on the
    heap, reader and buffer the previous one handed back; the first result whose error is not `nil` is the
    last); `itemsOf`: what `Reader` hands over for them (`(p, nil)` for a tree, `(nil, err)` for an error
    that is not `io.EOF`, nothing for `io.EOF`); `readsDone y`: the calls that are made under the consumer
    `y` (a prefix: through the first tree `y` declines); `lastHeap`: the heap the last of them handed back;
  * `nr_step` (one iteration of the translated loop, arbitrary `ParseFloat`, arbitrary consumer) and the fuel
    lemma of `Bio.Lemmas.GoRt` give `newick_Reader_reads`; with `items_readsDone` the closure returns
    `(takeThroughH y [] (itemsOf R), lastHeap heap (readsDone y [] R))`;
  * `ReadsRep`: the calls of an uninterrupted run against the hand model's `Newick.decodeSrc`
    (`goReads_rep`, by `newick_read_model`), and what follows for the log (`log_rep`): every pointer
    handed over represents, in the FINAL heap, the model's tree at the same position.

  Guarded by the translator's `_Found` flags as in `Bio.Lemmas.GoSrc`.
-/
import Bio.Lemmas.GoSrcNewickRead
import Bio.Lemmas.IterH
set_option linter.unusedVariables false
namespace Bio.GoSrcLemmas
open Bio Bio.GoRt Bio.Generated Bio.Newick

namespace NwkIt
open NwkRd

/-- what `Reader` hands to `yield`: `(*Node, error)` -/
abbrev GoItem := Int × GoErr

/-- the state of the translated `for { }` loop: pending `return`, `log`, `heap`, `rd.r`, `rd.b` -/
abbrev RdSt := Option (List GoItem × Heap) × List GoItem × Heap × ByteRd × Bytes

/-! ## The calls of an uninterrupted run -/

/-- the results of the successive `read()` calls (at most `calls` of them, each with `fuel`), every call
on the heap, reader and buffer the previous one handed back; the first result whose error is not `nil`
is the last (a call that panics / runs out of fuel, or `calls` used up, cuts the list short) -/
def goReads (pf : PF) (fuel : Nat) : Nat → Heap → ByteRd → Bytes → List Res
  | 0, _, _, _ => []
  | n + 1, heap, r, rb =>
    match GoSrc.newick_read pf fuel heap r rb with
    | none => []
    | some res =>
      if res.2.1 = GoErr.nil then res :: goReads pf fuel n res.2.2.1 res.2.2.2.1 res.2.2.2.2 else [res]

/-- what `Reader` hands over for one `read()` result: nothing for `io.EOF`, `(nil, err)` for another
error, `(n, nil)` for a tree -/
def resItem (res : Res) : Option GoItem :=
  if res.2.1 = GoErr.eof then none
  else if res.2.1 = GoErr.nil then some (res.1, GoErr.nil)
  else some (-1, res.2.1)

def itemsOf (rs : List Res) : List GoItem := rs.filterMap resItem

/-- the calls that are made under the consumer `y` (which has seen `log` so far): through the first
tree after which `y` says stop -/
def readsDone (y : List GoItem → Bool) : List GoItem → List Res → List Res
  | _, [] => []
  | log, res :: rs =>
    if res.2.1 = GoErr.nil ∧ y (log ++ [(res.1, GoErr.nil)]) = true then
      res :: readsDone y (log ++ [(res.1, GoErr.nil)]) rs
    else [res]

/-- the heap after the calls `rs` (`h` if there is none) -/
def lastHeap : Heap → List Res → Heap
  | h, [] => h
  | _, res :: rs => lastHeap res.2.2.1 rs

/-- a complete run: every result but the last has error `nil`, the last has not -/
inductive WF : List Res → Prop
  | last {res : Res} (h0 : res.2.1 ≠ GoErr.nil) : WF [res]
  | cons {res : Res} {rs : List Res} (h0 : res.2.1 = GoErr.nil) (hw : WF rs) : WF (res :: rs)

theorem WF.ne_nil {R : List Res} (hw : WF R) : R ≠ [] := by
  cases hw <;> exact List.cons_ne_nil _ _

theorem WF.tail {res : Res} {rs : List Res} (hw : WF (res :: rs)) (h0 : res.2.1 = GoErr.nil) : WF rs := by
  cases hw with
  | last h => exact absurd h0 h
  | cons _ hw => exact hw

theorem itemsOf_cons_nil {res : Res} (h : res.2.1 = GoErr.nil) (rs : List Res) :
    itemsOf (res :: rs) = (res.1, GoErr.nil) :: itemsOf rs := by
  have : resItem res = some (res.1, GoErr.nil) := by simp [resItem, h]
  simp [itemsOf, this]

theorem itemsOf_single_eof {res : Res} (h : res.2.1 = GoErr.eof) : itemsOf [res] = [] := by
  simp [itemsOf, resItem, h]

theorem itemsOf_single_err {res : Res} (h0 : res.2.1 ≠ GoErr.nil) (h1 : res.2.1 ≠ GoErr.eof) :
    itemsOf [res] = [(-1, res.2.1)] := by
  simp [itemsOf, resItem, h0, h1]

theorem itemsOf_nil : itemsOf [] = [] := rfl

theorem readsDone_stop {y : List GoItem → Bool} {log : List GoItem} {res : Res} (rs : List Res)
    (h : ¬ (res.2.1 = GoErr.nil ∧ y (log ++ [(res.1, GoErr.nil)]) = true)) :
    readsDone y log (res :: rs) = [res] := by
  simp only [readsDone, if_neg h]

theorem readsDone_go {y : List GoItem → Bool} {log : List GoItem} {res : Res} (rs : List Res)
    (h0 : res.2.1 = GoErr.nil) (h1 : y (log ++ [(res.1, GoErr.nil)]) = true) :
    readsDone y log (res :: rs) = res :: readsDone y (log ++ [(res.1, GoErr.nil)]) rs := by
  simp only [readsDone, if_pos (And.intro h0 h1)]

/-! ## The loop -/

/-- one iteration of the `for { }` loop, after `n, err := rd.read()` -/
def nrStep (y : List GoItem → Bool) (log : List GoItem) (res : Res) : ForInStep RdSt :=
  if res.2.1 = GoErr.eof then .done (some (log, res.2.2.1), log, res.2.2.1, res.2.2.2.1, res.2.2.2.2)
  else if res.2.1 ≠ GoErr.nil then
    .done (some (log ++ [(-1, res.2.1)], res.2.2.1), log ++ [(-1, res.2.1)], res.2.2.1, res.2.2.2.1, res.2.2.2.2)
  else if y (log ++ [(res.1, GoErr.nil)]) = true then
    .yield (none, log ++ [(res.1, GoErr.nil)], res.2.2.1, res.2.2.2.1, res.2.2.2.2)
  else .done (some (log ++ [(res.1, GoErr.nil)], res.2.2.1), log ++ [(res.1, GoErr.nil)], res.2.2.1,
    res.2.2.2.1, res.2.2.2.2)

/-- one iteration of the translated loop -/
def nrBody (pf : PF) (fuel : Nat) (y : List GoItem → Bool) (s : RdSt) : Option (ForInStep RdSt) :=
  (GoSrc.newick_read pf fuel s.2.2.1 s.2.2.2.1 s.2.2.2.2).bind fun res => some (nrStep y s.2.1 res)

/-- the translated closure is the loop `nrBody` on a fresh `reader` (empty buffer); falling out of the
loop is out of fuel -/
theorem newick_Reader_unfold (hF : GoSrc.newick_Reader_Found = true) (pf : PF) (fuel : Nat) (heap : Heap)
    (r : ByteRd) (y : List GoItem → Bool) :
    GoSrc.newick_Reader pf fuel heap r y
      = (forIn (List.range fuel) ((none, [], heap, r, []) : RdSt) (fun _ s => nrBody pf fuel y s)).bind
          (·.1) := by
  first
  | exact absurd hF (by decide)
  | (unfold GoSrc.newick_Reader
     simp only [Option.pure_def, Option.bind_eq_bind]
     refine (Option.bind_congr (g := fun s : RdSt => s.1) fun s _ => by
       rcases s with ⟨_ | r, log, hp, rr, rb⟩ <;> rfl).trans ?_
     congr 2
     funext _ s
     obtain ⟨o, log, hp, rr, rb⟩ := s
     unfold nrBody
     congr 1
     funext res
     obtain ⟨p, err, hp', rr', rb'⟩ := res
     unfold nrStep
     cases err <;> simp
     cases y (log ++ [(p, GoErr.nil)]) <;> rfl)

/-- One iteration from a state whose remaining uninterrupted run `goReads … n …` is complete: it ends
the loop with the items of the calls made under `y` and the heap of the last of them, or it goes on with
one call less to make. -/
theorem nr_step (pf : PF) (fuel : Nat) (y : List GoItem → Bool) (log : List GoItem) (n : Nat)
    (heap : Heap) (r : ByteRd) (rb : Bytes) (hw : WF (goReads pf fuel n heap r rb)) :
    doneWith (·.1) (nrBody pf fuel y (none, log, heap, r, rb))
        = some (log ++ itemsOf (readsDone y log (goReads pf fuel n heap r rb)),
            lastHeap heap (readsDone y log (goReads pf fuel n heap r rb))) ∨
    ∃ log' n' heap' r' rb', nrBody pf fuel y (none, log, heap, r, rb)
        = some (.yield (none, log', heap', r', rb')) ∧ WF (goReads pf fuel n' heap' r' rb') ∧
      (goReads pf fuel n' heap' r' rb').length < (goReads pf fuel n heap r rb).length ∧
      (log' ++ itemsOf (readsDone y log' (goReads pf fuel n' heap' r' rb')),
          lastHeap heap' (readsDone y log' (goReads pf fuel n' heap' r' rb')))
        = (log ++ itemsOf (readsDone y log (goReads pf fuel n heap r rb)),
            lastHeap heap (readsDone y log (goReads pf fuel n heap r rb))) := by
  cases n with
  | zero => exact absurd rfl hw.ne_nil
  | succ n =>
    simp only [goReads, nrBody] at hw ⊢
    cases hr : GoSrc.newick_read pf fuel heap r rb with
    | none => rw [hr] at hw; exact absurd rfl hw.ne_nil
    | some res =>
      rw [hr] at hw
      simp only [Option.bind_some, nrStep] at hw ⊢
      by_cases h0 : res.2.1 = GoErr.nil
      · have c1 : res.2.1 ≠ GoErr.eof := by rw [h0]; decide
        rw [if_pos h0] at hw ⊢
        rw [if_neg c1, if_neg (Decidable.not_not.2 h0)]
        by_cases c3 : y (log ++ [(res.1, GoErr.nil)]) = true
        · refine Or.inr ⟨_, n, _, _, _, by rw [if_pos c3], ?_, Nat.lt_succ_self _, ?_⟩
          · exact hw.tail h0
          · rw [readsDone_go _ h0 c3, itemsOf_cons_nil h0, lastHeap, List.append_assoc]; rfl
        · left
          rw [if_neg c3, readsDone_stop _ (fun hh => c3 hh.2), itemsOf_cons_nil h0]
          rfl
      · rw [if_neg h0] at hw ⊢
        rw [readsDone_stop [] (fun hh => h0 hh.1)]
        left
        by_cases c1 : res.2.1 = GoErr.eof
        · rw [if_pos c1, itemsOf_single_eof c1, List.append_nil]; rfl
        · rw [if_neg c1, if_pos h0, itemsOf_single_err h0 c1]; rfl

/-- on a complete run the closure returns the items of the calls made and the heap of the last of them -/
theorem newick_Reader_reads (hF : GoSrc.newick_Reader_Found = true) (pf : PF) (fuel : Nat) (heap : Heap)
    (r : ByteRd) (y : List GoItem → Bool) (hw : WF (goReads pf fuel fuel heap r [])) :
    GoSrc.newick_Reader pf fuel heap r y
      = some (itemsOf (readsDone y [] (goReads pf fuel fuel heap r [])),
          lastHeap heap (readsDone y [] (goReads pf fuel fuel heap r []))) := by
  rw [newick_Reader_unfold hF]
  have hlen : ∀ (n : Nat) (heap : Heap) (r : ByteRd) (rb : Bytes),
      (goReads pf fuel n heap r rb).length ≤ n := by
    intro n
    induction n with
    | zero => intro heap r rb; exact Nat.le_refl _
    | succ n ih =>
      intro heap r rb
      simp only [goReads]
      split
      · exact Nat.zero_le _
      · split
        · exact Nat.succ_le_succ (ih _ _ _)
        · exact Nat.succ_le_succ (Nat.zero_le _)
  exact forIn_fuel_le (fun _ s => nrBody pf fuel y s) (·.1)
    (fun a : List GoItem × Nat × Heap × ByteRd × Bytes => (none, a.1, a.2.2.1, a.2.2.2.1, a.2.2.2.2))
    (fun a => WF (goReads pf fuel a.2.1 a.2.2.1 a.2.2.2.1 a.2.2.2.2))
    (fun a => (goReads pf fuel a.2.1 a.2.2.1 a.2.2.2.1 a.2.2.2.2).length)
    (fun a => (a.1 ++ itemsOf (readsDone y a.1 (goReads pf fuel a.2.1 a.2.2.1 a.2.2.2.1 a.2.2.2.2)),
      lastHeap a.2.2.1 (readsDone y a.1 (goReads pf fuel a.2.1 a.2.2.1 a.2.2.2.1 a.2.2.2.2))))
    (fun a ha => List.length_pos_iff.2 ha.ne_nil)
    (fun _ a ha => (nr_step pf fuel y a.1 a.2.1 a.2.2.1 a.2.2.2.1 a.2.2.2.2 ha).imp id
      fun ⟨log', n', heap', r', rb', h1, h2, h3, h4⟩ => ⟨(log', n', heap', r', rb'), h1, h2, h3, h4⟩)
    (List.range fuel) ([], fuel, heap, r, []) hw (by rw [List.length_range]; exact hlen _ _ _ _)

/-- the items of the calls made are the items of the uninterrupted run, cut by the consumer (the consumer's
verdict on an error item is not asked, and does not matter to `takeThroughH`: it is the last item) -/
theorem items_readsDone (y : List GoItem → Bool) : ∀ (R : List Res) (log : List GoItem), WF R →
    log ++ itemsOf (readsDone y log R) = takeThroughH y log (itemsOf R) := by
  intro R log hw
  induction hw generalizing log with
  | @cons res rs h0 hw ih =>
    rw [itemsOf_cons_nil h0, takeThroughH_cons]
    by_cases c3 : y (log ++ [(res.1, GoErr.nil)]) = true
    · rw [if_pos c3, readsDone_go rs h0 c3, itemsOf_cons_nil h0, ← ih _]
      simp
    · rw [if_neg c3, readsDone_stop rs (fun hh => c3 hh.2), itemsOf_cons_nil h0]
      simp [itemsOf_nil]
  | @last res h0 =>
    rw [readsDone_stop [] (fun hh => h0 hh.1)]
    by_cases c1 : res.2.1 = GoErr.eof
    · simp [itemsOf_single_eof c1, takeThroughH]
    · rw [itemsOf_single_err h0 c1, takeThroughH_singleton]

theorem readsDone_prefix (y : List GoItem → Bool) : ∀ (R : List Res) (log : List GoItem),
    readsDone y log R <+: R := by
  intro R
  induction R with
  | nil => intro log; simp [readsDone]
  | cons res rs ih =>
    intro log
    simp only [readsDone]
    split
    · exact (List.prefix_cons_inj res).2 (ih _)
    · exact ⟨rs, rfl⟩

theorem readsDone_ne_nil (y : List GoItem → Bool) (R : List Res) (log : List GoItem) (h : R ≠ []) :
    readsDone y log R ≠ [] := by
  cases R with
  | nil => exact absurd rfl h
  | cons res rs => simp only [readsDone]; split <;> simp

/-- with the consumer that never stops every call is made -/
theorem readsDone_true : ∀ (R : List Res) (log : List GoItem), WF R →
    readsDone (fun _ => true) log R = R := by
  intro R log hw
  induction hw generalizing log with
  | last h0 => exact readsDone_stop [] (fun hh => h0 hh.1)
  | cons h0 _ ih => rw [readsDone_go _ h0 rfl, ih]

/-- how many calls are made: as many as items are handed over, and one more when the run ended with
`io.EOF` (then every call of the uninterrupted run was made) -/
theorem readsDone_length (y : List GoItem → Bool) : ∀ (R : List Res) (log : List GoItem), WF R →
    ((readsDone y log R).length = (itemsOf (readsDone y log R)).length ∧
      ((readsDone y log R).getLast?.map (·.2.1) ≠ some GoErr.eof)) ∨
    ((readsDone y log R).length = (itemsOf (readsDone y log R)).length + 1 ∧ readsDone y log R = R ∧
      R.getLast?.map (·.2.1) = some GoErr.eof) := by
  intro R log hw
  induction hw generalizing log with
  | @cons res rs h0 hw ih =>
    by_cases c3 : y (log ++ [(res.1, GoErr.nil)]) = true
    · rw [readsDone_go rs h0 c3, itemsOf_cons_nil h0]
      have hne := readsDone_ne_nil y rs (log ++ [(res.1, GoErr.nil)])
        hw.ne_nil
      have hne' : rs ≠ [] := hw.ne_nil
      rcases ih (log ++ [(res.1, GoErr.nil)]) with ⟨h1, h2⟩ | ⟨h1, h2, h3⟩
      · left
        refine ⟨by simp [h1], ?_⟩
        rw [List.getLast?_cons_of_ne_nil hne]
        exact h2
      · right
        refine ⟨by simp [h1], by rw [h2], ?_⟩
        rw [List.getLast?_cons_of_ne_nil hne']
        exact h3
    · left
      rw [readsDone_stop rs (fun hh => c3 hh.2), itemsOf_cons_nil h0]
      simp [itemsOf_nil, h0]
  | @last res h0 =>
    rw [readsDone_stop [] (fun hh => h0 hh.1)]
    by_cases c1 : res.2.1 = GoErr.eof
    · right; simp [itemsOf_single_eof c1, c1]
    · left; simp [itemsOf_single_err h0 c1, c1]

/-- in a complete run exactly the results before the last have error `nil` -/
theorem WF.nil_iff : ∀ {R : List Res}, WF R → ∀ (i : Nat) (res : Res), R[i]? = some res →
    (res.2.1 = GoErr.nil ↔ i + 1 < R.length) := by
  intro R hw
  induction hw with
  | @cons r rs h0 hw ih =>
    intro i res hi
    have hne' : rs ≠ [] := hw.ne_nil
    cases i with
    | zero =>
      simp only [List.getElem?_cons_zero, Option.some.injEq] at hi
      subst hi
      have : 0 < rs.length := List.length_pos_iff.2 hne'
      simp [h0]; omega
    | succ i =>
      simp only [List.getElem?_cons_succ] at hi
      rw [ih i res hi]
      simp
  | @last r h0 =>
    intro i res hi
    cases i with
    | zero =>
      simp only [List.getElem?_cons_zero, Option.some.injEq] at hi
      subst hi
      simp [h0]
    | succ i => simp at hi

/-- the consumer "at most `k` items" has the first `k` calls made -/
theorem readsDone_count (k : Nat) : ∀ (R : List Res) (log : List GoItem), WF R → log.length < k →
    readsDone (fun l => decide (l.length < k)) log R = R.take (k - log.length) := by
  intro R log hw
  induction hw generalizing log with
  | @last res h0 =>
    intro hk
    obtain ⟨n, hn⟩ : ∃ n, k - log.length = n + 1 := ⟨k - log.length - 1, by omega⟩
    rw [hn, readsDone_stop [] (fun hh => h0 hh.1)]; simp
  | @cons res rs h0 hw ih =>
    intro hk
    obtain ⟨n, hn⟩ : ∃ n, k - log.length = n + 1 := ⟨k - log.length - 1, by omega⟩
    rw [hn, List.take_succ_cons]
    by_cases c : log.length + 1 < k
    · rw [readsDone_go rs h0 (by simpa using c), ih _ (by simpa using c)]
      have : k - (log ++ [(res.1, GoErr.nil)]).length = n := by simp; omega
      rw [this]
    · rw [readsDone_stop rs (fun hh => c (by simpa using hh.2))]
      have : n = 0 := by omega
      rw [this]; rfl

/-! ## Error items -/

/-- in the items of a complete run an error item is the last one (and its pointer is `nil`) -/
theorem itemsOf_err_last : ∀ (R : List Res), WF R → ∀ (i : Nat) (p : Int) (err : GoErr),
    (itemsOf R)[i]? = some (p, err) → err ≠ GoErr.nil → i + 1 = (itemsOf R).length ∧ p = -1 := by
  intro R hw
  induction hw with
  | @cons res rs h0 hw ih =>
    intro i p err hi he
    rw [itemsOf_cons_nil h0] at hi ⊢
    cases i with
    | zero => simp at hi; exact absurd hi.2.symm he
    | succ i =>
      simp only [List.getElem?_cons_succ] at hi
      have := ih i p err hi he
      simp [this.1.symm, this.2]
  | @last res h0 =>
    intro i p err hi he
    by_cases c1 : res.2.1 = GoErr.eof
    · rw [itemsOf_single_eof c1] at hi; simp at hi
    · rw [itemsOf_single_err h0 c1] at hi ⊢
      cases i with
      | zero => simp at hi; simp [hi.1.symm]
      | succ i => simp at hi

/-- a complete run whose last result is an error other than `io.EOF` ends with an error item -/
theorem itemsOf_getLast_err : ∀ (R : List Res), WF R →
    R.getLast?.map (·.2.1) ≠ some GoErr.eof →
    ∃ err, (itemsOf R).getLast? = some (-1, err) ∧ err ≠ GoErr.nil ∧ err ≠ GoErr.eof := by
  intro R hw
  induction hw with
  | @cons res rs h0 hw ih =>
    intro hl
    have hne' : rs ≠ [] := hw.ne_nil
    rw [List.getLast?_cons_of_ne_nil hne'] at hl
    obtain ⟨err, h1, h2⟩ := ih hl
    refine ⟨err, ?_, h2⟩
    rw [itemsOf_cons_nil h0, List.getLast?_cons_of_ne_nil (by intro hh; rw [hh] at h1; simp at h1)]
    exact h1
  | @last res h0 =>
    intro hl
    have c1 : res.2.1 ≠ GoErr.eof := by simpa using hl
    exact ⟨res.2.1, by rw [itemsOf_single_err h0 c1]; rfl, h0, c1⟩

/-! ## Against the hand model -/

/-- The calls `R` of an uninterrupted run from the heap `h`, against the model's item list: every call
extends the heap it was given; a tree call returns the first cell it allocated, which represents the
model's tree at that position in the heap handed back; the run ends with `io.EOF` where the model's
list ends, or with an error where the model's list ends with its error item. -/
def ReadsRep (pf : PF) (pd : Bytes → Option Dist) : Heap → List Res → List (Item Tree) → Prop
  | _, [], _ => False
  | h, res :: rs, its =>
    Ext h res.2.2.1 ∧
    ((res.2.1 = GoErr.nil ∧ res.1 = len h ∧
        ∃ t its', its = Item.ok t :: its' ∧ RepT res.2.2.1 res.1 t ∧ ReadsRep pf pd res.2.2.1 rs its')
      ∨ (res.2.1 = GoErr.eof ∧ res.1 = -1 ∧ rs = [] ∧ its = [])
      ∨ (res.2.1 ≠ GoErr.nil ∧ res.1 = -1 ∧ rs = [] ∧ its = [Item.err] ∧
          (res.2.1 = GoErr.other ∨ ∃ s, pd s = none ∧ res.2.1 = (pf s 64).2)))

theorem goReads_rep (hR : GoSrc.newick_read_Found = true)
    (hT : GoSrc.newick_nextToken_Found = true) (hN : GoSrc.nameFromText_Found = true)
    (hQ : GoSrc.quoted_Found = true) {pf : PF} {pd : Bytes → Option Dist} (hpf : PFModel pf pd)
    (e : Ending) (fuel : Nat) :
    ∀ (calls : Nat) (x : Bytes) (heap : Heap) (last : Option UInt8) (rb : Bytes),
      x.length + 1 ≤ calls → x.length + 1 ≤ fuel →
      ReadsRep pf pd heap (goReads pf fuel calls heap ⟨last, x, e⟩ rb) (decodeSrc pd e x) := by
  intro calls
  induction calls with
  | zero => intro x heap last rb h; omega
  | succ n ih =>
    intro x heap last rb hc hf
    have hp := newick_read_model hR hT hN hQ hpf x e heap last rb fuel hf
    cases hr : readTree pd e x with
    | eof =>
      simp only [hr] at hp
      rw [decodeSrc_eof _ _ _ hr]
      simp only [goReads, hp]
      rw [if_neg (by decide)]
      exact ⟨⟨[zero], rfl⟩, Or.inr (Or.inl ⟨rfl, rfl, rfl, rfl⟩)⟩
    | err =>
      simp only [hr] at hp
      obtain ⟨err, heap', r', rb', h1, h2, h3, _⟩ := hp
      have hfr := newick_read_frame hR hT hN hQ pf fuel heap _ rb _ _ _ _ _ h1
      rw [decodeSrc_err _ _ _ hr]
      simp only [goReads, h1]
      rw [if_neg h2]
      exact ⟨hfr, Or.inr (Or.inr ⟨h2, rfl, rfl, rfl, h3⟩)⟩
    | tree t rest =>
      simp only [hr] at hp
      obtain ⟨heap', last', rb', h1, h2, h3⟩ := hp
      have hlt := readTree_rest_lt pd e x t rest hr
      rw [decodeSrc_tree _ _ _ _ _ hr]
      simp only [goReads, h1, if_true]
      exact ⟨h3, Or.inl ⟨rfl, rfl, t, _, rfl, h2, ih rest heap' last' rb' (by omega) (by omega)⟩⟩

/-- Induction along the calls of a represented run: a tree call and the rest of the run, the final
`io.EOF`, or the final error. -/
theorem ReadsRep.rule {pf : PF} {pd : Bytes → Option Dist}
    {M : Heap → List Res → List (Item Tree) → Prop}
    (htree : ∀ h res rs t its', Ext h res.2.2.1 → res.2.1 = GoErr.nil → RepT res.2.2.1 res.1 t →
      ReadsRep pf pd res.2.2.1 rs its' → M res.2.2.1 rs its' → M h (res :: rs) (.ok t :: its'))
    (heof : ∀ h res, Ext h res.2.2.1 → res.2.1 = GoErr.eof → M h [res] [])
    (herr : ∀ h res, Ext h res.2.2.1 → res.2.1 ≠ GoErr.nil →
      (res.2.1 = GoErr.other ∨ ∃ s, pd s = none ∧ res.2.1 = (pf s 64).2) → M h [res] [.err]) :
    ∀ {R : List Res} {h : Heap} {its : List (Item Tree)}, ReadsRep pf pd h R its → M h R its := by
  intro R
  induction R with
  | nil => intro h its hr; exact hr.elim
  | cons res rs ih =>
    intro h its hr
    simp only [ReadsRep] at hr
    rcases hr.2 with ⟨h0, _, t, its', rfl, hrep, hrec⟩ | ⟨h0, _, rfl, rfl⟩ | ⟨h0, _, rfl, rfl, h3⟩
    · exact htree h res rs t its' hr.1 h0 hrep hrec (ih hrec)
    · exact heof h res hr.1 h0
    · exact herr h res hr.1 h0 h3

theorem ReadsRep.wf {pf : PF} {pd : Bytes → Option Dist} {R : List Res} {h : Heap}
    {its : List (Item Tree)} (hr : ReadsRep pf pd h R its) : WF R :=
  ReadsRep.rule (M := fun _ R _ => WF R) (fun _ _ _ _ _ _ h0 _ _ ih => .cons h0 ih)
    (fun _ _ _ h0 => .last (by rw [h0]; decide)) (fun _ _ _ h0 _ => .last h0) hr

/-- the heap after any prefix of the calls extends the initial heap -/
theorem ReadsRep.ext {pf : PF} {pd : Bytes → Option Dist} {R : List Res} {h : Heap}
    {its : List (Item Tree)} (hr : ReadsRep pf pd h R its) : ∀ D, D <+: R → Ext h (lastHeap h D) := by
  have hone : ∀ (h : Heap) (res : Res), Ext h res.2.2.1 → ∀ D, D <+: [res] → Ext h (lastHeap h D) := by
    intro h res he D hD
    cases D with
    | nil => exact Ext.refl h
    | cons d D' =>
      obtain ⟨rfl, hD'⟩ := List.cons_prefix_cons.1 hD
      rw [List.prefix_nil.1 hD']
      exact he
  refine ReadsRep.rule (M := fun h R _ => ∀ D, D <+: R → Ext h (lastHeap h D)) ?_
    (fun h res he _ => hone h res he) (fun h res he _ _ => hone h res he) hr
  intro h res rs _ _ he _ _ _ ih D hD
  cases D with
  | nil => exact Ext.refl h
  | cons d D' =>
    obtain ⟨rfl, hD'⟩ := List.cons_prefix_cons.1 hD
    exact Ext.trans he (ih D' hD')

theorem RepT.ext {heap heap' : Heap} {p : Int} {t : Tree} (h : RepT heap p t) (he : Ext heap heap') :
    RepT heap' p t := by
  obtain ⟨m, rfl⟩ := he
  exact RepT.append h m

/-- Every item handed over under the consumer `y`, against the model's list `its` of the whole input:
the item at position `i` is a tree pointer that REPRESENTS, in the heap after the LAST call made (later
calls only append cells), the model's tree at position `i`; or it is an error item and the model's item
at position `i` is its error item. -/
theorem log_rep {pf : PF} {pd : Bytes → Option Dist} (y : List GoItem → Bool) :
    ∀ (R : List Res) (h : Heap) (its : List (Item Tree)) (log : List GoItem), ReadsRep pf pd h R its →
    ∀ (i : Nat) (p : Int) (err : GoErr), (itemsOf (readsDone y log R))[i]? = some (p, err) →
      (err = GoErr.nil → ∃ t, its[i]? = some (Item.ok t) ∧ RepT (lastHeap h (readsDone y log R)) p t) ∧
      (err ≠ GoErr.nil → its[i]? = some Item.err ∧ its.length = i + 1) := by
  intro R
  induction R with
  | nil => intro h its log hr; exact hr.elim
  | cons res rs ih =>
    intro h its log hr i p err hi
    have hr' := hr
    simp only [ReadsRep] at hr
    rcases hr.2 with ⟨h0, _, t, its', hits, hrep, hrec⟩ | ⟨h0, _, h1, _⟩ | ⟨h0, _, h1, hits, _⟩
    · subst hits
      by_cases c3 : y (log ++ [(res.1, GoErr.nil)]) = true
      · rw [readsDone_go rs h0 c3] at hi ⊢
        rw [itemsOf_cons_nil h0] at hi
        simp only [lastHeap]
        cases i with
        | zero =>
          simp only [List.getElem?_cons_zero, Option.some.injEq, Prod.mk.injEq] at hi
          obtain ⟨hp, he⟩ := hi
          subst hp; subst he
          refine ⟨fun _ => ⟨t, rfl, ?_⟩, fun hh => absurd rfl hh⟩
          exact RepT.ext hrep (ReadsRep.ext hrec _ (readsDone_prefix y rs _))
        | succ i =>
          simp only [List.getElem?_cons_succ] at hi ⊢
          have := ih res.2.2.1 its' _ hrec i p err hi
          exact ⟨this.1, fun hh => ⟨(this.2 hh).1, by simp [(this.2 hh).2]⟩⟩
      · rw [readsDone_stop rs (fun hh => c3 hh.2)] at hi ⊢
        rw [itemsOf_cons_nil h0, itemsOf_nil] at hi
        simp only [lastHeap]
        cases i with
        | zero =>
          simp only [List.getElem?_cons_zero, Option.some.injEq, Prod.mk.injEq] at hi
          obtain ⟨hp, he⟩ := hi
          subst hp; subst he
          exact ⟨fun _ => ⟨t, rfl, hrep⟩, fun hh => absurd rfl hh⟩
        | succ i => simp at hi
    · subst h1
      rw [readsDone_stop [] (fun hh => by rw [h0] at hh; exact absurd hh.1 (by decide)),
        itemsOf_single_eof h0] at hi
      simp at hi
    · subst h1
      subst hits
      rw [readsDone_stop [] (fun hh => h0 hh.1)] at hi ⊢
      by_cases c1 : res.2.1 = GoErr.eof
      · rw [itemsOf_single_eof c1] at hi; simp at hi
      · rw [itemsOf_single_err h0 c1] at hi
        cases i with
        | zero =>
          simp only [List.getElem?_cons_zero, Option.some.injEq, Prod.mk.injEq] at hi
          obtain ⟨hp, he⟩ := hi
          subst he
          exact ⟨fun hh => absurd hh h0, fun _ => ⟨rfl, rfl⟩⟩
        | succ i => simp at hi

/-- a complete run hands over as many items as the model's list has, unless it ends with an `io.EOF` that
stands for a model error -/
theorem items_length {pf : PF} {pd : Bytes → Option Dist} (R : List Res) (h : Heap)
    (its : List (Item Tree)) (hr : ReadsRep pf pd h R its) :
    (R.getLast?.map (·.2.1) = some GoErr.eof → Item.err ∉ its) →
    (itemsOf R).length = its.length := by
  refine ReadsRep.rule (M := fun _ R its => (R.getLast?.map (·.2.1) = some GoErr.eof → Item.err ∉ its) →
    (itemsOf R).length = its.length) ?_ ?_ ?_ hr
  · intro h res rs t its' _ h0 _ hrec ih hl
    rw [List.getLast?_cons_of_ne_nil hrec.wf.ne_nil] at hl
    rw [itemsOf_cons_nil h0, List.length_cons, List.length_cons,
      ih fun hh hm => hl hh (List.mem_cons_of_mem _ hm)]
  · intro h res _ h0 _
    rw [itemsOf_single_eof h0]; rfl
  · intro h res _ h0 _ hl
    by_cases c1 : res.2.1 = GoErr.eof
    · exact absurd (List.mem_singleton.2 rfl) (hl (by simp [c1]))
    · rw [itemsOf_single_err h0 c1]; rfl

/-- the last result of the run is not `io.EOF` when the model's list has an error item and `ParseFloat`
never returns `io.EOF` where the model's parser rejects -/
theorem last_not_eof {pf : PF} {pd : Bytes → Option Dist} (R : List Res) (h : Heap)
    (its : List (Item Tree)) (hr : ReadsRep pf pd h R its)
    (hne : ∀ s, pd s = none → (pf s 64).2 ≠ GoErr.eof) :
    Item.err ∈ its → R.getLast?.map (·.2.1) ≠ some GoErr.eof := by
  refine ReadsRep.rule (M := fun _ R its => Item.err ∈ its → R.getLast?.map (·.2.1) ≠ some GoErr.eof)
    ?_ ?_ ?_ hr
  · intro h res rs t its' _ _ _ hrec ih hm
    rw [List.getLast?_cons_of_ne_nil hrec.wf.ne_nil]
    exact ih (by simpa using hm)
  · intro h res _ _ hm; cases hm
  · intro h res _ _ h3 _
    simp only [List.getLast?_singleton, Option.map_some, ne_eq, Option.some.injEq]
    rcases h3 with h3 | ⟨s, hs, h3⟩
    · rw [h3]; decide
    · rw [h3]; exact hne s hs

/-- when the model's list has no error item the run ends with `io.EOF` -/
theorem last_eof_of_no_err {pf : PF} {pd : Bytes → Option Dist} : ∀ (R : List Res) (h : Heap)
    (its : List (Item Tree)), ReadsRep pf pd h R its → Item.err ∉ its →
    R.getLast?.map (·.2.1) = some GoErr.eof := by
  intro R h its hr
  refine ReadsRep.rule (M := fun _ R its => Item.err ∉ its → R.getLast?.map (·.2.1) = some GoErr.eof)
    ?_ ?_ ?_ hr
  · intro h res rs t its' _ _ _ hrec ih hm
    rw [List.getLast?_cons_of_ne_nil hrec.wf.ne_nil]
    exact ih fun hh => hm (List.mem_cons_of_mem _ hh)
  · intro h res _ h0 _; simp [h0]
  · intro h res _ _ _ hm; simp at hm

/-! ## The run of `Reader`, assembled -/

/-- the `read()` results of the uninterrupted run of `Reader` (a fresh `reader`: empty buffer) on the
source `r`, from the heap `heap` -/
def reads (pf : PF) (fuel : Nat) (heap : Heap) (r : ByteRd) : List Res := goReads pf fuel fuel heap r []

/-- … and the items `Reader` hands over for them -/
def goItems (pf : PF) (fuel : Nat) (heap : Heap) (r : ByteRd) : List GoItem := itemsOf (reads pf fuel heap r)

/-- a Go item read back in the heap `H`: the tree at the pointer, or the error item -/
def absItem (H : Heap) (it : GoItem) : Item Tree :=
  if it.2 = GoErr.nil then .ok (absT H H.length it.1) else .err

/-- the list of results is the chain of `read()` calls: the first on the initial state, each next one on
the heap, reader and buffer the previous one handed back, and only after a result without error -/
theorem goReads_chain (pf : PF) (fuel : Nat) : ∀ (calls : Nat) (heap : Heap) (r : ByteRd) (rb : Bytes)
    (i : Nat) (res : Res), (goReads pf fuel calls heap r rb)[i]? = some res →
    (i = 0 → GoSrc.newick_read pf fuel heap r rb = some res) ∧
    (∀ res', (goReads pf fuel calls heap r rb)[i + 1]? = some res' →
      res.2.1 = GoErr.nil ∧ GoSrc.newick_read pf fuel res.2.2.1 res.2.2.2.1 res.2.2.2.2 = some res') := by
  intro calls
  induction calls with
  | zero => intro heap r rb i res h; simp [goReads] at h
  | succ n ih =>
    intro heap r rb i res h
    simp only [goReads] at h ⊢
    cases hr : GoSrc.newick_read pf fuel heap r rb with
    | none => rw [hr] at h; simp at h
    | some res0 =>
      rw [hr] at h
      simp only at h ⊢
      by_cases c : res0.2.1 = GoErr.nil
      · rw [if_pos c] at h ⊢
        cases i with
        | zero =>
          simp only [List.getElem?_cons_zero, Option.some.injEq] at h
          subst h
          refine ⟨fun _ => rfl, fun res' h' => ⟨c, ?_⟩⟩
          simp only [List.getElem?_cons_succ] at h'
          exact (ih _ _ _ 0 res' h').1 rfl
        | succ i =>
          simp only [List.getElem?_cons_succ] at h ⊢
          exact ⟨fun hh => by omega, (ih _ _ _ i res h).2⟩
      · rw [if_neg c] at h ⊢
        cases i with
        | zero =>
          simp only [List.getElem?_cons_zero, Option.some.injEq] at h
          subst h
          exact ⟨fun _ => rfl, fun res' h' => by simp at h'⟩
        | succ i => simp at h

theorem lastHeap_getLast : ∀ (D : List Res) (h : Heap) (res : Res), D.getLast? = some res →
    lastHeap h D = res.2.2.1 := by
  intro D
  induction D with
  | nil => intro h res hl; simp at hl
  | cons d D ih =>
    intro h res hl
    simp only [lastHeap]
    cases D with
    | nil => simp at hl; subst hl; rfl
    | cons d' D' =>
      rw [List.getLast?_cons_cons] at hl
      exact ih _ _ hl

/-- if the consumer declined the last item handed over (a tree), the last call made is the one that read
it: no further `read()`, hence no further allocation -/
theorem readsDone_declined (y : List GoItem → Bool) : ∀ (R : List Res) (log : List GoItem), WF R →
    ∀ p, (itemsOf (readsDone y log R)).getLast? = some (p, GoErr.nil) →
      y (log ++ itemsOf (readsDone y log R)) = false →
      ∃ res, (readsDone y log R).getLast? = some res ∧ res.1 = p ∧ res.2.1 = GoErr.nil := by
  intro R log hw
  induction hw generalizing log with
  | @cons res rs h0 hw ih =>
    intro p hl hy
    by_cases c3 : y (log ++ [(res.1, GoErr.nil)]) = true
    · rw [readsDone_go rs h0 c3] at hl hy ⊢
      rw [itemsOf_cons_nil h0] at hl hy
      have hne := readsDone_ne_nil y rs (log ++ [(res.1, GoErr.nil)])
        hw.ne_nil
      rw [List.getLast?_cons_of_ne_nil hne]
      by_cases hi : itemsOf (readsDone y (log ++ [(res.1, GoErr.nil)]) rs) = []
      · rw [hi] at hy
        rw [hy] at c3
        cases c3
      · rw [List.getLast?_cons_of_ne_nil hi] at hl
        exact ih _ p hl (by rw [List.append_assoc]; exact hy)
    · rw [readsDone_stop rs (fun hh => c3 hh.2)] at hl ⊢
      rw [itemsOf_cons_nil h0, itemsOf_nil] at hl
      simp only [List.getLast?_singleton, Option.some.injEq, Prod.mk.injEq] at hl
      exact ⟨res, rfl, hl.1, h0⟩
  | @last res h0 =>
    intro p hl hy
    rw [readsDone_stop [] (fun hh => h0 hh.1)] at hl
    by_cases c1 : res.2.1 = GoErr.eof
    · rw [itemsOf_single_eof c1] at hl; simp at hl
    · rw [itemsOf_single_err h0 c1] at hl
      simp only [List.getLast?_singleton, Option.some.injEq, Prod.mk.injEq] at hl
      exact absurd hl.2 h0

/-- an item is never `(·, io.EOF)` -/
theorem mem_itemsOf_ne_eof {R : List Res} {p : Int} {err : GoErr} (h : (p, err) ∈ itemsOf R) :
    err ≠ GoErr.eof := by
  simp only [itemsOf, List.mem_filterMap] at h
  obtain ⟨res, _, hres⟩ := h
  unfold resItem at hres
  split at hres
  · cases hres
  · rename_i c1
    split at hres
    · rename_i c2
      simp only [Option.some.injEq, Prod.mk.injEq] at hres
      rw [← hres.2]; decide
    · simp only [Option.some.injEq, Prod.mk.injEq] at hres
      rw [← hres.2]; exact c1

theorem map_prefix_of_getElem {α β : Type} (f : α → β) (L : List α) (its : List β)
    (h : ∀ (i : Nat) (a : α), L[i]? = some a → its[i]? = some (f a)) : L.map f <+: its := by
  refine List.prefix_iff_getElem?.2 fun i hi => ?_
  rw [List.length_map] at hi
  rw [List.getElem_map]
  exact h i _ (List.getElem?_eq_getElem hi)

/-- For an ARBITRARY `ParseFloat`, any heap, source and consumer, with `r.rest.length + 1` fuel: the run
is complete (it ends with a result whose error is not `nil`), it is described by the model for the
distance parser `pdOf pf` that `pf` induces, and the closure returns the items cut by the consumer and
the heap after the calls made. -/
theorem newick_Reader_raw (hF : GoSrc.newick_Reader_Found = true) (hR : GoSrc.newick_read_Found = true)
    (hT : GoSrc.newick_nextToken_Found = true) (hN : GoSrc.nameFromText_Found = true)
    (hQ : GoSrc.quoted_Found = true) (pf : PF) (fuel : Nat) (heap : Heap) (r : ByteRd)
    (y : List GoItem → Bool) (hf : r.rest.length + 1 ≤ fuel) :
    ReadsRep pf (pdOf pf) heap (reads pf fuel heap r) (decodeSrc (pdOf pf) r.ending r.rest) ∧
    WF (reads pf fuel heap r) ∧
    GoSrc.newick_Reader pf fuel heap r y
      = some (takeThroughH y [] (goItems pf fuel heap r), lastHeap heap (readsDone y [] (reads pf fuel heap r))) ∧
    takeThroughH y [] (goItems pf fuel heap r) = itemsOf (readsDone y [] (reads pf fuel heap r)) := by
  obtain ⟨last, x, e⟩ := r
  have hrep := goReads_rep hR hT hN hQ (pfModel_pdOf pf) e fuel fuel x heap last [] hf hf
  have hw := hrep.wf
  refine ⟨hrep, hw, ?_, ?_⟩
  · rw [newick_Reader_reads hF pf fuel heap _ y hw]
    have := items_readsDone y _ [] hw
    simp only [List.nil_append] at this
    rw [this]; rfl
  · have := items_readsDone y _ [] hw
    simp only [List.nil_append] at this
    exact this.symm

/-- the same run against the model for any `pd` with `PFModel pf pd` -/
theorem reads_rep (hR : GoSrc.newick_read_Found = true)
    (hT : GoSrc.newick_nextToken_Found = true) (hN : GoSrc.nameFromText_Found = true)
    (hQ : GoSrc.quoted_Found = true) {pf : PF} {pd : Bytes → Option Dist} (hpf : PFModel pf pd)
    (fuel : Nat) (heap : Heap) (last : Option UInt8) (x : Bytes) (e : Ending) (hf : x.length + 1 ≤ fuel) :
    ReadsRep pf pd heap (reads pf fuel heap ⟨last, x, e⟩) (decodeSrc pd e x) :=
  goReads_rep hR hT hN hQ hpf e fuel fuel x heap last [] hf hf

/-- as many items as the model has, when the run does not end with an `io.EOF` that stands for a model
error -/
theorem goItems_length (hR : GoSrc.newick_read_Found = true)
    (hT : GoSrc.newick_nextToken_Found = true) (hN : GoSrc.nameFromText_Found = true)
    (hQ : GoSrc.quoted_Found = true) {pf : PF} {pd : Bytes → Option Dist} (hpf : PFModel pf pd)
    (fuel : Nat) (heap : Heap) (last : Option UInt8) (x : Bytes) (e : Ending) (hf : x.length + 1 ≤ fuel)
    (hH : (∀ s, pd s = none → (pf s 64).2 ≠ GoErr.eof) ∨ Item.err ∉ decodeSrc pd e x) :
    (goItems pf fuel heap ⟨last, x, e⟩).length = (decodeSrc pd e x).length := by
  have hrep := reads_rep hR hT hN hQ hpf fuel heap last x e hf
  refine items_length _ _ _ hrep fun hl hm => ?_
  rcases hH with hH | hH
  · exact last_not_eof _ _ _ hrep hH hm hl
  · exact hH hm

end NwkIt
end Bio.GoSrcLemmas

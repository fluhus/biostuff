/-
  Helper lemmas for the cross-format properties C06 (LF / CRLF), C07 (failing
  sources and failing writers) and C11 (accepted records are fixed points):
  the general part, FASTA, FASTQ and BED.  SAM is in `CrossSam.lean`, Newick in
  `CrossNewick.lean`.

  The well-formedness predicates of the round-trip theorems live in the
  property files C01–C05, so those are imported here.
-/
import Bio.Props.C01
import Bio.Props.C02
import Bio.Props.C03
import Bio.Props.C04
import Bio.Props.C05
import Bio.Lemmas.Writer
namespace Bio

/-! ## `crlf`: every LF becomes CR LF -/

/-- Replace every LF (10) by CR LF (13, 10). -/
def crlf : Bytes → Bytes
  | [] => []
  | b :: r => if b = 10 then 13 :: 10 :: crlf r else b :: crlf r

theorem crlf_nil : crlf [] = [] := rfl

theorem crlf_cons_lf (r : Bytes) : crlf (10 :: r) = 13 :: 10 :: crlf r := by simp [crlf]

theorem crlf_cons_ne {b : UInt8} (h : b ≠ 10) (r : Bytes) : crlf (b :: r) = b :: crlf r := by
  simp [crlf, h]

theorem crlf_append (a b : Bytes) : crlf (a ++ b) = crlf a ++ crlf b := by
  induction a with
  | nil => rfl
  | cons c a ih =>
    by_cases hc : c = 10
    · subst hc; simp [crlf, ih]
    · simp [crlf, hc, ih]

theorem crlf_of_not_mem {l : Bytes} (h : (10 : UInt8) ∉ l) : crlf l = l := by
  induction l with
  | nil => rfl
  | cons c l ih =>
    simp only [List.mem_cons, not_or] at h
    rw [crlf_cons_ne (Ne.symm h.1), ih h.2]

theorem crlf_lfFile (ls : List Bytes) (h : ∀ l ∈ ls, (10 : UInt8) ∉ l) :
    crlf (lfFile ls) = crlfFile ls := by
  induction ls with
  | nil => rfl
  | cons l ls ih =>
    rw [lfFile_cons, crlfFile_cons, crlf_append, crlf_of_not_mem (h l (by simp)), crlf_cons_lf,
      ih (fun m hm => h m (List.mem_cons_of_mem _ hm))]

/-- Line scanning does not see the difference between LF and CRLF terminators, for lines
free of CR and LF. -/
theorem scanLines_crlf_lfFile (ls : List Bytes) (h : ∀ l ∈ ls, ∀ b ∈ l, b ≠ 10 ∧ b ≠ 13) :
    scanLines (crlf (lfFile ls)) = scanLines (lfFile ls) := by
  have hlf : ∀ l ∈ ls, (10 : UInt8) ∉ l := fun l hl hm => (h l hl 10 hm).1 rfl
  rw [crlf_lfFile ls hlf, scanLines_crlfFile ls hlf, scanLines_lfFile ls]
  intro l hl
  exact ⟨hlf l hl, fun hg => (h l hl 13 (List.mem_of_getLast? hg)).2 rfl⟩

/-! ## General list facts -/

theorem getLast?_cons_of_some {α : Type} {a b : α} {l : List α} (h : l.getLast? = some b) :
    (a :: l).getLast? = some b := by
  cases l with
  | nil => simp at h
  | cons c l => rw [List.getLast?_cons_cons]; exact h

theorem getLast?_append_singleton {α : Type} (l : List α) (a : α) :
    (l ++ [a]).getLast? = some a := by simp

/-- First piece of a split: starts with the first byte of the input unless that is the
separator. -/
theorem splitOn_head_head (sep c : UInt8) (r : Bytes) :
    ((splitOn sep (c :: r))[0]?.getD []).head? = if c = sep then none else some c := by
  by_cases h : c = sep
  · subst h; simp [splitOn]
  · obtain ⟨p, ps, _, hb⟩ := splitOn_cons_ne h r
    rw [hb]; simp [h]

theorem atoi_range {s : Bytes} {v : Int} (h : atoi s = some v) :
    int64Min ≤ v ∧ v ≤ int64Max := by
  unfold atoi at h
  split at h
  rename_i x neg body heq
  cases hp : parseNat body with
  | none => simp [hp] at h
  | some n =>
    simp only [hp] at h
    by_cases hr : int64Min ≤ (if neg = true then -(n : Int) else (n : Int)) ∧
        (if neg = true then -(n : Int) else (n : Int)) ≤ int64Max
    · rw [if_pos hr] at h; cases h; exact hr
    · rw [if_neg hr] at h; cases h

/-! ## FASTA -/

namespace Fasta

theorem crlf_encode (w : Nat) (hw : 0 < w) (r : Fa) (h : WF r) :
    crlf (encode w r) = renderRec (sepLayout [13, 10] w r) := by
  have hn : (10 : UInt8) ∉ r.name := fun hm => (h.1 10 hm).1 rfl
  have hc : ∀ l ∈ wrap w r.seq, (10 : UInt8) ∉ l :=
    fun l hl hm => (h.2 10 (wrap_mem_subset w hw r.seq l hl 10 hm)).1 rfl
  have e : encode w r = 62 :: (r.name ++ 10 :: lfFile (wrap w r.seq)) := by
    simp [encode_eq, lfFile]
  rw [e, crlf_cons_ne (by decide), crlf_append, crlf_of_not_mem hn, crlf_cons_lf,
    crlf_lfFile _ hc]
  simp [renderRec, sepLayout, crlfFile, List.map_map, Function.comp_def]

theorem crlf_encodeAll (w : Nat) (hw : 0 < w) (rs : List Fa) (h : ∀ r ∈ rs, WF r) :
    crlf (encodeAll w rs) = render (rs.map (sepLayout [13, 10] w)) := by
  induction rs with
  | nil => rfl
  | cons r rs ih =>
    have ih := ih (fun q hq => h q (List.mem_cons_of_mem _ hq))
    simp only [encodeAll, render, List.map_cons, List.flatten_cons] at ih ⊢
    rw [crlf_append, ih, crlf_encode w hw r (h r (by simp))]

theorem decode_crlf (w : Nat) (hw : 0 < w) (rs : List Fa) (h : ∀ r ∈ rs, WF r) :
    decode (crlf (encodeAll w rs)) = rs.map Item.ok := by
  rw [crlf_encodeAll w hw rs h]
  obtain ⟨hv, ht⟩ := sepLayout_valid [13, 10] (by decide) w hw rs
  exact layout_decode rs h _ hv ht

theorem fail_getLast (x : Bytes) : (decodeSrc .fail x).getLast? = some Item.err := by
  rw [fail_eq_dropLast]; exact getLast?_append_singleton _ _

end Fasta

/-! ## FASTQ -/

namespace Fastq

theorem fromLines_ok_len (e : Ending) (ls : List Bytes) (r : Fq)
    (h : Item.ok r ∈ fromLines e ls) : r.seq.length = r.quals.length := by
  induction ls using fromLines_induct e with
  | nil => rw [fromLines_nil] at h; cases e <;> simp at h
  | rec name sq pl ql rest hl h' ih =>
    rw [h'] at h
    rcases List.mem_cons.mp h with h | h
    · cases h; exact hl.symm
    · exact ih h
  | bad ls _ h' => rw [h'] at h; simp at h

theorem decodeSrc_crlf (e : Ending) (rs : List Fq) (h : ∀ r ∈ rs, WF r) :
    decodeSrc e (crlf (encodeAll rs)) = decodeSrc e (encodeAll rs) := by
  rw [decodeSrc, decodeSrc, encodeAll_eq_lines, scanLines_crlf_lfFile _ (allLines_clean rs h)]

theorem fromLines_fail_getLast (ls : List Bytes) :
    (fromLines .fail ls).getLast? = some Item.err := by
  induction ls using fromLines_induct .fail with
  | nil => rw [fromLines_nil]; rfl
  | rec name sq pl ql rest hl h ih => rw [h]; exact getLast?_cons_of_some ih
  | bad ls _ h => rw [h]; rfl

end Fastq

/-! ## BED -/

namespace Bed


theorem optInt_range {s : Bytes} {v : Int} (h : optInt s = some v) : inRange v := by
  unfold optInt at h
  split at h
  · cases h; decide
  · exact atoi_range h

theorem mapM_atoi_range : ∀ (fs : List Bytes) (l : List Int), fs.mapM atoi = some l →
    ∀ i ∈ l, inRange i
  | [], l, h => by simp at h; subst h; simp
  | f :: fs, l, h => by
    rw [List.mapM_cons] at h
    cases ha : atoi f with
    | none => simp [ha] at h
    | some a =>
      cases hr : fs.mapM atoi with
      | none => simp [ha, hr] at h
      | some r =>
        simp [ha, hr] at h
        subst h
        intro i hi
        rcases List.mem_cons.mp hi with rfl | hi
        · exact atoi_range ha
        · exact mapM_atoi_range fs r hr i hi

theorem parseIntList_range {s : Bytes} {l : List Int} (h : parseIntList s = some l) :
    ∀ i ∈ l, inRange i := by
  unfold parseIntList at h
  split at h
  · cases h; simp
  · exact mapM_atoi_range _ _ h

/-- A field beyond the end of the line reads as the empty text, which `g` parses to the default `d`:
the parsed value is then the default, as `truncate` has it. -/
theorem ite_getD_eq {α : Type} (fs : List Bytes) (i : Nat) (g : Bytes → Option α) (d : α)
    (hd : g [] = some d) (v : α) (h : g (fs[i]?.getD []) = some v) :
    (if fs.length > i then v else d) = v := by
  split
  · rfl
  · rename_i hlt
    rw [List.getElem?_eq_none (by omega), Option.getD_none, hd] at h
    exact Option.some.inj h

theorem parseLine_some {fs : List Bytes} {b : Bed} (h : parseLine fs = some b) :
    3 ≤ fs.length ∧ fs.length ≤ 12 ∧ b.n = fs.length ∧ b.chrom = fs[0]?.getD [] ∧
    validStrand b.strand = true ∧
    inRange b.chromStart ∧ inRange b.chromEnd ∧ inRange b.score ∧
    inRange b.thickStart ∧ inRange b.thickEnd ∧ inRange b.blockCount ∧
    (∀ i ∈ b.blockSizes, inRange i) ∧ (∀ i ∈ b.blockStarts, inRange i) ∧
    (fs.length > 10 → (b.blockSizes.length : Int) = b.blockCount) ∧
    (fs.length > 11 → (b.blockStarts.length : Int) = b.blockCount) ∧
    truncate fs.length b = b := by
  unfold parseLine at h
  simp only at h
  split at h
  · cases h
  · rename_i hlen
    split at h
    · rename_i cs ce sc ts te rgb bc bs bst h1 h2 h4 h6 h7 h8 h9 h10 h11
      simp only [Option.ite_none_left_eq_some] at h
      obtain ⟨hstrand, hbs, hbst, h⟩ := h
      cases h
      have hstrand' : validStrand (fs[5]?.getD []) = true := by simpa using hstrand
      have hbs' : fs.length > 10 → (bs.length : Int) = bc := by
        intro hgt; exact Classical.not_not.mp (fun hne => hbs ⟨hgt, hne⟩)
      have hbst' : fs.length > 11 → (bst.length : Int) = bc := by
        intro hgt; exact Classical.not_not.mp (fun hne => hbst ⟨hgt, hne⟩)
      refine ⟨by omega, by omega, rfl, rfl, hstrand', atoi_range h1, atoi_range h2,
        optInt_range h4, optInt_range h6, optInt_range h7, optInt_range h9,
        parseIntList_range h10, parseIntList_range h11, hbs', hbst', ?_⟩
      simp only [truncate]
      rw [ite_getD_eq fs 3 some [] rfl _ rfl, ite_getD_eq fs 4 optInt 0 rfl sc h4,
        ite_getD_eq fs 5 some [] rfl _ rfl, ite_getD_eq fs 6 optInt 0 rfl ts h6,
        ite_getD_eq fs 7 optInt 0 rfl te h7, ite_getD_eq fs 8 parseRGB (0, 0, 0) rfl rgb h8,
        ite_getD_eq fs 9 optInt 0 rfl bc h9, ite_getD_eq fs 10 parseIntList [] rfl bs h10,
        ite_getD_eq fs 11 parseIntList [] rfl bst h11]
    · cases h

theorem fromLines_ok_mem (e : Ending) (ls : List Bytes) : ∀ (nf : Option Nat) (b : Bed),
    Item.ok b ∈ fromLines e nf ls →
    ∃ l ∈ ls, isSkipped l = false ∧ parseLine (splitOn TAB l) = some b := by
  induction ls with
  | nil => intro nf b h; cases e <;> simp [fromLines, endItems] at h
  | cons l rest ih =>
    intro nf b h
    simp only [fromLines] at h
    split at h
    · obtain ⟨m, hm, h2⟩ := ih nf b h
      exact ⟨m, List.mem_cons_of_mem _ hm, h2⟩
    · rename_i hsk
      split at h
      · simp at h
      · split at h
        · simp at h
        · rename_i b' hp
          rcases List.mem_cons.mp h with h | h
          · cases h
            exact ⟨l, by simp, by simpa using hsk, hp⟩
          · obtain ⟨m, hm, h2⟩ := ih _ b h
            exact ⟨m, List.mem_cons_of_mem _ hm, h2⟩

/-- A record accepted by the reader, whose two free-text fields are free of TAB/CR/LF,
is in the domain of the round-trip theorem, with `N` = its own field count, and has no
junk beyond its `N` fields. -/
theorem accepted_WF (e : Ending) (x : Bytes) (b : Bed) (hm : Item.ok b ∈ decodeSrc e x)
    (hc : textOK b.chrom) (hn : textOK b.name) :
    ∃ N : Nat, WF N b ∧ truncate N b = b := by
  obtain ⟨l, _, hsk, hp⟩ := fromLines_ok_mem e _ none b hm
  obtain ⟨h3, h12, hN, hchrom, hstrand, hcs, hce, hsc, hts, hte, hbc, hsz, hst, hbs, hbst, htr⟩ :=
    parseLine_some hp
  refine ⟨(splitOn TAB l).length, ⟨h3, h12, hN, hc, ?_, hn, hstrand, hcs, hce, hsc, hts, hte, hbc,
    hsz, hst, ?_, ?_⟩, htr⟩
  · rw [hchrom]
    cases l with
    | nil => simp [isSkipped] at hsk
    | cons c r =>
      rw [splitOn_head_head]
      split
      · simp
      · intro h35
        have : c = 35 := by simpa using h35
        subst this
        simp [isSkipped] at hsk
  · exact hbs
  · exact hbst

theorem fromLines_fail_getLast (ls : List Bytes) : ∀ nf,
    (fromLines .fail nf ls).getLast? = some Item.err := by
  induction ls with
  | nil => intro nf; rfl
  | cons l rest ih =>
    intro nf
    simp only [fromLines]
    split
    · exact ih nf
    · split
      · rfl
      · split
        · rfl
        · exact getLast?_cons_of_some (ih _)

theorem encode_file_eq (N : Nat) (bs : List Bed) (h : ∀ b ∈ bs, WF N b) :
    (bs.map fun b => (encode b).getD []).flatten =
      lfFile (bs.map fun b => (encodeLine b).getD []) := by
  unfold lfFile
  rw [List.map_map]
  congr 1
  apply List.map_congr_left
  intro b hb
  obtain ⟨line, h1, h2, _⟩ := encode_one_line N b (h b hb)
  simp [h1, h2, LF]

theorem decode_crlf (N : Nat) (bs : List Bed) (h : ∀ b ∈ bs, WF N b) :
    decode (crlf (bs.map fun b => (encode b).getD []).flatten) =
      bs.map (fun b => Item.ok (truncate N b)) := by
  rw [encode_file_eq N bs h, crlf_lfFile]
  · have := file_roundtrip_crlf N bs h
    simpa [crlfFile, List.map_map, Function.comp_def] using this
  · intro l hl
    obtain ⟨b, hb, rfl⟩ := List.mem_map.mp hl
    obtain ⟨line, _, h2, h3, _⟩ := encode_one_line N b (h b hb)
    rw [h2]
    intro hm
    exact (h3 10 hm).1 rfl

/-! ### The `Write` calls of `BED.Write` -/


/-- The `Fprintf` calls for a block list: the first element bare, every further one
preceded by a comma (each its own call). -/
def listCalls : List Int → List Bytes
  | [] => []
  | x :: xs => itoa x :: xs.map (fun y => COMMA :: itoa y)

/-- The sequence of `Write` calls `BED.Write` makes when `3 ≤ N ≤ 12` (one per `Fprintf`,
/repo/formats/bed/bed.go). -/
def writeCalls (b : Bed) : List Bytes :=
  [b.chrom ++ TAB :: itoa b.chromStart ++ TAB :: itoa b.chromEnd] ++
  (if b.n > 3 then [TAB :: b.name] else []) ++
  (if b.n > 4 then [TAB :: itoa b.score] else []) ++
  (if b.n > 5 then [TAB :: b.strand] else []) ++
  (if b.n > 6 then [TAB :: itoa b.thickStart] else []) ++
  (if b.n > 7 then [TAB :: itoa b.thickEnd] else []) ++
  (if b.n > 8 then [TAB :: (natDigits b.rgb.1.toNat ++ COMMA :: natDigits b.rgb.2.1.toNat ++
      COMMA :: natDigits b.rgb.2.2.toNat)] else []) ++
  (if b.n > 9 then [TAB :: itoa b.blockCount] else []) ++
  (if b.n > 10 then [TAB] :: listCalls b.blockSizes else []) ++
  (if b.n > 11 then [TAB] :: listCalls b.blockStarts else []) ++
  [[LF]]

theorem listCalls_flatten (l : List Int) : (listCalls l).flatten = intList l := by
  cases l with
  | nil => rfl
  | cons x xs =>
    simp only [listCalls, intList, List.map_cons, joinWith_cons, List.flatten_cons, List.map_map]
    rfl

/-- One more field, if the line has more than `i`. -/
theorem take_gate (n i : Int) (f : Bytes) (F : List Bytes) :
    (((f :: F).take (n - i).toNat).map (TAB :: ·)).flatten
      = (if n > i then TAB :: f else []) ++ ((F.take (n - (i + 1)).toNat).map (TAB :: ·)).flatten := by
  by_cases h : n > i
  · rw [if_pos h, show (n - i).toNat = (n - (i + 1)).toNat + 1 by omega, List.take_succ_cons]; rfl
  · rw [if_neg h, show (n - i).toNat = 0 by omega, show (n - (i + 1)).toNat = 0 by omega]; rfl

theorem writeCalls_flatten (b : Bed) (t : Bytes) (h : encode b = some t) :
    (writeCalls b).flatten = t := by
  unfold encode encodeLine at h
  split at h
  · simp at h
  · rename_i hr
    simp at h
    subst h
    -- both sides as the first three fields, then one `if b.n > i then TAB :: field else []` per
    -- further field: on the right by peeling `take`, on the left by flattening the calls
    rw [allFields, show b.n.toNat = (b.n - 3).toNat + 1 + 1 + 1 by omega, List.take_succ_cons,
      List.take_succ_cons, List.take_succ_cons, joinWith_cons, List.map_cons, List.map_cons,
      List.flatten_cons, List.flatten_cons, take_gate, take_gate, take_gate, take_gate, take_gate,
      take_gate, take_gate, take_gate, take_gate]
    simp only [writeCalls, List.flatten_append, apply_ite List.flatten, List.flatten_cons, List.flatten_nil,
      listCalls_flatten, List.append_assoc, List.cons_append, List.nil_append, List.append_nil,
      List.take_nil, List.map_nil]
    rfl

end Bed

/-! ## SAM (C06 and the failing source; the fixed point is in `CrossSam.lean`) -/

namespace Sam

theorem decode_crlf (pf : Bytes → Option Bytes) (hs : List Bytes) (rs : List Sam)
    (hh : ∀ h ∈ hs, hdrOK h) (hr : ∀ s ∈ rs, WF pf s) :
    decodeHeader pf (crlf ((hs ++ rs.map encodeLine).map (· ++ [10])).flatten) =
      decodeHeader pf ((hs ++ rs.map encodeLine).map (· ++ [10])).flatten ∧
    decode pf (crlf ((hs ++ rs.map encodeLine).map (· ++ [10])).flatten) =
      decode pf ((hs ++ rs.map encodeLine).map (· ++ [10])).flatten := by
  have hlf : ∀ l ∈ hs ++ rs.map encodeLine, (10 : UInt8) ∉ l :=
    fun l hl => (samLines_plain pf hs rs hh hr l hl).1
  have e : crlf ((hs ++ rs.map encodeLine).map (· ++ [10])).flatten =
      ((hs ++ rs.map encodeLine).map (· ++ [13, 10])).flatten := crlf_lfFile _ hlf
  rw [e]
  obtain ⟨a1, a2⟩ := file_roundtrip pf hs rs hh hr
  obtain ⟨b1, b2⟩ := file_roundtrip_crlf pf hs rs hh hr
  exact ⟨b1.trans a1.symm, b2.trans a2.symm⟩

theorem header_fail_getLast (pf : Bytes → Option Bytes) (x : Bytes) :
    (decodeHeaderSrc pf .fail x).getLast? = some Item.err := by
  simp [decodeHeaderSrc, endItems]

theorem fail_getLast (pf : Bytes → Option Bytes) (x : Bytes) :
    (decodeSrc pf .fail x).getLast? = some Item.err := by
  simp [decodeSrc, decodeHeaderSrc, endItems, dropHeaders_append, dropHeaders]

end Sam

/-! ## Newick (C06; the failing source and the fixed point are in `CrossNewick.lean`) -/

namespace Newick

theorem decode_sep (qs : Bytes) (pd : Bytes → Option Dist) (h : QS_OK qs) (w : Bytes)
    (hw : ∀ b ∈ w, isWS b = true) (ts : List Tree) (hd : ∀ t ∈ ts, t.AllDist (DistOK pd)) :
    decode pd (ts.flatMap fun t => write qs t ++ w) = ts.map Item.ok := by
  have := trees_roundtrip qs pd h [] (ts.map fun t => (t, w)) (by simp)
    (by simpa using hd) (by
      intro p hp
      obtain ⟨t, _, rfl⟩ := List.mem_map.mp hp
      exact hw)
  simpa [List.flatMap_map, List.map_map, Function.comp_def] using this

theorem crlf_trees (qs : Bytes) (ts : List Tree) (h : ∀ t ∈ ts, (10 : UInt8) ∉ write qs t) :
    crlf (ts.flatMap fun t => write qs t ++ [10]) = ts.flatMap fun t => write qs t ++ [13, 10] := by
  have := crlf_lfFile (ts.map (write qs)) (by
    intro l hl
    obtain ⟨t, ht, rfl⟩ := List.mem_map.mp hl
    exact h t ht)
  simpa [lfFile, crlfFile, List.flatMap_def, List.map_map, Function.comp_def] using this

end Newick

end Bio

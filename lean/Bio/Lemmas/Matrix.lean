/-
  Lemmas about the substitution-matrix model (`Bio.Model.Matrix`): the sorted
  association list (`insert`, `get`), `symmetrical`, the entry list of
  `goString`, the quarter-decimal codec, `fields`, and the token-level view of
  `readRows` together with a family of file layouts.
-/
import Bio.Model.Matrix
import Bio.Lemmas.Codec
import Bio.Lemmas.Assoc
namespace Bio.Matrix

theorem filterMap_cons_toList {α β : Type} (f : α → Option β) (a : α) (l : List α) :
    (a :: l).filterMap f = (f a).toList ++ l.filterMap f := by
  rw [List.filterMap_cons]
  cases f a <;> rfl

theorem mapM_map_some {α β γ : Type} {f : α → Option β} {g : γ → α} {h : γ → β}
    (hfg : ∀ x, f (g x) = some (h x)) (l : List γ) : (l.map g).mapM f = some (l.map h) := by
  induction l with
  | nil => rfl
  | cons x l ih => simp [List.mapM_cons, hfg, ih]

theorem keyLt_iff (a b : Key) : keyLt a b = true ↔
    a.1.toNat < b.1.toNat ∨ (a.1.toNat = b.1.toNat ∧ a.2.toNat < b.2.toNat) := by
  simp [keyLt, UInt8.lt_iff_toNat_lt, ← UInt8.toNat_inj]

theorem key_eq_iff (a b : Key) : a = b ↔ a.1.toNat = b.1.toNat ∧ a.2.toNat = b.2.toNat := by
  rcases a with ⟨a1, a2⟩; rcases b with ⟨b1, b2⟩
  simp [← UInt8.toNat_inj]

theorem keyLt_irrefl (a : Key) : keyLt a a = false :=
  Bool.eq_false_iff.2 fun h => by rw [keyLt_iff] at h; omega

theorem keyLt_trans {a b c : Key} (h1 : keyLt a b = true) (h2 : keyLt b c = true) :
    keyLt a c = true := by
  rw [keyLt_iff] at *; omega

theorem keyLt_asymm {a b : Key} (h : keyLt a b = true) : keyLt b a = false :=
  Bool.eq_false_iff.2 fun h' => by rw [keyLt_iff] at *; omega

theorem keyLt_of_not {a b : Key} (hne : a ≠ b) (h : keyLt a b = false) : keyLt b a = true := by
  rw [Bool.eq_false_iff, ne_eq, keyLt_iff] at h
  rw [ne_eq, key_eq_iff] at hne
  rw [keyLt_iff]; omega

theorem keyLt_ne {a b : Key} (h : keyLt a b = true) : a ≠ b := by
  rintro rfl; rw [keyLt_irrefl] at h; cases h

theorem flip_flip (k : Key) : flip (flip k) = k := rfl

theorem flip_eq_self_iff (k : Key) : flip k = k ↔ k.1 = k.2 := by
  rcases k with ⟨a, b⟩
  simp only [flip, Prod.mk.injEq]
  exact ⟨fun h => h.2, fun h => ⟨h.symm, h⟩⟩

def KeyUnique (m : M) : Prop := (m.map (·.1)).Nodup

def Sorted (m : M) : Prop := m.Pairwise (fun a b => keyLt a.1 b.1 = true)

instance (m : M) : Decidable (KeyUnique m) := by unfold KeyUnique; infer_instance
instance (m : M) : Decidable (Sorted m) := by unfold Sorted; infer_instance

theorem Sorted.keyUnique {m : M} (h : Sorted m) : KeyUnique m := by
  unfold KeyUnique Sorted at *
  rw [List.Nodup, List.pairwise_map]
  exact h.imp (fun hab => keyLt_ne hab)

theorem keyUnique_cons {e : Key × Int} {m : M} :
    KeyUnique (e :: m) ↔ e.1 ∉ m.map (·.1) ∧ KeyUnique m := List.nodup_cons

theorem KeyUnique.nodup {m : M} (h : KeyUnique m) : m.Nodup := by
  unfold KeyUnique at h
  rw [List.Nodup, List.pairwise_map] at h
  exact h.imp (fun hab heq => hab (by rw [heq]))

theorem Sorted.foldl {α : Type} {f : M → α → M} (hf : ∀ s a, Sorted s → Sorted (f s a))
    (l : List α) {acc : M} (h : Sorted acc) : Sorted (l.foldl f acc) := by
  induction l generalizing acc with
  | nil => exact h
  | cons a l ih => exact ih (hf _ a h)

/-! `get` is `Assoc.get`. -/

theorem get_nil (k : Key) : get [] k = none := rfl

theorem get_cons (e : Key × Int) (m : M) (k : Key) :
    get (e :: m) k = if e.1 = k then some e.2 else get m k := Assoc.get_cons e m k

theorem get_eq_none_iff (m : M) (k : Key) : get m k = none ↔ k ∉ m.map (·.1) :=
  Assoc.get_eq_none_iff m k

theorem mem_of_get {m : M} {k : Key} {v : Int} (h : get m k = some v) : (k, v) ∈ m :=
  Assoc.mem_of_get h

theorem get_of_mem {m : M} (hu : KeyUnique m) {k : Key} {v : Int} (h : (k, v) ∈ m) :
    get m k = some v := Assoc.get_of_mem hu h

theorem get_iff_mem {m : M} (hu : KeyUnique m) (k : Key) (v : Int) :
    get m k = some v ↔ (k, v) ∈ m := Assoc.get_iff_mem hu k v

theorem get_insert (k : Key) (v : Int) (m : M) (k' : Key) :
    get (insert k v m) k' = if k' = k then some v else get m k' := by
  fun_induction insert k v m with
  | case1 => simp only [get_cons, get_nil, @eq_comm _ k k']
  | case2 k0 v0 rest h =>
    cases eq_of_beq h
    simp only [get_cons, @eq_comm _ k k']
    split <;> rfl
  | case3 k0 v0 rest _ _ => simp only [get_cons (k, v), @eq_comm _ k k']
  | case4 k0 v0 rest h _ ih =>
    simp only [get_cons, ih]
    split
    · rename_i h0
      subst h0
      rw [if_neg (Ne.symm (ne_of_beq_false (Bool.eq_false_iff.2 h)))]
    · rfl

theorem mem_insert {k : Key} {v : Int} {m : M} {e : Key × Int} (h : e ∈ insert k v m) :
    e = (k, v) ∨ e ∈ m := by
  fun_induction insert k v m with
  | case1 => simpa using h
  | case2 k0 v0 rest _ => exact (List.mem_cons.1 h).imp_right (List.mem_cons_of_mem _)
  | case3 => exact List.mem_cons.1 h
  | case4 k0 v0 rest _ _ ih =>
    rcases List.mem_cons.1 h with rfl | h
    · exact Or.inr List.mem_cons_self
    · exact (ih h).imp_right (List.mem_cons_of_mem _)

theorem insert_sorted (k : Key) (v : Int) {m : M} (h : Sorted m) : Sorted (insert k v m) := by
  unfold Sorted at *
  fun_induction insert k v m with
  | case1 => exact List.pairwise_singleton _ _
  | case2 k0 v0 rest hk =>
    cases eq_of_beq hk
    exact List.pairwise_cons.2 (List.pairwise_cons.1 h)
  | case3 k0 v0 rest _ hlt =>
    refine List.pairwise_cons.2 ⟨?_, h⟩
    rintro e (_ | ⟨_, he⟩)
    · exact hlt
    · exact keyLt_trans hlt ((List.pairwise_cons.1 h).1 e he)
  | case4 k0 v0 rest hk hlt ih =>
    rw [List.pairwise_cons] at h
    refine List.pairwise_cons.2 ⟨?_, ih h.2⟩
    intro e he
    rcases mem_insert he with rfl | he
    · exact keyLt_of_not (ne_of_beq_false (Bool.eq_false_iff.2 hk)) (Bool.eq_false_iff.2 hlt)
    · exact h.1 e he

/-- The entry list `goString` prints. -/
def goEntries (m : M) : M := m.foldl (fun acc e => insert e.1 e.2 acc) []

theorem get_foldl_insert (m acc : M) (hu : KeyUnique m) (k : Key) :
    get (m.foldl (fun acc e => insert e.1 e.2 acc) acc) k = (get m k).or (get acc k) := by
  induction m generalizing acc with
  | nil => rfl
  | cons e m ih =>
    rw [keyUnique_cons] at hu
    rw [List.foldl_cons, ih _ hu.2, get_cons, get_insert]
    by_cases h : e.1 = k
    · subst h
      rw [(get_eq_none_iff _ _).2 hu.1, if_pos rfl, if_pos rfl]; rfl
    · rw [if_neg h, if_neg (Ne.symm h)]

theorem goEntries_sorted (m : M) : Sorted (goEntries m) :=
  Sorted.foldl (fun _ e h => insert_sorted e.1 e.2 h) m List.Pairwise.nil

theorem get_goEntries {m : M} (hu : KeyUnique m) (k : Key) : get (goEntries m) k = get m k := by
  rw [goEntries, get_foldl_insert m [] hu k, get_nil, Option.or_none]

theorem mem_goEntries {m : M} (hu : KeyUnique m) (e : Key × Int) : e ∈ goEntries m ↔ e ∈ m := by
  obtain ⟨k, v⟩ := e
  rw [← get_iff_mem (goEntries_sorted m).keyUnique, ← get_iff_mem hu, get_goEntries hu]

theorem goEntries_perm {m : M} (hu : KeyUnique m) : (goEntries m).Perm m :=
  (List.perm_ext_iff_of_nodup (goEntries_sorted m).keyUnique.nodup hu.nodup).2 (mem_goEntries hu)

theorem goEntries_count {m : M} (hu : KeyUnique m) (k : Key) :
    ((goEntries m).map (·.1)).count k = if k ∈ m.map (·.1) then 1 else 0 := by
  simp only [List.Nodup.count (goEntries_sorted m).keyUnique, ((goEntries_perm hu).map _).mem_iff]

theorem goString_eq (qt : List Bytes) (m : M) :
    goString qt m = "SubstitutionMatrix{\n".toUTF8.toList ++ (goEntries m).flatMap (fun e =>
      123 :: (qt[e.1.1.toNat]?).getD [] ++ 44 :: (qt[e.1.2.toNat]?).getD [] ++ [125, 58]
        ++ quarterText e.2 ++ [44, 10]) ++ [125, 10] := rfl

/-- The fold step of `symmetrical`. -/
def symStep : M → Key × Int → M := Assoc.symStep (fun s k v => insert k v s) flip

theorem symFold_sorted (l : M) : Sorted (l.foldl symStep []) :=
  Sorted.foldl (fun _ e h => insert_sorted _ e.2 (insert_sorted e.1 e.2 h)) l List.Pairwise.nil

theorem conflicts_iff (m : M) (e : Key × Int) : conflicts m e = true ↔
    e.1.1 ≠ e.1.2 ∧ ∃ v2, get m (flip e.1) = some v2 ∧ v2 ≠ e.2 := by
  unfold conflicts
  cases get m (flip e.1) <;> simp

theorem symmetrical_eq (m : M) :
    symmetrical m = if m.any (conflicts m) then none else some (m.foldl symStep []) := rfl

theorem symmetrical_eq_none_iff (m : M) :
    symmetrical m = none ↔
      ∃ e ∈ m, e.1.1 ≠ e.1.2 ∧ ∃ v2, get m (flip e.1) = some v2 ∧ v2 ≠ e.2 := by
  rw [symmetrical_eq]
  simp only [ite_eq_left_iff, reduceCtorEq, imp_false, Classical.not_not, List.any_eq_true,
    conflicts_iff]

/-- A result of `symmetrical` is the fold, and `m` has no entry off the diagonal whose mirror
image carries another score. -/
theorem symmetrical_eq_some {m r : M} (h : symmetrical m = some r) :
    r = m.foldl symStep [] ∧
    ∀ e ∈ m, e.1.1 ≠ e.1.2 → ∀ v2, get m (flip e.1) = some v2 → v2 = e.2 := by
  have hn : ¬ symmetrical m = none := by simp [h]
  rw [symmetrical_eq] at h
  split at h
  · cases h
  · refine ⟨(Option.some.inj h).symm, fun e he hne v2 hg => Classical.byContradiction fun hv => ?_⟩
    exact hn ((symmetrical_eq_none_iff m).2 ⟨e, he, hne, v2, hg, hv⟩)

theorem get_symFold {m : M} (hu : KeyUnique m)
    (hc : ∀ e ∈ m, e.1.1 ≠ e.1.2 → ∀ v2, get m (flip e.1) = some v2 → v2 = e.2) (k : Key) (v : Int) :
    get (m.foldl symStep []) k = some v ↔ (get m k = some v ∨ get m (flip k) = some v) :=
  Assoc.symFold_get get _ flip (fun s k v k' => get_insert k v s k') flip_flip hu
    (fun e he hd => hc e he (mt (flip_eq_self_iff e.1).2 hd)) (fun _ => rfl) k v

theorem natDigits_zero : natDigits 0 = [48] := by rw [natDigits]; rfl

theorem natDigits_head (n : Nat) (h : n ≠ 0) : (natDigits n).head? ≠ some 48 := by
  obtain ⟨d, r, e, hd⟩ := natDigits_head_ne48 n (Nat.pos_of_ne_zero h)
  rw [e]; simpa using hd

/-- `okInt`, `pqParts`, `pqSplit`, `pqBody` and `fracText` are the `let`s of `parseQuarter` and
`quarterText` (Model/Matrix.lean) as definitions of their own, so that each step can be rewritten.
They repeat the text there and are tied to it only by `rfl` (`parseQuarter_neg`,
`parseQuarter_nonneg`, `quarterText_eq`): a change there has to be repeated here.

The integer-part check: no empty integer part, no leading zero. -/
def okInt (ip : Bytes) : Bool :=
  match ip with
  | [] => false
  | [48] => true
  | 48 :: _ => false
  | _ => true

/-- `parseQuarter` after sign and point have been split off. -/
def pqParts (neg : Bool) (ip fp : Bytes) : Option Int :=
  if !okInt ip then none else
  match parseNat ip with
  | none => none
  | some n =>
    let fq : Option Nat :=
      if fp == [] then some 0
      else if fp == [46, 50, 53] then some 1
      else if fp == [46, 53] then some 2
      else if fp == [46, 55, 53] then some 3
      else none
    match fq with
    | none => none
    | some f => let v : Int := (n * 4 + f : Nat); some (if neg then -v else v)

/-- Integer part, and fraction from the point on.  Two or more points give `([], [0])`, which
`pqParts` rejects (`okInt [] = false`). -/
def pqSplit (body : Bytes) : Bytes × Bytes :=
  match splitOn 46 body with
    | [i] => (i, ([] : Bytes))
    | [i, f] => (i, 46 :: f)
    | _ => ([], [0])

def pqBody (neg : Bool) (body : Bytes) : Option Int :=
  pqParts neg (pqSplit body).1 (pqSplit body).2

theorem parseQuarter_neg (r : Bytes) : parseQuarter (45 :: r) = pqBody true r := rfl

theorem parseQuarter_nonneg {s : Bytes} (h : s.head? ≠ some 45) :
    parseQuarter s = pqBody false s := by
  unfold parseQuarter
  split
  · rename_i heq
    split at heq
    · simp at h
    · cases heq; rfl

theorem okInt_natDigits (n : Nat) : okInt (natDigits n) = true := by
  by_cases h : n = 0
  · subst h; rw [natDigits_zero]; rfl
  · have h1 := natDigits_head n h
    have h2 := natDigits_ne_nil n
    unfold okInt
    split <;> simp_all

/-- The fraction suffix of `quarterText`. -/
def fracText (r : Nat) : Bytes :=
  match r with
  | 1 => [46, 50, 53]
  | 2 => [46, 53]
  | 3 => [46, 55, 53]
  | _ => []

theorem quarterText_eq (q : Int) :
    quarterText q = (if q < 0 then [45] else []) ++ natDigits (q.natAbs / 4) ++ fracText (q.natAbs % 4) := by
  unfold quarterText fracText
  rfl

theorem pqSplit_natDigits_frac (n r : Nat) (hr : r < 4) :
    pqSplit (natDigits n ++ fracText r) = (natDigits n, fracText r) := by
  have h46 : (46 : UInt8) ∉ natDigits n := not_mem_natDigits n (by decide)
  unfold pqSplit
  have : r = 0 ∨ r = 1 ∨ r = 2 ∨ r = 3 := by omega
  rcases this with rfl | rfl | rfl | rfl
  · simp only [fracText, List.append_nil, splitOn_of_not_mem h46]
  · simp only [fracText, splitOn_append_sep h46]; rfl
  · simp only [fracText, splitOn_append_sep h46]; rfl
  · simp only [fracText, splitOn_append_sep h46]; rfl

theorem pqParts_natDigits_frac (neg : Bool) (n r : Nat) (hr : r < 4) :
    pqParts neg (natDigits n) (fracText r)
      = some (if neg then -((n * 4 + r : Nat) : Int) else ((n * 4 + r : Nat) : Int)) := by
  unfold pqParts
  rw [okInt_natDigits, parseNat_natDigits]
  match r, hr with
  | 0, _ | 1, _ | 2, _ | 3, _ => rfl

theorem quarter_roundtrip (q : Int) : parseQuarter (quarterText q) = some q := by
  rw [quarterText_eq]
  have hr : q.natAbs % 4 < 4 := Nat.mod_lt _ (by decide)
  by_cases hq : q < 0
  · simp only [hq, if_true, List.cons_append, List.nil_append]
    rw [parseQuarter_neg, pqBody, pqSplit_natDigits_frac _ _ hr, pqParts_natDigits_frac _ _ _ hr]
    simp only [if_true, Option.some.injEq]
    omega
  · simp only [hq, if_false, List.nil_append]
    rw [parseQuarter_nonneg, pqBody, pqSplit_natDigits_frac _ _ hr,
      pqParts_natDigits_frac _ _ _ hr]
    · simp only [Bool.false_eq_true, if_false, Option.some.injEq]
      omega
    · have hne := natDigits_ne_nil (q.natAbs / 4)
      have h45 : (45 : UInt8) ∉ natDigits (q.natAbs / 4) := not_mem_natDigits _ (by decide)
      revert hne h45
      cases natDigits (q.natAbs / 4) with
      | nil => simp
      | cons x xs => intro _ h; simp at h ⊢; exact fun hx => h.1 hx.symm

theorem fracText_bytes (r : Nat) : ∀ b ∈ fracText r, b = 46 ∨ isDigit b = true := by
  unfold fracText
  split <;> decide

theorem quarterText_bytes (q : Int) :
    ∀ b ∈ quarterText q, b = 45 ∨ b = 46 ∨ isDigit b = true := by
  intro b hb
  rw [quarterText_eq, List.mem_append, List.mem_append] at hb
  rcases hb with (hb | hb) | hb
  · split at hb
    · exact Or.inl (List.mem_singleton.1 hb)
    · cases hb
  · exact Or.inr (Or.inr (natDigits_isDigit _ b hb))
  · exact Or.inr (fracText_bytes _ b hb)

theorem quarterText_ne_nil (q : Int) : quarterText q ≠ [] := by
  rw [quarterText_eq]
  have := natDigits_ne_nil (q.natAbs / 4)
  simp [this]

theorem quarterText_clean (q : Int) :
    ∀ b ∈ quarterText q, isSpace b = false ∧ b ≠ 44 ∧ b ≠ 125 ∧ b ≠ 35 := by
  intro b hb
  rcases quarterText_bytes q b hb with rfl | rfl | h
  · decide
  · decide
  · rw [isDigit_iff] at h
    have h1 : ∀ c : UInt8, b = c → b.toNat = c.toNat := fun c hc => by rw [hc]
    refine ⟨?_, ?_, ?_, ?_⟩
    · simp only [isSpace, Bool.or_eq_false_iff, beq_eq_false_iff_ne, ne_eq]
      refine ⟨⟨⟨⟨?_, ?_⟩, ?_⟩, ?_⟩, ?_⟩ <;> intro hc <;> have := h1 _ hc <;> simp at this <;> omega
    all_goals (intro hc; have := h1 _ hc; simp at this; omega)

theorem fields_nil : fields [] = [] := rfl

theorem fields_cons_space {b : UInt8} (h : isSpace b = true) (rest : Bytes) :
    fields (b :: rest) = fields rest := by
  cases rest <;> simp [fields, h]

theorem fields_cons_cons {b : UInt8} (h : isSpace b = false) (c : UInt8) (r : Bytes) :
    fields (b :: c :: r) =
      if isSpace c then [b] :: fields (c :: r)
      else match fields (c :: r) with
        | f :: fs => (b :: f) :: fs
        | [] => [[b]] := by
  rw [fields, if_neg (by simp [h])]
  rfl

theorem fields_single {b : UInt8} (h : isSpace b = false) : fields [b] = [[b]] := by
  rw [fields, if_neg (by simp [h])]

theorem fields_spaces_append {ws : Bytes} (h : ∀ b ∈ ws, isSpace b = true) (x : Bytes) :
    fields (ws ++ x) = fields x := by
  induction ws with
  | nil => rfl
  | cons b ws ih =>
    rw [List.cons_append, fields_cons_space (h b (by simp)), ih (fun c hc => h c (by simp [hc]))]

theorem fields_spaces {ws : Bytes} (h : ∀ b ∈ ws, isSpace b = true) : fields ws = [] := by
  have := fields_spaces_append h []
  rwa [List.append_nil] at this

/-- A token: non-empty and free of whitespace. -/
def IsTok (t : Bytes) : Prop := t ≠ [] ∧ ∀ b ∈ t, isSpace b = false

/-- A separator: a non-empty run of whitespace. -/
def IsSep (g : Bytes) : Prop := g ≠ [] ∧ ∀ b ∈ g, isSpace b = true

theorem fields_tok_append {t : Bytes} (ht : IsTok t) {x : Bytes}
    (hx : ∀ c, x.head? = some c → isSpace c = true) : fields (t ++ x) = t :: fields x := by
  obtain ⟨hne, h⟩ := ht
  induction t with
  | nil => exact absurd rfl hne
  | cons b r ih =>
    have hb : isSpace b = false := h b (by simp)
    cases r with
    | nil =>
      cases x with
      | nil => exact fields_single hb
      | cons s x => rw [List.singleton_append, fields_cons_cons hb, if_pos (hx s rfl)]
    | cons c r =>
      rw [List.cons_append, List.cons_append, fields_cons_cons hb, if_neg (by simp [h c]),
        ← List.cons_append, ih (by simp) (fun d hd => h d (List.mem_cons_of_mem _ hd))]

theorem fields_tok {t : Bytes} (ht : IsTok t) : fields t = [t] := by
  have h := fields_tok_append ht (x := []) (fun _ h => nomatch h)
  rwa [List.append_nil, fields_nil] at h

theorem fields_tok_sep {t g : Bytes} (ht : IsTok t) (hg : IsSep g) (x : Bytes) :
    fields (t ++ g ++ x) = t :: fields x := by
  rw [List.append_assoc, fields_tok_append ht, fields_spaces_append hg.2]
  intro c hc
  cases g with
  | nil => exact absurd rfl hg.1
  | cons s g => exact hg.2 c (by simp_all)

theorem fields_append_spaces (l : Bytes) {ws : Bytes} (h : ∀ b ∈ ws, isSpace b = true) :
    fields (l ++ ws) = fields l := by
  induction l with
  | nil => exact fields_spaces h
  | cons b r ih =>
    by_cases hb : isSpace b = true
    · rw [List.cons_append, fields_cons_space hb, fields_cons_space hb, ih]
    · have hb : isSpace b = false := by simpa using hb
      cases r with
      | nil =>
        cases ws with
        | nil => rfl
        | cons s ws =>
          rw [List.singleton_append, fields_cons_cons hb, if_pos (h s (by simp)), fields_single hb]
          rw [fields_spaces h]
      | cons c r =>
        rw [List.cons_append, List.cons_append, fields_cons_cons hb, fields_cons_cons hb,
          ← List.cons_append, ih]

/-- What `readRows` sees of a scanned line: nothing (empty or comment), or its fields. -/
def lineToks (s : Bytes) : Option (List Bytes) :=
  match s with
  | [] => none
  | 35 :: _ => none
  | _ => some (fields s)

/-- `readRows` on the token lists of the non-skipped lines, for any score parser `pf`. -/
def readToks (pf : Bytes → Option Int) : Option (List UInt8) → List (List Bytes) → M → Option M
  | _, [], m => some m
  | none, ts :: rest, m =>
    match ts.mapM singleChar with
    | none => none
    | some cs => readToks pf (if cs.isEmpty then none else some cs) rest m
  | some cs, ts :: rest, m =>
    match ts with
    | [] => none
    | lab :: vals =>
      if vals.length != cs.length then none
      else match singleChar lab, vals.mapM pf with
        | some c, some vs => readToks pf (some cs) rest (rowInsert c cs vs m)
        | _, _ => none

theorem lineToks_nil : lineToks [] = none := rfl
theorem lineToks_comment (r : Bytes) : lineToks (35 :: r) = none := rfl

/-- The hypotheses are spelt the way `fun_induction` hands them over for the last alternative of a
`match` on the line, so that `simp` finds them. -/
theorem lineToks_other {s : Bytes} (h1 : s = [] → False) (h2 : ∀ r, s = 35 :: r → False) :
    lineToks s = some (fields s) := by
  unfold lineToks
  split
  · exact absurd rfl h1
  · exact absurd rfl (h2 _)
  · rfl

theorem lineToks_of {s : Bytes} (h1 : s ≠ []) (h2 : s.head? ≠ some 35) :
    lineToks s = some (fields s) :=
  lineToks_other h1 fun _ e => h2 (e ▸ rfl)

theorem lineToks_eq_none_iff (s : Bytes) : lineToks s = none ↔ s = [] ∨ s.head? = some 35 := by
  constructor
  · intro h
    apply Classical.byContradiction
    intro hn
    rw [lineToks_of (not_or.1 hn).1 (not_or.1 hn).2] at h
    cases h
  · rintro (rfl | h)
    · rfl
    · match s, h with
      | b :: r, h =>
        cases Option.some.inj h
        rfl

/-- `readToks` is `readRows` with the step from a line to its tokens taken out: branch by
branch the same function. -/
theorem readRows_eq_readToks (chars : Option (List UInt8)) (ls : List Bytes) (m : M) :
    readRows chars ls m = readToks parseQuarter chars (ls.filterMap lineToks) m := by
  fun_induction readRows chars ls m <;>
    simp [readToks, List.filterMap_cons, lineToks_nil, lineToks_comment, lineToks_other,
      -List.isEmpty_iff, *]

theorem dropCR_single (a : UInt8) : dropCR [a] = if a = 13 then [] else [a] := by
  unfold dropCR
  by_cases h : a = 13
  · subst h; rfl
  · simp only [List.getLast?_singleton, h, if_false]
    split
    · rename_i h'; simp at h'; exact absurd h' h
    · rfl

theorem dropCR_cons_cons (a b : UInt8) (r : Bytes) :
    dropCR (a :: b :: r) = a :: dropCR (b :: r) := by
  unfold dropCR
  rw [List.getLast?_cons_cons]
  split <;> simp

theorem dropCR_eq_or (l : Bytes) : dropCR l = l ∨ ∃ l', l = l' ++ [13] ∧ dropCR l = l' := by
  unfold dropCR
  split
  · rename_i h
    obtain ⟨l', rfl⟩ := List.getLast?_eq_some_iff.1 h
    exact Or.inr ⟨l', rfl, List.dropLast_concat⟩
  · exact Or.inl rfl

/-- `fields b ≠ []` is needed: the scanner hands `"\r"` to the loop as the empty line, which is
skipped, while `lineToks [13] = some []` is a token line without tokens. -/
theorem lineToks_dropCR {b : Bytes} (h : fields b ≠ []) : lineToks (dropCR b) = lineToks b := by
  rcases dropCR_eq_or b with h' | ⟨l', hb, h'⟩
  · rw [h']
  · rw [h']
    have hf : fields l' = fields b := by
      rw [hb, fields_append_spaces l' (ws := [13]) (by decide)]
    cases l' with
    | nil => rw [← hf] at h; exact absurd rfl h
    | cons x r =>
      rw [hb]
      by_cases hx : x = 35
      · subst hx; rfl
      · rw [lineToks_of (by simp) (by simpa using hx), lineToks_of (by simp) (by simpa using hx), hf,
          hb]

/-- A comment or empty line (as it stands before the line terminator). -/
def IsJunk (j : Bytes) : Prop := (10 : UInt8) ∉ j ∧ (j = [] ∨ j.head? = some 35)

instance (j : Bytes) : Decidable (IsJunk j) := by unfold IsJunk; infer_instance

/-- LF-free, and CR stripping does not change how the line is read. -/
def GoodBody (b : Bytes) : Prop := (10 : UInt8) ∉ b ∧ lineToks (dropCR b) = lineToks b

inductive Eol where
  | lf
  | crlf
  deriving DecidableEq, Repr

def Eol.bytes : Eol → Bytes
  | .lf => [10]
  | .crlf => [13, 10]

/-- A physical line: its bytes and its terminator. -/
abbrev Phys := Bytes × Eol

/-- The file made of the given physical lines; with `fe = false` the last line lacks its
terminator. -/
def renderPhys (fe : Bool) : List Phys → Bytes
  | [] => []
  | [p] => p.1 ++ (if fe then p.2.bytes else [])
  | p :: q :: rest => p.1 ++ p.2.bytes ++ renderPhys fe (q :: rest)

/-- Whitespace other than LF: TAB, FF, CR, SP. -/
def isGapw (b : UInt8) : Bool := b == 9 || b == 12 || b == 13 || b == 32

/-- A gap between two tokens: a non-empty run of non-LF whitespace. -/
def IsGap (g : Bytes) : Prop := g ≠ [] ∧ ∀ b ∈ g, isGapw b = true

instance (t : Bytes) : Decidable (IsTok t) := by unfold IsTok; infer_instance
instance (g : Bytes) : Decidable (IsGap g) := by unfold IsGap; infer_instance

/-- Tokens separated by the given gaps (a single space where the gap list runs out). -/
def renderToks : List Bytes → List Bytes → Bytes
  | [], _ => []
  | [t], _ => t
  | t :: u :: ts, gs => t ++ gs.headD [32] ++ renderToks (u :: ts) gs.tail

/-- The tokens of one non-skipped line as a reader must see them: at least one token, each
non-empty and whitespace-free, and the line does not begin with `#`. -/
def ProperToks (toks : List Bytes) : Prop :=
  toks ≠ [] ∧ (∀ t ∈ toks, IsTok t) ∧ toks.head?.bind List.head? ≠ some 35

instance (toks : List Bytes) : Decidable (ProperToks toks) := by unfold ProperToks; infer_instance

/-- Layout of one token line: comment/empty lines before it, leading whitespace, the gaps
between tokens, trailing whitespace, terminator. -/
structure LineLayout where
  before : List Phys := []
  lead : Bytes := []
  gaps : List Bytes := []
  trail : Bytes := []
  eol : Eol := .lf

def LineLayout.OK (l : LineLayout) : Prop :=
  (∀ j ∈ l.before, IsJunk j.1) ∧ (∀ b ∈ l.lead, isGapw b = true) ∧
  (∀ g ∈ l.gaps, IsGap g) ∧ (∀ b ∈ l.trail, isGapw b = true)

instance (l : LineLayout) : Decidable l.OK := by unfold LineLayout.OK; infer_instance

def LineLayout.body (l : LineLayout) (toks : List Bytes) : Bytes :=
  l.lead ++ renderToks toks l.gaps ++ l.trail

/-- Layout of a whole file: one `LineLayout` per token line (the default one where the list
runs out), comment/empty lines at the end, and whether the last line is terminated. -/
structure Layout where
  lines : List LineLayout := []
  after : List Phys := []
  finalEol : Bool := true

def Layout.OK (L : Layout) : Prop := (∀ l ∈ L.lines, l.OK) ∧ ∀ j ∈ L.after, IsJunk j.1

instance (L : Layout) : Decidable L.OK := by unfold Layout.OK; infer_instance

/-- The physical lines of the token lines `doc` under the line layouts `ls`. -/
def docPhys : List LineLayout → List (List Bytes) → List Phys
  | _, [] => []
  | ls, toks :: rest =>
    (ls.headD {}).before ++ ((ls.headD {}).body toks, (ls.headD {}).eol) :: docPhys ls.tail rest

/-- The file with token lines `doc` laid out according to `L`. -/
def renderDoc (L : Layout) (doc : List (List Bytes)) : Bytes :=
  renderPhys L.finalEol (docPhys L.lines doc ++ L.after)

/-- In the file, `*` stands for the gap symbol 255. -/
def labelByte (b : UInt8) : UInt8 := if b = 42 then 255 else b

/-- A byte usable as a row/column label in the file: no whitespace (it is a token), not `#` (a
line starting with it is a comment), not 255 (`*` already denotes 255: with both, `labelByte` would
send two labels to one key). -/
def ValidLabel (b : UInt8) : Prop := isSpace b = false ∧ b ≠ 35 ∧ b ≠ 255

instance (b : UInt8) : Decidable (ValidLabel b) := by unfold ValidLabel; infer_instance

def hdrToks (cols : List UInt8) : List Bytes := cols.map fun c => [c]

def rowToks (r : UInt8 × List Int) : List Bytes := [r.1] :: r.2.map quarterText

/-- A data row the reader must reject, for `n` columns: wrong number of tokens, a label of
length other than one, or a score token that is not a number. -/
def BadRow (n : Nat) (bad : List Bytes) : Prop :=
  bad.length ≠ n + 1 ∨ (∃ t, bad.head? = some t ∧ t.length ≠ 1) ∨
    ∃ t ∈ bad.tail, parseQuarter t = none

/-- The entries of one table row, in column order. -/
def rowEntries (cols : List UInt8) (r : UInt8 × List Int) : M :=
  (cols.zip r.2).map fun cv => ((labelByte r.1, labelByte cv.1), cv.2)

/-- All entries of a table, in file order. -/
def tableEntries (cols : List UInt8) (rows : List (UInt8 × List Int)) : M :=
  rows.flatMap (rowEntries cols)

theorem lineToks_junk {j : Bytes} (h : IsJunk j) : lineToks j = none :=
  (lineToks_eq_none_iff j).2 h.2

theorem lineToks_dropCR_junk {j : Bytes} (h : IsJunk j) : lineToks (dropCR j) = none := by
  rcases h.2 with rfl | h2
  · rfl
  · cases j with
    | nil => rfl
    | cons a r =>
      simp at h2; subst h2
      cases r with
      | nil => rw [dropCR_single]; rfl
      | cons b r => rw [dropCR_cons_cons]; rfl

theorem GoodBody.of_junk {j : Bytes} (h : IsJunk j) : GoodBody j :=
  ⟨h.1, by rw [lineToks_dropCR_junk h, lineToks_junk h]⟩

theorem filterMap_scan_line (b : Bytes) (e : Eol) (hb : GoodBody b) (rest : Bytes) :
    (scanLines (b ++ e.bytes ++ rest)).filterMap lineToks
      = (lineToks b).toList ++ (scanLines rest).filterMap lineToks := by
  cases e with
  | lf =>
    rw [Eol.bytes, List.append_assoc, List.singleton_append, scanLines_append_LF' hb.1,
      filterMap_cons_toList, hb.2]
  | crlf =>
    rw [Eol.bytes, List.append_assoc, List.cons_append, List.singleton_append,
      scanLines_append_CRLF hb.1, filterMap_cons_toList]

theorem filterMap_scan_last (b : Bytes) (hb : GoodBody b) :
    (scanLines b).filterMap lineToks = (lineToks b).toList := by
  by_cases hne : b = []
  · subst hne; rfl
  · rw [scanLines, rawLines_of_not_mem hne hb.1, List.map_singleton, filterMap_cons_toList, hb.2]
    exact List.append_nil _

theorem filterMap_scan_renderPhys (fe : Bool) (ps : List Phys) (h : ∀ p ∈ ps, GoodBody p.1) :
    (scanLines (renderPhys fe ps)).filterMap lineToks = ps.filterMap (fun p => lineToks p.1) := by
  induction ps with
  | nil => rfl
  | cons p ps ih =>
    rw [filterMap_cons_toList (fun p : Phys => lineToks p.1)]
    have hp := h p List.mem_cons_self
    cases ps with
    | nil =>
      rw [renderPhys, List.filterMap_nil]
      cases fe with
      | true =>
        have h := filterMap_scan_line p.1 p.2 hp []
        rwa [List.append_nil] at h
      | false => rw [if_neg Bool.false_ne_true, List.append_nil, filterMap_scan_last _ hp, List.append_nil]
    | cons q rest =>
      rw [renderPhys, filterMap_scan_line _ _ hp, ih fun r hr => h r (List.mem_cons_of_mem _ hr)]

theorem isGapw_space {b : UInt8} (h : isGapw b = true) : isSpace b = true := by
  simp only [isGapw, Bool.or_eq_true, beq_iff_eq] at h
  rcases h with ((rfl | rfl) | rfl) | rfl <;> decide

theorem isGapw_ne_LF {b : UInt8} (h : isGapw b = true) : b ≠ 10 := by
  rintro rfl; simp [isGapw] at h

theorem isGapw_ne_hash {b : UInt8} (h : isGapw b = true) : b ≠ 35 := by
  rintro rfl; simp [isGapw] at h

theorem IsGap.isSep {g : Bytes} (h : IsGap g) : IsSep g :=
  ⟨h.1, fun b hb => isGapw_space (h.2 b hb)⟩

theorem IsTok.no_LF {t : Bytes} (h : IsTok t) : (10 : UInt8) ∉ t := by
  intro hm; have := h.2 10 hm; simp [isSpace] at this

theorem gapw_no_LF {g : Bytes} (h : ∀ b ∈ g, isGapw b = true) : (10 : UInt8) ∉ g :=
  fun hm => isGapw_ne_LF (h 10 hm) rfl

theorem isGap_single_space : IsGap [32] := by decide

theorem isGap_headD {gs : List Bytes} (hg : ∀ g ∈ gs, IsGap g) : IsGap (gs.headD [32]) := by
  cases gs with
  | nil => exact isGap_single_space
  | cons g gs => exact hg g (by simp)

theorem fields_renderToks (toks gs : List Bytes) (ht : ∀ t ∈ toks, IsTok t)
    (hg : ∀ g ∈ gs, IsGap g) : fields (renderToks toks gs) = toks := by
  induction toks generalizing gs with
  | nil => rfl
  | cons t ts ih =>
    cases ts with
    | nil => exact fields_tok (ht t (by simp))
    | cons u ts =>
      rw [renderToks, fields_tok_sep (ht t (by simp)) (isGap_headD hg).isSep,
        ih _ (fun x hx => ht x (List.mem_cons_of_mem _ hx))
          (fun g hg' => hg g (List.mem_of_mem_tail hg'))]

theorem renderToks_no_LF (toks gs : List Bytes) (ht : ∀ t ∈ toks, IsTok t)
    (hg : ∀ g ∈ gs, IsGap g) : (10 : UInt8) ∉ renderToks toks gs := by
  induction toks generalizing gs with
  | nil => simp [renderToks]
  | cons t ts ih =>
    cases ts with
    | nil => exact (ht t (by simp)).no_LF
    | cons u ts =>
      rw [renderToks]
      simp only [List.mem_append, not_or]
      exact ⟨⟨(ht t (by simp)).no_LF, gapw_no_LF (isGap_headD hg).2⟩,
        ih _ (fun x hx => ht x (List.mem_cons_of_mem _ hx))
          (fun g hg' => hg g (List.mem_of_mem_tail hg'))⟩

theorem LineLayout.default_OK : ({} : LineLayout).OK := by decide

theorem LineLayout.fields_body {l : LineLayout} (hl : l.OK) {toks : List Bytes}
    (ht : ∀ t ∈ toks, IsTok t) : fields (l.body toks) = toks := by
  unfold LineLayout.body
  rw [fields_append_spaces _ (fun b hb => isGapw_space (hl.2.2.2 b hb)),
    fields_spaces_append (fun b hb => isGapw_space (hl.2.1 b hb)),
    fields_renderToks _ _ ht hl.2.2.1]

theorem LineLayout.lineToks_body {l : LineLayout} (hl : l.OK) {toks : List Bytes}
    (ht : ProperToks toks) : lineToks (l.body toks) = some toks := by
  -- the first byte of the line: a blank of `lead`, or the first byte of the first token
  obtain ⟨c, hh, hc⟩ : ∃ c, (l.body toks).head? = some c ∧ c ≠ 35 := by
    unfold LineLayout.body
    cases hlead : l.lead with
    | cons x r => exact ⟨x, rfl, isGapw_ne_hash (hl.2.1 x (by simp [hlead]))⟩
    | nil =>
      match toks, ht with
      | (a :: t) :: ts, ⟨_, _, h3⟩ => exact ⟨a, by cases ts <;> rfl, by simpa using h3⟩
      | [] :: ts, ⟨_, h2, _⟩ => exact absurd rfl (h2 [] (by simp)).1
      | [], ⟨h1, _, _⟩ => exact absurd rfl h1
  rw [lineToks_of (fun h => by rw [h] at hh; cases hh) (by rw [hh]; simpa using hc),
    LineLayout.fields_body hl ht.2.1]

theorem LineLayout.body_good {l : LineLayout} (hl : l.OK) {toks : List Bytes}
    (ht : ProperToks toks) : GoodBody (l.body toks) := by
  refine ⟨?_, lineToks_dropCR ?_⟩
  · unfold LineLayout.body
    simp only [List.mem_append, not_or]
    exact ⟨⟨gapw_no_LF hl.2.1, renderToks_no_LF _ _ ht.2.1 hl.2.2.1⟩, gapw_no_LF hl.2.2.2⟩
  · rw [LineLayout.fields_body hl ht.2.1]; exact ht.1

theorem headD_OK {ls : List LineLayout} (h : ∀ l ∈ ls, l.OK) : (ls.headD {}).OK := by
  cases ls with
  | nil => exact LineLayout.default_OK
  | cons l ls => exact h l (by simp)

theorem filterMap_junk (js : List Phys) (h : ∀ j ∈ js, IsJunk j.1) :
    js.filterMap (fun p => lineToks p.1) = [] := by
  rw [List.filterMap_eq_nil_iff]
  exact fun j hj => lineToks_junk (h j hj)

theorem docPhys_good (ls : List LineLayout) (doc : List (List Bytes))
    (hl : ∀ l ∈ ls, l.OK) (hd : ∀ toks ∈ doc, ProperToks toks) :
    ∀ p ∈ docPhys ls doc, GoodBody p.1 := by
  induction doc generalizing ls with
  | nil => simp [docPhys]
  | cons toks rest ih =>
    intro p hp
    have h0 := headD_OK hl
    simp only [docPhys, List.mem_append, List.mem_cons] at hp
    rcases hp with hp | rfl | hp
    · exact GoodBody.of_junk (h0.1 p hp)
    · exact LineLayout.body_good h0 (hd toks (by simp))
    · exact ih ls.tail (fun l hl' => hl l (List.mem_of_mem_tail hl'))
        (fun t ht => hd t (List.mem_cons_of_mem _ ht)) p hp

theorem filterMap_docPhys (ls : List LineLayout) (doc : List (List Bytes))
    (hl : ∀ l ∈ ls, l.OK) (hd : ∀ toks ∈ doc, ProperToks toks) :
    (docPhys ls doc).filterMap (fun p => lineToks p.1) = doc := by
  induction doc generalizing ls with
  | nil => rfl
  | cons toks rest ih =>
    have h0 := headD_OK hl
    rw [docPhys, List.filterMap_append, filterMap_junk _ h0.1, List.nil_append,
      List.filterMap_cons]
    simp only [LineLayout.lineToks_body h0 (hd toks (by simp))]
    rw [ih ls.tail (fun l hl' => hl l (List.mem_of_mem_tail hl'))
        (fun t ht => hd t (List.mem_cons_of_mem _ ht))]

theorem filterMap_scan_renderDoc (L : Layout) (hL : L.OK) (doc : List (List Bytes))
    (hd : ∀ toks ∈ doc, ProperToks toks) :
    (scanLines (renderDoc L doc)).filterMap lineToks = doc := by
  unfold renderDoc
  rw [filterMap_scan_renderPhys, List.filterMap_append, filterMap_docPhys _ _ hL.1 hd,
    filterMap_junk _ hL.2, List.append_nil]
  intro p hp
  rcases List.mem_append.1 hp with hp | hp
  · exact docPhys_good _ _ hL.1 hd p hp
  · exact GoodBody.of_junk (hL.2 p hp)

theorem readNCBI_renderDoc (L : Layout) (hL : L.OK) (doc : List (List Bytes))
    (hd : ∀ toks ∈ doc, ProperToks toks) :
    readNCBI (renderDoc L doc) = readToks parseQuarter none doc [] := by
  rw [readNCBI, readRows_eq_readToks, filterMap_scan_renderDoc L hL doc hd]

theorem labelByte_inj {a b : UInt8} (ha : a ≠ 255) (hb : b ≠ 255)
    (h : labelByte a = labelByte b) : a = b := by
  unfold labelByte at h
  split at h <;> split at h <;> simp_all

theorem singleChar_label (b : UInt8) : singleChar [b] = some (labelByte b) := by
  unfold singleChar labelByte
  split
  · rename_i h; simp at h; simp [h]
  · rename_i c h1 h; simp at h; subst h
    have : ¬ b = 42 := fun hb => h1 (by rw [hb])
    simp [this]
  · rename_i h1 h2; exact absurd rfl (h2 b)

theorem singleChar_long {t : Bytes} (h : t.length ≠ 1) : singleChar t = none := by
  unfold singleChar
  split
  · simp at h
  · simp at h
  · rfl

theorem isTok_label {b : UInt8} (h : ValidLabel b) : IsTok [b] :=
  ⟨by simp, by simpa using h.1⟩

theorem isTok_quarterText (q : Int) : IsTok (quarterText q) :=
  ⟨quarterText_ne_nil q, fun b hb => (quarterText_clean q b hb).1⟩

theorem properToks_hdr {cols : List UInt8} (hne : cols ≠ []) (h : ∀ c ∈ cols, ValidLabel c) :
    ProperToks (hdrToks cols) := by
  refine ⟨by simpa [hdrToks] using hne, ?_, ?_⟩
  · intro t ht
    obtain ⟨c, hc, rfl⟩ := List.mem_map.1 ht
    exact isTok_label (h c hc)
  · cases cols with
    | nil => exact absurd rfl hne
    | cons c cs =>
      have := (h c (by simp)).2.1
      simpa [hdrToks] using this

theorem properToks_row {r : UInt8 × List Int} (h : ValidLabel r.1) : ProperToks (rowToks r) := by
  refine ⟨by simp [rowToks], ?_, ?_⟩
  · intro t ht
    rcases List.mem_cons.1 ht with rfl | ht
    · exact isTok_label h
    · obtain ⟨q, _, rfl⟩ := List.mem_map.1 ht
      exact isTok_quarterText q
  · simpa [rowToks] using h.2.1

theorem readToks_header {cols : List UInt8} (hne : cols ≠ []) (rest : List (List Bytes)) (m : M) :
    readToks parseQuarter none (hdrToks cols :: rest) m = readToks parseQuarter (some (cols.map labelByte)) rest m := by
  rw [readToks, hdrToks, mapM_map_some (h := labelByte) (fun c => singleChar_label c)]
  simp [hne]

theorem readToks_row (cs : List UInt8) (r : UInt8 × List Int) (h : r.2.length = cs.length)
    (rest : List (List Bytes)) (m : M) :
    readToks parseQuarter (some cs) (rowToks r :: rest) m
      = readToks parseQuarter (some cs) rest (rowInsert (labelByte r.1) cs r.2 m) := by
  rw [rowToks, readToks]
  simp only [List.length_map, h, bne_self_eq_false, Bool.false_eq_true, if_false,
    singleChar_label, mapM_map_some (h := id) (fun q => quarter_roundtrip q), List.map_id]

theorem readToks_rows (cs : List UInt8) (rows : List (UInt8 × List Int))
    (h : ∀ r ∈ rows, r.2.length = cs.length) (rest : List (List Bytes)) (m : M) :
    readToks parseQuarter (some cs) (rows.map rowToks ++ rest) m
      = readToks parseQuarter (some cs) rest
          (rows.foldl (fun m r => rowInsert (labelByte r.1) cs r.2 m) m) := by
  induction rows generalizing m with
  | nil => rfl
  | cons r rows ih =>
    rw [List.map_cons, List.cons_append, readToks_row cs r (h r (by simp)),
      ih (fun r' hr' => h r' (List.mem_cons_of_mem _ hr')), List.foldl_cons]

theorem badRow_wrong_count (n : Nat) (lab : Bytes) (vals : List Bytes) (h : vals.length ≠ n) :
    BadRow n (lab :: vals) := by
  left; simpa using h

theorem badRow_long_label (n : Nat) (lab : Bytes) (vals : List Bytes) (h : lab.length ≠ 1) :
    BadRow n (lab :: vals) :=
  Or.inr (Or.inl ⟨lab, rfl, h⟩)

theorem badRow_bad_score (n : Nat) (lab : Bytes) (vals : List Bytes) {t : Bytes} (ht : t ∈ vals)
    (hp : parseQuarter t = none) : BadRow n (lab :: vals) :=
  Or.inr (Or.inr ⟨t, ht, hp⟩)

theorem readToks_bad_row (cs : List UInt8) {bad : List Bytes} (hb : BadRow cs.length bad)
    (rest : List (List Bytes)) (m : M) : readToks parseQuarter (some cs) (bad :: rest) m = none := by
  cases bad with
  | nil => rfl
  | cons lab vals =>
    rw [readToks]
    by_cases hlen : vals.length = cs.length
    · simp only [hlen, bne_self_eq_false, Bool.false_eq_true, if_false]
      rcases hb with hb | ⟨t, ht, hl⟩ | ⟨t, ht, hp⟩
      · simp [hlen] at hb
      · simp only [List.head?_cons, Option.some.injEq] at ht; subst ht
        rw [singleChar_long hl]
      · rw [List.tail_cons] at ht
        rw [mapM_eq_none_iff.2 ⟨_, ht, hp⟩]
        cases singleChar lab <;> rfl
    · have : (vals.length != cs.length) = true := by simpa using hlen
      simp only [this, if_true]

theorem readToks_bad_header {hdr : List Bytes} (h : ∃ t ∈ hdr, t.length ≠ 1)
    (rest : List (List Bytes)) (m : M) : readToks parseQuarter none (hdr :: rest) m = none := by
  obtain ⟨t, ht, hl⟩ := h
  rw [readToks, mapM_eq_none_iff.2 ⟨_, ht, singleChar_long hl⟩]

theorem rowInsert_eq (c : UInt8) (cols : List UInt8) (vs : List Int) (m : M) :
    rowInsert (labelByte c) (cols.map labelByte) vs m
      = (rowEntries cols (c, vs)).foldl (fun acc e => insert e.1 e.2 acc) m := by
  induction cols generalizing vs m with
  | nil => simp [rowInsert, rowEntries]
  | cons ch chs ih =>
    cases vs with
    | nil => simp [rowInsert, rowEntries]
    | cons v vs =>
      rw [List.map_cons, rowInsert, ih]
      simp [rowEntries]

theorem rows_foldl_eq (cols : List UInt8) (rows : List (UInt8 × List Int)) (m : M) :
    rows.foldl (fun m r => rowInsert (labelByte r.1) (cols.map labelByte) r.2 m) m
      = (tableEntries cols rows).foldl (fun acc e => insert e.1 e.2 acc) m := by
  unfold tableEntries
  rw [List.foldl_flatMap]
  congr 1
  funext m r
  exact rowInsert_eq r.1 cols r.2 m

theorem mem_rowEntries_keys {cols : List UInt8} {r : UInt8 × List Int} {k : Key}
    (h : k ∈ (rowEntries cols r).map (·.1)) : k.1 = labelByte r.1 ∧ k.2 ∈ cols.map labelByte := by
  simp only [rowEntries, List.map_map, List.mem_map, Function.comp] at h
  obtain ⟨cv, hcv, rfl⟩ := h
  exact ⟨rfl, List.mem_map.2 ⟨cv.1, (List.of_mem_zip hcv).1, rfl⟩⟩

theorem rowEntries_keyUnique (cols : List UInt8) (r : UInt8 × List Int)
    (hc : (cols.map labelByte).Nodup) : KeyUnique (rowEntries cols r) := by
  obtain ⟨c, vs⟩ := r
  induction cols generalizing vs with
  | nil => exact List.nodup_nil
  | cons ch chs ih =>
    cases vs with
    | nil => exact List.nodup_nil
    | cons v vs =>
      rw [List.map_cons, List.nodup_cons] at hc
      show KeyUnique (_ :: rowEntries chs (c, vs))
      exact keyUnique_cons.2 ⟨fun hm => hc.1 (mem_rowEntries_keys hm).2, ih hc.2 vs⟩

theorem tableEntries_keyUnique (cols : List UInt8) (rows : List (UInt8 × List Int))
    (hc : (cols.map labelByte).Nodup) (hr : (rows.map (fun r => labelByte r.1)).Nodup) :
    KeyUnique (tableEntries cols rows) := by
  rw [KeyUnique, tableEntries, List.map_flatMap, List.nodup_iff_pairwise_ne, List.pairwise_flatMap]
  refine ⟨fun r _ => rowEntries_keyUnique cols r hc, (List.pairwise_map.1 hr).imp ?_⟩
  intro r r' hne k hk k' hk' e
  exact hne (by rw [← (mem_rowEntries_keys hk).1, e, (mem_rowEntries_keys hk').1])

theorem nodup_map_labelByte {l : List UInt8} (hv : ∀ b ∈ l, b ≠ 255) (hn : l.Nodup) :
    (l.map labelByte).Nodup := by
  rw [List.Nodup, List.pairwise_map]
  rw [List.Nodup] at hn
  refine List.Pairwise.imp_of_mem ?_ hn
  intro a b ha hb hab h
  exact hab (labelByte_inj (hv a ha) (hv b hb) h)

end Bio.Matrix

/-
  Helper lemmas for C11, SAM part: what `parseLine` can output satisfies the
  well-formedness predicate of the round-trip theorem C03, given that its text
  fields are free of TAB/CR/LF and that the external float normaliser `pf` is
  idempotent.
-/
import Bio.Lemmas.Cross
namespace Bio.Sam
open Bio

/-! ## What the tag parser can output -/

/-- A tag value as the parser produces it: integers in range, float tokens in the image
of `pf`. -/
def ParsedVal (pf : Bytes → Option Bytes) : TagVal → Prop
  | .I n => int64Min ≤ n ∧ n ≤ int64Max
  | .F t => ∃ t0, pf t0 = some t
  | _ => True

theorem parseTagVal_parsed {pf : Bytes → Option Bytes} {ty val : Bytes} {v : TagVal}
    (h : parseTagVal pf ty val = some v) : ParsedVal pf v := by
  unfold parseTagVal at h
  split at h
  · split at h
    · cases h; trivial
    · cases h
  · obtain ⟨n, hn, rfl⟩ := Option.map_eq_some_iff.mp h
    exact atoi_range hn
  · obtain ⟨t, ht, rfl⟩ := Option.map_eq_some_iff.mp h
    exact ⟨val, ht⟩
  · cases h; trivial
  · obtain ⟨t, ht, rfl⟩ := Option.map_eq_some_iff.mp h
    trivial
  · cases h; trivial
  · cases h

theorem parseTag_some {pf : Bytes → Option Bytes} {f : Bytes} {p : Bytes × TagVal}
    (h : parseTag pf f = some p) : COLON ∉ p.1 ∧ ParsedVal pf p.2 := by
  unfold parseTag at h
  split at h
  · cases h
  · rename_i name ty val hs
    obtain ⟨v, hv, rfl⟩ := Option.map_eq_some_iff.mp h
    refine ⟨?_, parseTagVal_parsed hv⟩
    unfold splitTag at hs
    split at hs
    · cases hs
    · rename_i name' r h1
      split at hs
      · cases hs
      · cases hs
        exact (splitColon_some h1).2

/-- Invariant of the tag accumulator. -/
def TagsInv (pf : Bytes → Option Bytes) (l : Tags) : Prop :=
  SortedTags l ∧ ∀ p ∈ l, COLON ∉ p.1 ∧ ParsedVal pf p.2

theorem parseTags_inv (pf : Bytes → Option Bytes) (fs : List Bytes) :
    ∀ (acc out : Tags), TagsInv pf acc → parseTags pf fs acc = some out → TagsInv pf out := by
  induction fs with
  | nil => intro acc out hacc h; cases h; exact hacc
  | cons f rest ih =>
    intro acc out hacc h
    rw [parseTags_cons] at h
    split at h
    · cases h
    · rename_i p hp
      refine ih _ out ⟨(tagInsert_general _ _ _ hacc.1).1, ?_⟩ h
      intro q hq
      rcases mem_tagInsert hacc.1 hq with e | hm
      · have := parseTag_some hp
        rw [e]; exact this
      · exact hacc.2 q hm

/-- Everything the line parser guarantees about an accepted record. -/
theorem parseLine_some {pf : Bytes → Option Bytes} {fs : List Bytes} {s : Sam}
    (h : parseLine pf fs = some s) :
    s.qname = fs[0]?.getD [] ∧
    (int64Min ≤ s.flag ∧ s.flag ≤ int64Max) ∧ (int64Min ≤ s.pos ∧ s.pos ≤ int64Max) ∧
    (int64Min ≤ s.mapq ∧ s.mapq ≤ int64Max) ∧ (int64Min ≤ s.pnext ∧ s.pnext ≤ int64Max) ∧
    (int64Min ≤ s.tlen ∧ s.tlen ≤ int64Max) ∧ TagsInv pf s.tags := by
  unfold parseLine at h
  split at h
  · split at h
    · rename_i h1 h2 h3 h4 h5
      split at h
      · rename_i tags ht
        cases h
        exact ⟨rfl, atoi_range h1, atoi_range h2, atoi_range h3, atoi_range h4, atoi_range h5,
          parseTags_inv pf _ [] tags ⟨List.Pairwise.nil, by simp⟩ ht⟩
      · cases h
    · cases h
  · cases h

/-! ## Records delivered by the readers come from `parseLine` on a non-header line -/

theorem mem_dropHeaders {s : Sam} : ∀ {l : List (Item Entry)},
    Item.ok s ∈ dropHeaders l → Item.ok (Entry.sam s) ∈ l
  | [], h => by simp [dropHeaders] at h
  | .ok (.hdr _) :: rest, h => by
    simp only [dropHeaders] at h
    exact List.mem_cons_of_mem _ (mem_dropHeaders h)
  | .ok (.sam s') :: rest, h => by
    simp only [dropHeaders] at h
    rcases List.mem_cons.mp h with h | h
    · cases h; simp
    · exact List.mem_cons_of_mem _ (mem_dropHeaders h)
  | .err :: rest, h => by
    simp only [dropHeaders] at h
    rcases List.mem_cons.mp h with h | h
    · cases h
    · exact List.mem_cons_of_mem _ (mem_dropHeaders h)

theorem lineItem_sam {pf : Bytes → Option Bytes} {l : Bytes} {s : Sam}
    (h : lineItem pf l = Item.ok (Entry.sam s)) :
    l.head? ≠ some 64 ∧ parseLine pf (splitOn TAB l) = some s := by
  unfold lineItem at h
  split at h
  · cases h
  · rename_i hne
    split at h
    · rename_i s' hp
      cases h
      refine ⟨?_, hp⟩
      intro hh
      cases l with
      | nil => simp at hh
      | cons c r =>
        have : c = 64 := by simpa using hh
        subst this
        exact hne r rfl
    · cases h

theorem header_ok_mem (pf : Bytes → Option Bytes) (e : Ending) (x : Bytes) (s : Sam)
    (h : Item.ok (Entry.sam s) ∈ decodeHeaderSrc pf e x) :
    ∃ l : Bytes, l ≠ [] ∧ l.head? ≠ some 64 ∧ parseLine pf (splitOn TAB l) = some s := by
  unfold decodeHeaderSrc at h
  rcases List.mem_append.mp h with h | h
  · unfold itemsOfLines at h
    obtain ⟨l, hl, hi⟩ := List.mem_map.mp h
    have hne : l ≠ [] := by simpa using (List.mem_filter.mp hl).2
    obtain ⟨h1, h2⟩ := lineItem_sam hi
    exact ⟨l, hne, h1, h2⟩
  · cases e <;> simp [endItems] at h

/-! ## Clean records -/

/-- The text carried by a tag value is free of TAB/CR/LF. -/
def valClean : TagVal → Prop
  | .A c => c ≠ 9 ∧ c ≠ 10 ∧ c ≠ 13
  | .F t => textOK t
  | .Z s => textOK s
  | _ => True

/-- Every text field of the record (including tag names and tag texts) is free of
TAB/CR/LF. -/
def Clean (s : Sam) : Prop :=
  textOK s.qname ∧ textOK s.rname ∧ textOK s.cigar ∧ textOK s.rnext ∧ textOK s.seq ∧
  textOK s.qual ∧ ∀ p ∈ s.tags, textOK p.1 ∧ valClean p.2

instance : (v : TagVal) → Decidable (valClean v)
  | .A c => inferInstanceAs (Decidable (c ≠ 9 ∧ c ≠ 10 ∧ c ≠ 13))
  | .I _ => inferInstanceAs (Decidable True)
  | .F t => inferInstanceAs (Decidable (textOK t))
  | .Z s => inferInstanceAs (Decidable (textOK s))
  | .H _ => inferInstanceAs (Decidable True)
instance (s : Sam) : Decidable (Clean s) := inferInstanceAs (Decidable (_ ∧ _))

theorem wfVal_of_parsed {pf : Bytes → Option Bytes}
    (hpf : ∀ t t', pf t = some t' → pf t' = some t') {v : TagVal}
    (hp : ParsedVal pf v) (hc : valClean v) : WFVal pf v := by
  cases v with
  | A c => exact hc
  | I n => exact hp
  | F t => obtain ⟨t0, h0⟩ := hp; exact ⟨hpf t0 t h0, hc⟩
  | Z z => exact hc
  | H bs => trivial

/-- A record delivered by the reader, clean, is in the domain of the round-trip theorem. -/
theorem accepted_WF (pf : Bytes → Option Bytes)
    (hpf : ∀ t t', pf t = some t' → pf t' = some t')
    (e : Ending) (x : Bytes) (s : Sam) (hm : Item.ok s ∈ decodeSrc pf e x) (hc : Clean s) :
    WF pf s := by
  obtain ⟨l, hne, h64, hp⟩ := header_ok_mem pf e x s (mem_dropHeaders hm)
  obtain ⟨hq, hfl, hpo, hmq, hpn, htl, hsorted, htags⟩ := parseLine_some hp
  obtain ⟨c1, c2, c3, c4, c5, c6, c7⟩ := hc
  refine ⟨c1, c2, c3, c4, c5, c6, ?_, hfl, hpo, hmq, hpn, htl, ?_, hsorted⟩
  · rw [hq]
    cases l with
    | nil => exact absurd rfl hne
    | cons c r =>
      rw [splitOn_head_head]
      split
      · simp
      · intro hh
        apply h64
        have : c = 64 := by simpa using hh
        simp [this]
  · intro p hp'
    refine ⟨?_, wfVal_of_parsed hpf (htags p hp').2 (c7 p hp').2⟩
    intro b hb
    refine ⟨?_, (c7 p hp').1 b hb⟩
    intro h58
    subst h58
    exact (htags p hp').1 hb

/-- The written form of one well-formed record decodes to exactly that record. -/
theorem decode_encode (pf : Bytes → Option Bytes) (s : Sam) (h : WF pf s) :
    decodeHeader pf (encode s) = [Item.ok (Entry.sam s)] ∧ decode pf (encode s) = [Item.ok s] := by
  have := file_roundtrip pf [] [s] (by simp) (by simpa using h)
  simpa [encode, LF] using this

end Bio.Sam

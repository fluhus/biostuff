/-
  Association lists `List (κ × ν)` read as maps (the first entry with the key counts), for any key
  type: lookup `Assoc.get` (`Matrix.get`, `Align.lookup` and `MxGo.look` are this function by `rfl`;
  GoRt's `mapHas` / `mapGet` are its `isSome` / `getD`), GoRt's `mapSet`, and the fold
  `result[k] = v; result[flip k] = v` behind `Symmetrical`.
-/
import Bio.Model.GoRt
namespace Bio.Assoc
open Bio.GoRt

section Lookup
variable {κ ν : Type} [BEq κ]

def get (l : List (κ × ν)) (k : κ) : Option ν := (l.find? fun e => e.1 == k).map (·.2)

theorem get_nil (k : κ) : get ([] : List (κ × ν)) k = none := rfl

theorem get_append (A B : List (κ × ν)) (k : κ) : get (A ++ B) k = (get A k).or (get B k) := by
  unfold get
  rw [List.find?_append]
  cases List.find? (fun e => e.1 == k) A <;> rfl

theorem mapHas_eq (l : List (κ × ν)) (k : κ) : mapHas l k = (get l k).isSome := by
  simp [mapHas, get]

theorem mapGet_eq (l : List (κ × ν)) (k : κ) (z : ν) : mapGet l k z = (get l k).getD z := rfl

theorem any_key_eq (l : List (κ × ν)) (k : κ) : l.any (fun e => e.1 == k) = (get l k).isSome := by
  rw [Bool.eq_iff_iff, List.any_eq_true, get, Option.isSome_map, List.find?_isSome]

variable [LawfulBEq κ] [DecidableEq κ]

theorem get_cons (e : κ × ν) (l : List (κ × ν)) (k : κ) :
    get (e :: l) k = if e.1 = k then some e.2 else get l k := by
  unfold get
  by_cases h : e.1 = k <;> simp [h]

theorem get_eq_none_iff (l : List (κ × ν)) (k : κ) : get l k = none ↔ k ∉ l.map (·.1) := by
  induction l with
  | nil => simp [get_nil]
  | cons e l ih =>
    rw [get_cons]
    by_cases h : e.1 = k
    · simp [h]
    · simp [h, ih, Ne.symm h]

theorem get_isSome_iff (l : List (κ × ν)) (k : κ) : (get l k).isSome ↔ k ∈ l.map (·.1) := by
  rw [Option.isSome_iff_ne_none, ne_eq, get_eq_none_iff, Classical.not_not]

theorem mem_of_get {l : List (κ × ν)} {k : κ} {v : ν} (h : get l k = some v) : (k, v) ∈ l := by
  induction l with
  | nil => cases h
  | cons e l ih =>
    rw [get_cons] at h
    split at h
    · rename_i hk
      cases h; subst hk
      exact List.mem_cons_self
    · exact List.mem_cons_of_mem _ (ih h)

theorem get_of_mem {l : List (κ × ν)} (hu : (l.map (·.1)).Nodup) {k : κ} {v : ν} (h : (k, v) ∈ l) :
    get l k = some v := by
  induction l with
  | nil => cases h
  | cons e l ih =>
    rw [List.map_cons, List.nodup_cons] at hu
    rw [get_cons]
    rcases List.mem_cons.1 h with rfl | h
    · exact if_pos rfl
    · rw [if_neg, ih hu.2 h]
      rintro rfl
      exact hu.1 (List.mem_map.2 ⟨_, h, rfl⟩)

theorem get_iff_mem {l : List (κ × ν)} (hu : (l.map (·.1)).Nodup) (k : κ) (v : ν) :
    get l k = some v ↔ (k, v) ∈ l := ⟨mem_of_get, get_of_mem hu⟩

/-- A key-unique list and any rearrangement of it are the same map. -/
theorem get_perm {l l' : List (κ × ν)} (hu : (l.map (·.1)).Nodup) (hp : l.Perm l') (k : κ) :
    get l k = get l' k := by
  have hu' := (hp.map (·.1)).nodup_iff.1 hu
  apply Option.ext
  intro v
  rw [get_iff_mem hu, get_iff_mem hu', hp.mem_iff]

theorem get_map_replace (l : List (κ × ν)) (k : κ) (v : ν) (k' : κ) :
    get (l.map fun e => if e.1 == k then (k, v) else e) k'
      = if k' = k then (get l k).map fun _ => v else get l k' := by
  induction l with
  | nil => simp [get_nil]
  | cons e l ih =>
    rw [List.map_cons, get_cons, ih]
    by_cases h : e.1 = k
    · by_cases h' : k' = k
      · subst h'; simp [h, get_cons]
      · simp [h, h', get_cons, Ne.symm h']
    · by_cases h' : k' = k
      · subst h'; simp [h, get_cons]
      · simp [h, h', get_cons]

theorem get_mapSet (l : List (κ × ν)) (k : κ) (v : ν) (k' : κ) :
    get (mapSet l k v) k' = if k' = k then some v else get l k' := by
  unfold mapSet
  rw [any_key_eq]
  cases hl : get l k with
  | none =>
    rw [if_neg (by simp), get_append, get_cons, get_nil]
    by_cases h' : k' = k
    · simp [h', hl]
    · simp [h', Ne.symm h']
  | some w => rw [Option.isSome_some, if_pos rfl, get_map_replace, hl, Option.map_some]

theorem keys_mapSet (l : List (κ × ν)) (k : κ) (v : ν) :
    (mapSet l k v).map (·.1) = if k ∈ l.map (·.1) then l.map (·.1) else l.map (·.1) ++ [k] := by
  unfold mapSet
  rw [any_key_eq]
  by_cases hk : k ∈ l.map (·.1)
  · rw [if_pos ((get_isSome_iff l k).2 hk), if_pos hk, List.map_map]
    apply List.map_congr_left
    intro e _
    by_cases h : e.1 = k <;> simp [h]
  · rw [if_neg (mt (get_isSome_iff l k).1 hk), if_neg hk, List.map_append]
    rfl

omit [LawfulBEq κ] [DecidableEq κ] in
theorem length_mapSet_fresh (l : List (κ × ν)) (k : κ) (v : ν) (h : get l k = none) :
    (mapSet l k v).length = l.length + 1 := by
  unfold mapSet
  rw [any_key_eq, h]
  simp

end Lookup

/-! The fold of `Symmetrical` is stated for an abstract map type `μ` with lookup `get'` and update
`set`, because it runs on two representations: the model keeps a sorted list (`Matrix.insert`), the
translated Go code an insertion-ordered one (`mapSet`); all that matters of either is `hgs`.  The
source of the fold is a list in both cases, hence `symFold_get` (which needs list lookup and so
`BEq κ`) comes in a section of its own. -/

section Sym
variable {μ κ ν : Type} [DecidableEq κ] (get' : μ → κ → Option ν) (set : μ → κ → ν → μ) (flip : κ → κ)

def symStep (s : μ) (e : κ × ν) : μ := set (set s e.1 e.2) (flip e.1) e.2

variable (hgs : ∀ s k v k', get' (set s k v) k' = if k' = k then some v else get' s k')
  (hff : ∀ k, flip (flip k) = k)
include hgs

theorem get_symStep (s : μ) (e : κ × ν) (k : κ) :
    get' (symStep set flip s e) k = if k = flip e.1 ∨ k = e.1 then some e.2 else get' s k := by
  unfold symStep
  rw [hgs, hgs]
  by_cases h1 : k = flip e.1 <;> by_cases h2 : k = e.1 <;> simp [h1, h2]

include hff

theorem symFold_sound (l : List (κ × ν)) (acc : μ) (k : κ) (v : ν)
    (h : get' (l.foldl (symStep set flip) acc) k = some v) :
    (k, v) ∈ l ∨ (flip k, v) ∈ l ∨ get' acc k = some v := by
  induction l generalizing acc with
  | nil => exact Or.inr (Or.inr h)
  | cons e l ih =>
    rcases ih _ h with h | h | h
    · exact Or.inl (List.mem_cons_of_mem _ h)
    · exact Or.inr (Or.inl (List.mem_cons_of_mem _ h))
    · rw [get_symStep get' set flip hgs] at h
      split at h
      · rename_i hk
        cases h
        rcases hk with rfl | rfl
        · rw [hff]; exact Or.inr (Or.inl List.mem_cons_self)
        · exact Or.inl List.mem_cons_self
      · exact Or.inr (Or.inr h)

omit hff in
/-- Every entry whose key is `k` or the mirror image of `k` determines the result at `k`,
provided all such entries agree on the score. -/
theorem symFold_complete (l : List (κ × ν)) (acc : μ) (k : κ) (v : ν)
    (hc : ∀ e ∈ l, (e.1 = k ∨ flip e.1 = k) → e.2 = v)
    (h : get' acc k = some v ∨ ∃ e ∈ l, e.1 = k ∨ flip e.1 = k) :
    get' (l.foldl (symStep set flip) acc) k = some v := by
  induction l generalizing acc with
  | nil => simpa using h
  | cons e l ih =>
    rw [List.foldl_cons]
    apply ih _ (fun e' he' => hc e' (List.mem_cons_of_mem _ he'))
    rw [get_symStep get' set flip hgs]
    by_cases hk : k = flip e.1 ∨ k = e.1
    · rw [if_pos hk, hc e List.mem_cons_self (hk.symm.imp Eq.symm Eq.symm)]
      exact Or.inl rfl
    · rw [if_neg hk]
      rcases h with h | ⟨e', he', hk'⟩
      · exact Or.inl h
      · rcases List.mem_cons.1 he' with rfl | he'
        · exact absurd (hk'.symm.imp Eq.symm Eq.symm) hk
        · exact Or.inr ⟨e', he', hk'⟩

end Sym

section
variable {μ κ ν : Type} [BEq κ] [LawfulBEq κ] [DecidableEq κ] (get' : μ → κ → Option ν) (set : μ → κ → ν → μ) (flip : κ → κ)
  (hgs : ∀ s k v k', get' (set s k v) k' = if k' = k then some v else get' s k')
  (hff : ∀ k, flip (flip k) = k)
include hgs hff

/-- Folding `s ↦ set (set s k v) (flip k) v` over the entries of a key-unique list `l` yields exactly
the entries of `l` and their mirror images.  `hc`: an entry off the diagonal agrees with its mirror image where `l` has one. -/
theorem symFold_get {l : List (κ × ν)} (hu : (l.map (·.1)).Nodup)
    (hc : ∀ e ∈ l, flip e.1 ≠ e.1 → ∀ v2, get l (flip e.1) = some v2 → v2 = e.2)
    {acc : μ} (hacc : ∀ k, get' acc k = none) (k : κ) (v : ν) :
    get' (l.foldl (symStep set flip) acc) k = some v ↔
      (get l k = some v ∨ get l (flip k) = some v) := by
  constructor
  · intro h
    rcases symFold_sound get' set flip hgs hff l acc k v h with h | h | h
    · exact Or.inl (get_of_mem hu h)
    · exact Or.inr (get_of_mem hu h)
    · rw [hacc] at h; cases h
  · intro hg
    have hc' : ∀ e ∈ l, ∀ v2, get l (flip e.1) = some v2 → v2 = e.2 := by
      intro e he v2 h2
      by_cases hd : flip e.1 = e.1
      · rw [hd, get_of_mem hu he] at h2
        exact (Option.some.inj h2).symm
      · exact hc e he hd v2 h2
    apply symFold_complete get' set flip hgs l acc k v
    · rintro e he (rfl | rfl)
      · rcases hg with hg | hg
        · rw [get_of_mem hu he] at hg; exact Option.some.inj hg
        · exact (hc' e he v hg).symm
      · rw [hff] at hg
        rcases hg with hg | hg
        · exact (hc' e he v hg).symm
        · rw [get_of_mem hu he] at hg; exact Option.some.inj hg
    · right
      rcases hg with hg | hg
      · exact ⟨(k, v), mem_of_get hg, Or.inl rfl⟩
      · exact ⟨(flip k, v), mem_of_get hg, Or.inr (hff k)⟩

end

end Bio.Assoc

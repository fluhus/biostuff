/-
  Helper lemmas for C18: early stop of the explicit-stack iterator of trie `ForEach`.
-/
import Bio.Lemmas.TakeThrough
import Bio.Model.Trie

/-! ## Trie `ForEach` -/

namespace Bio.Trie

theorem T.isNil_iff (t : T) : t.isNil = true ↔ t = .nil := by
  cases t <;> simp [T.isNil]

/-- Paths (from the root) to the leaf nodes below a node whose path is `p`
and whose edges are `t`, in edge order.  A child without edges is a leaf. -/
def leavesFrom : Bytes → T → List Bytes
  | _, .nil => []
  | p, .cons k c r =>
    (if c.isNil then [p ++ [k]] else leavesFrom (p ++ [k]) c) ++ leavesFrom p r

/-- The final sequences of a trie.  The root is never a leaf. -/
def leaves (t : T) : List Bytes := leavesFrom [] t

/-- Same as `leavesFrom` with the path kept reversed, as in `eachLoop`. -/
def leavesRev : Bytes → T → List Bytes
  | _, .nil => []
  | cur, .cons k c r =>
    (if c.isNil then [(k :: cur).reverse] else []) ++ leavesRev (k :: cur) c ++ leavesRev cur r

theorem leavesRev_eq (cur : Bytes) (t : T) : leavesRev cur t = leavesFrom cur.reverse t := by
  induction t generalizing cur with
  | nil => rfl
  | cons k c r ih1 ih2 =>
    simp only [leavesRev, leavesFrom, ih1, ih2, List.reverse_cons]
    cases c <;> simp [T.isNil, leavesFrom]

/-- The uninterrupted output still to come from a stack with current path `cur`. -/
def pending : List (Bool × T) → Bytes → List Bytes
  | [], _ => []
  | (leaf, rem) :: s, cur =>
    (if leaf && !cur.isEmpty then [cur.reverse] else []) ++ leavesRev cur rem
      ++ pending s (cur.drop 1)

/-- A bound on the loop steps the stack still takes (the fuel): two per edge left in a frame (push
the child's frame, pop it) and one for the frame's own pop. -/
def work : List (Bool × T) → Nat
  | [] => 0
  | (_, rem) :: s => 2 * rem.size + 1 + work s

/-- A frame flagged as leaf has no edges left. -/
def WF (s : List (Bool × T)) : Prop := ∀ x ∈ s, x.1 = true → x.2 = .nil

/-- An item is handed over only if `c`; then the run goes on iff the consumer accepts it. -/
theorem takeThrough_gate {α : Type} (f : α → Bool) (c : Bool) (x : α) (P : List α) :
    (if c then x :: (if f x then takeThrough (fun y => !f y) P else []) else takeThrough (fun y => !f y) P)
      = takeThrough (fun y => !f y) ((if c then [x] else []) ++ P) := by
  cases c
  · rfl
  · rw [if_pos rfl, if_pos rfl, List.singleton_append, takeThrough_cons]; cases f x <;> rfl

theorem eachLoop_eq_pending (f : Bytes → Bool) (fuel : Nat) (s : List (Bool × T)) (cur : Bytes)
    (hwf : WF s) (hfuel : work s ≤ fuel) :
    eachLoop f fuel s cur = takeThrough (fun x => !f x) (pending s cur) := by
  induction fuel generalizing s cur with
  | zero =>
    cases s with
    | nil => rfl
    | cons x s => obtain ⟨l, rem⟩ := x; simp [work] at hfuel
  | succ fuel ih =>
    cases s with
    | nil => rfl
    | cons x s =>
      obtain ⟨leaf, rem⟩ := x
      have hleaf : leaf = true → rem = .nil := hwf (leaf, rem) (by simp)
      have hwfs : WF s := fun y hy => hwf y (by simp [hy])
      cases rem with
      | nil =>
        have hw : work s ≤ fuel := by simp [work, T.size] at hfuel; omega
        have hp : pending ((leaf, T.nil) :: s) cur
            = (if leaf && !cur.isEmpty then [cur.reverse] else []) ++ pending s (cur.drop 1) := by
          simp [pending, leavesRev]
        rw [hp, ← takeThrough_gate]
        cases s with
        | nil => rfl
        | cons y s => simp only [eachLoop, ih _ (cur.drop 1) hwfs hw]
      | cons k c r =>
        have hl : leaf = false := by
          cases leaf
          · rfl
          · simp at hleaf
        subst hl
        have hwf' : WF ((c.isNil, c) :: (false, r) :: s) := by
          intro y hy
          simp only [List.mem_cons] at hy
          rcases hy with rfl | rfl | hy
          · exact (T.isNil_iff c).1
          · simp
          · exact hwfs y hy
        have hw : work ((c.isNil, c) :: (false, r) :: s) ≤ fuel := by
          simp only [work, T.size] at hfuel ⊢; omega
        have ih' := ih _ (k :: cur) hwf' hw
        simp [eachLoop, ih', pending, leavesRev]
theorem eachLoop_start (f : Bytes → Bool) (t : T) (fuel : Nat) (h : 2 * t.size + 1 ≤ fuel) :
    eachLoop f fuel [(t.isNil, t)] [] = takeThrough (fun x => !f x) (leaves t) := by
  rw [eachLoop_eq_pending f fuel _ _ ?_ ?_]
  · simp [pending, leaves, leavesRev_eq]
  · intro x hx
    simp only [List.mem_singleton] at hx
    subst hx
    exact (T.isNil_iff t).1
  · simpa [work] using h

theorem leavesFrom_ne_nil (p : Bytes) (t : T) : ∀ x ∈ leavesFrom p t, p.length < x.length := by
  induction t generalizing p with
  | nil => simp [leavesFrom]
  | cons k c r ih1 ih2 =>
    intro x hx
    simp only [leavesFrom, List.mem_append] at hx
    rcases hx with hx | hx
    · split at hx
      · simp at hx; subst hx; simp
      · have := ih1 _ x hx
        simp at this; omega
    · exact ih2 p x hx

end Bio.Trie

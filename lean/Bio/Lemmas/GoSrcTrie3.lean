/-
  trie/trie.go at the Go SOURCE level, part 3: `(*Trie).Delete`.

  * `del_loop1`: the first loop (`for i := range b { stack[i] = cur; cur = cur.m[b[i]]; … }`) from
    ANY node that represents `t`: returns `(false, heap)` at the first missing edge exactly when
    `Trie.has b t = false` (⇔ `Trie.del b t = none`); otherwise the stack holds the `Path`.
  * `del_loop2`: the second loop (`for i := len(stack)-1; i >= 0; i--`) is `eraseUp` on the
    (node, key) pairs of the path, deepest first.
  * `del_sem`: `eraseUp` along a path computes `Trie.del`: the last edge is erased, and edges keep
    being erased upwards exactly while the node below became empty (the model's
    `if c'.isNil then some r else some (.cons k c' r)`), stated with a continuation `U` for the
    levels above.
  * `delete_loops` puts the three together, for loop bodies given by what they do; `Delete_eq`
    discharges that from the translated text.
-/
import Bio.Lemmas.GoSrcTrie2
set_option linter.unusedVariables false
namespace Bio.GoSrcLemmas
namespace TrieGo
open Bio Bio.GoRt Bio.Generated Bio.Trie

/-- the nodes at which the keys of `b` are looked up, walking down from `p`; every lookup succeeds -/
inductive Path (heap : Heap) : Nat → Bytes → List Nat → Prop
  | nil (p : Nat) : Path heap p [] []
  | cons {p c : Nat} {k : UInt8} {bs : Bytes} {ps : List Nat} {es : List (UInt8 × Int)} :
      heap[p]? = some es → mapGet es k (-1) = (c : Int) → Path heap c bs ps →
      Path heap p (k :: bs) (p :: ps)

theorem Path.length {heap : Heap} {p b ps} (h : Path heap p b ps) : ps.length = b.length := by
  induction h with
  | nil => rfl
  | cons _ _ _ ih => simp [ih]

theorem Path.lt {heap : Heap} {p b ps} (h : Path heap p b ps) : ∀ x ∈ ps, x < heap.length := by
  induction h with
  | nil => simp
  | cons hp _ _ ih =>
    intro x hx
    simp only [List.mem_cons] at hx
    rcases hx with rfl | hx
    · exact (List.getElem?_eq_some_iff.1 hp).1
    · exact ih x hx

/-- state of the first loop of `Delete`: a pending `return`, `stack` (pointers as `Int`), `cur` -/
abbrev DelSt := Option (Bool × Heap) × List Int × Int

/-- from the node `n` that represents `t`, with `pre` already walked (nodes `ps0`) and the slots
`rest` of the stack still to be filled -/
theorem del_loop1 (heap : Heap) (b : Bytes) (body : Int → DelSt → Option (ForInStep DelSt))
    (hbody : ∀ (i : Nat) (stack : List Int) (n : Nat) es k, heap[n]? = some es → b[i]? = some k →
      i < stack.length →
      body (Int.ofNat i) (none, stack, (n : Int)) =
        if (mapGet es k (-1) == -1) = true then
          some (.done (some (false, heap), stack.set i (n : Int), mapGet es k (-1)))
        else some (.yield (none, stack.set i (n : Int), mapGet es k (-1)))) :
    ∀ (suf pre : Bytes) (ps0 rest : List Int) (n : Nat) (es : List (UInt8 × Int)) (t : T)
      (S : List Nat),
      b = pre ++ suf → ps0.length = pre.length → rest.length = suf.length → heap[n]? = some es →
      RepE heap es t S →
      (has suf t = false ∧ ∃ st,
        forIn ((List.range' pre.length suf.length).map Int.ofNat)
          ((none, ps0 ++ rest, (n : Int)) : DelSt) body = some st ∧ st.1 = some (false, heap)) ∨
      (has suf t = true ∧ ∃ ps cur, Path heap n suf ps ∧
        forIn ((List.range' pre.length suf.length).map Int.ofNat)
          ((none, ps0 ++ rest, (n : Int)) : DelSt) body = some (none, ps0 ++ ps.map Int.ofNat, cur)) := by
  intro suf
  induction suf with
  | nil =>
    intro pre ps0 rest n es t S hb hl hrest hn hr
    cases List.length_eq_zero_iff.1 hrest
    exact Or.inr ⟨by cases t <;> rfl, [], (n : Int), .nil n, rfl⟩
  | cons k bs ih =>
    intro pre ps0 rest n es t S hb hl hrest hn hr
    obtain ⟨r, rest, rfl⟩ := List.exists_cons_of_length_eq_add_one hrest
    have hbk : b[pre.length]? = some k := by
      rw [hb, List.getElem?_append_right (Nat.le_refl _), Nat.sub_self]; rfl
    have hset : (ps0 ++ r :: rest).set pre.length (n : Int) = (ps0 ++ [(n : Int)]) ++ rest := by
      rw [← hl, List.set_append_right _ _ (Nat.le_refl _), Nat.sub_self, List.append_assoc]; rfl
    rw [List.length_cons, List.range'_succ, List.map_cons, List.forIn_cons,
      hbody pre.length _ n es k hn hbk (by rw [List.length_append, hl]; simp), hset]
    rcases hr.lookup k with ⟨h1, h2⟩ | ⟨es1, es2, c, h1, rfl, h3⟩
    · rw [h1]
      exact Or.inl ⟨has_absent k bs t (hr.keys ▸ h2), _, rfl, rfl⟩
    · rw [h1, natCast_ne_neg_one]
      simp only [Bool.false_eq_true, if_false, Option.bind_some, Option.bind_eq_bind]
      obtain ⟨t1, tc, t2, S1, Sc, S2, es', hc, r1, rc, r2, rfl, rfl⟩ := hr.at_edge
      rw [has_present k bs t1 tc t2 (r1.keys ▸ h3)]
      have := ih (pre ++ [k]) (ps0 ++ [(n : Int)]) rest c es' tc Sc (by simp [hb]) (by simp [hl])
        (by simpa using hrest) hc rc
      rw [List.length_append, List.length_singleton] at this
      rcases this with ⟨g1, st, g2, g3⟩ | ⟨g1, ps, cur, g2, g3⟩
      · exact Or.inl ⟨g1, st, g2, g3⟩
      · refine Or.inr ⟨g1, n :: ps, cur, .cons hn h1 g2, ?_⟩
        rw [g3, List.append_assoc]
        rfl

/-- erase the edges `(node, key)` in order (deepest first), stopping after the first node that
keeps other edges -/
def eraseUp : Heap → List (Nat × UInt8) → Heap
  | h, [] => h
  | h, (p, k) :: U =>
    if (mapErase (h[p]?.getD []) k).isEmpty then eraseUp (h.set p (mapErase (h[p]?.getD []) k)) U
    else h.set p (mapErase (h[p]?.getD []) k)

theorem forIn_eraseUp : ∀ (U : List (Nat × UInt8)) (h : Heap), (∀ x ∈ U, x.1 < h.length) →
    forIn U h (fun x h => (h[x.1]?).bind fun es =>
      some (if (mapErase es x.2).isEmpty then ForInStep.yield (h.set x.1 (mapErase es x.2))
        else .done (h.set x.1 (mapErase es x.2)))) = some (eraseUp h U)
  | [], _, _ => rfl
  | (p, k) :: U, h, hv => by
    have hp : p < h.length := hv (p, k) (by simp)
    rw [List.forIn_cons, List.getElem?_eq_getElem hp, Option.bind_some, eraseUp,
      List.getElem?_eq_getElem hp, Option.getD_some]
    split
    · exact forIn_eraseUp U _ fun x hx => by simpa using hv x (by simp [hx])
    · rfl

/-- `for i := len(stack)-1; i >= 0; i--` reading `stack[i]` and `b[i]` is a loop over the (node, key)
pairs, last first -/
theorem del_loop2 (body2 : Int → Heap → Option (ForInStep Heap)) (ps : List Nat) (b : Bytes)
    (hlen : ps.length = b.length)
    (hbody : ∀ (a p : Nat) (k : UInt8) (h : Heap), ps[a]? = some p → b[a]? = some k →
      body2 (Int.ofNat a) h = (h[p]?).bind fun es =>
        some (if (mapErase es k).isEmpty then .yield (h.set p (mapErase es k))
          else .done (h.set p (mapErase es k))))
    (h : Heap) (hv : ∀ p ∈ ps, p < h.length) :
    forIn ((List.range b.length).reverse.map Int.ofNat) h body2
      = some (eraseUp h (ps.zip b).reverse) := by
  have hz : (ps.zip b).length = b.length := by rw [List.length_zip, hlen, Nat.min_self]
  rw [← forIn_eraseUp _ h fun x hx => hv x.1 (List.of_mem_zip (List.mem_reverse.1 hx)).1,
    ← forIn_range_reverse_getElem (ps.zip b) [] h, hz, List.forIn_map]
  refine forIn_congr_mem _ _ _ _ fun a ha h' => ?_
  have ha : a < (ps.zip b).length := by simpa [hz] using ha
  rw [List.append_nil, List.getElem?_eq_getElem ha, Option.bind_some]
  obtain ⟨e1, e2⟩ := List.getElem?_zip_eq_some.1 (List.getElem?_eq_getElem ha)
  exact hbody a _ _ h' e1 e2

theorem eraseUp_edge {h : Heap} {n : Nat} {es1 es2 : List (UInt8 × Int)} {k : UInt8} {c : Int}
    {t' : T} {S' : List Nat} (hn : h[n]? = some (es1 ++ (k, c) :: es2))
    (hnd : ((es1 ++ (k, c) :: es2).map Prod.fst).Nodup)
    (hg : Good (h.set n (es1 ++ es2)) n t' S') (U : List (Nat × UInt8)) :
    eraseUp h ((n, k) :: U)
      = if t'.isNil then eraseUp (h.set n (es1 ++ es2)) U else h.set n (es1 ++ es2) := by
  obtain ⟨es3, q1, q2⟩ := hg.cell
  cases (List.getElem?_set_self (List.getElem?_eq_some_iff.1 hn).1).symm.trans q1
  simp only [eraseUp, hn, Option.getD_some, mapErase_present es1 es2 k c hnd, isNil_eq_isEmpty q2]

theorem del_sem : ∀ (b : Bytes) (heap : Heap) (n : Nat) (t : T) (S : List Nat) (ps : List Nat),
    b ≠ [] → Good heap n t S → Path heap n b ps →
    ∃ t' heap' S', del b t = some t' ∧ heap'.length = heap.length ∧
      (∀ U, eraseUp heap ((ps.zip b).reverse ++ U) = if t'.isNil then eraseUp heap' U else heap') ∧
      Good heap' n t' S' ∧ Upd heap n S heap' S' := by
  intro b
  induction b with
  | nil => intro heap n t S ps h; exact absurd rfl h
  | cons k bs ih =>
    intro heap n t S ps _ hg hpath
    cases hpath with
    | @cons _ c _ _ ps' es hn hget hp' =>
      obtain ⟨es0, hn0, hr⟩ := hg.cell
      cases hn.symm.trans hn0
      rcases hr.lookup k with ⟨h1, _⟩ | ⟨es1, es2, c', h1, rfl, h3⟩
      · rw [h1] at hget; omega
      · cases Int.ofNat.inj (h1.symm.trans hget)
        obtain ⟨t1, tc, t2, S1, Sc, S2, rfl, rfl, hkt1, hgc, hplug⟩ := hg.focus hn h3
        have hnd := hg.keysNodup hn
        cases bs with
        | nil =>
          -- the last key: erase the edge
          cases hp'
          obtain ⟨_, _, _, hgood, hu⟩ := hplug heap Sc (.refl ..)
          exact ⟨_, _, _, del_present_single k t1 tc t2 hkt1, List.length_set,
            eraseUp_edge hn hnd hgood, hgood, hu⟩
        | cons b1 bs' =>
          obtain ⟨tc', heap1, Sc', hdel, hlen1, herase, hg1, hu1⟩ :=
            ih heap c tc Sc ps' (by simp) hgc hp'
          obtain ⟨hn1, hu, hgood, hgoodE, huE⟩ := hplug heap1 Sc' hu1
          have hzip : ((n :: ps').zip (k :: b1 :: bs')).reverse
              = (ps'.zip (b1 :: bs')).reverse ++ [(n, k)] := by simp
          cases hcn : tc'.isNil
          · -- the node below keeps edges: stop
            refine ⟨_, heap1, _, ?_, hlen1, fun U => ?_, hgood _ hg1, hu⟩
            · rw [del_present k b1 bs' t1 tc t2 hkt1, hdel]; simp [hcn]
            · have hne : (tapp t1 (.cons k tc' t2)).isNil = false :=
                isNil_false_iff.2 fun e => T.noConfusion (tapp_eq_nil.1 e).2
              rw [hzip, List.append_assoc, herase, hcn, hne]
              rfl
          · -- the node below became empty: erase this edge too, and go on upwards
            refine ⟨_, _, _, ?_, List.length_set.trans hlen1, fun U => ?_, hgoodE, huE⟩
            · rw [del_present k b1 bs' t1 tc t2 hkt1, hdel]; simp [hcn]
            · rw [hzip, List.append_assoc, herase, hcn, if_pos rfl]
              exact eraseUp_edge hn1 hnd hgoodE U

/-- the two loops of `Delete` (bodies as hypotheses, discharged from the translated text in
`Delete_eq`): `Trie.del`, on a good node -/
theorem delete_loops (heap : Heap) (b : Bytes) (body1 : Int → DelSt → Option (ForInStep DelSt))
    (fin1 : DelSt → Option (Bool × Heap)) (body2 : List Int → Int → Heap → Option (ForInStep Heap))
    (fin2 : Heap → Option (Bool × Heap))
    (hbody1 : ∀ (i : Nat) (stack : List Int) (n : Nat) es k, heap[n]? = some es → b[i]? = some k →
      i < stack.length →
      body1 (Int.ofNat i) (none, stack, (n : Int)) =
        if (mapGet es k (-1) == -1) = true then
          some (.done (some (false, heap), stack.set i (n : Int), mapGet es k (-1)))
        else some (.yield (none, stack.set i (n : Int), mapGet es k (-1))))
    (hsome : ∀ r stack cur, fin1 (some r, stack, cur) = some r)
    (hnone : ∀ stack cur, fin1 (none, stack, cur)
      = (forIn (downFrom (len stack - 1)) heap (body2 stack)).bind fin2)
    (hbody2 : ∀ (ps : List Nat) (a p : Nat) (k : UInt8) (h : Heap), ps[a]? = some p →
      b[a]? = some k →
      body2 (ps.map Int.ofNat) (Int.ofNat a) h = (h[p]?).bind fun es =>
        some (if (mapErase es k).isEmpty then .yield (h.set p (mapErase es k))
          else .done (h.set p (mapErase es k))))
    (hfin2 : ∀ h, fin2 h = some (true, h))
    {n : Nat} {t : T} {S : List Nat} (hg : Good heap n t S) :
    ∃ r, (forIn (upTo (len b)) ((none, List.replicate (len b).toNat (-1), (n : Int)) : DelSt) body1).bind
        fin1 = some r ∧
      match del b t with
      | none => r = (false, heap)
      | some t' => ∃ S', r.1 = true ∧ Good r.2 n t' S' ∧ r.2.length = heap.length ∧ Upd heap n S r.2 S' := by
  obtain ⟨es, hn, hr⟩ := hg.cell
  rw [upTo_len]
  have hloop1 := del_loop1 heap b body1 hbody1 b [] [] (List.replicate (len b).toNat (-1)) n es t S
    rfl rfl (by simp [len]) hn hr
  simp only [List.length_nil, List.nil_append] at hloop1
  rcases hloop1 with ⟨g1, st, g2, g3⟩ | ⟨g1, ps, cur, g2, g3⟩
  · obtain ⟨r, s1, s2⟩ := st
    cases g3
    exact ⟨_, by rw [g2]; exact hsome .., by rw [(del_eq_none_iff b t).2 g1]⟩
  · have hdown : downFrom (len (ps.map Int.ofNat) - 1) = (List.range b.length).reverse.map Int.ofNat := by
      rw [downFrom_len, List.length_map, g2.length]
    refine ⟨_, by
      rw [g3, Option.bind_some, hnone, hdown,
        del_loop2 (body2 (ps.map Int.ofNat)) ps b g2.length (hbody2 ps) heap g2.lt,
        Option.bind_some, hfin2], ?_⟩
    by_cases hbn : b = []
    · subst hbn
      cases g2
      rw [del_nil_left]
      exact ⟨S, rfl, hg, rfl, .refl ..⟩
    · obtain ⟨t', heap', S', q1, q2, q3, q4, q5⟩ := del_sem b heap n t S ps hbn hg g2
      have := q3 []
      simp only [List.append_nil, eraseUp, ite_self] at this
      rw [q1, this]
      exact ⟨S', rfl, q4, q2, q5⟩

theorem Delete_eq (hF : GoSrc.Trie_Delete_Found = true) (heap : Heap) (n : Nat) (t : T)
    (S : List Nat) (b : Bytes) (hg : Good heap n t S) :
    ∃ r, GoSrc.Trie_Delete heap (n : Int) b = some r ∧
      match del b t with
      | none => r = (false, heap)
      | some t' => ∃ S', r.1 = true ∧ Good r.2 n t' S' ∧ r.2.length = heap.length ∧ Upd heap n S r.2 S' := by
  first
  | exact absurd hF (by decide)
  | (unfold GoSrc.Trie_Delete
     simp only [Option.pure_def, Option.bind_eq_bind]
     refine delete_loops heap b _ _ ?body2 ?fin2 ?_ ?_ ?hnone ?_ ?_ hg
     case hnone => intro stack cur; dsimp only; rfl
     · intro i stack n es k hn hbi hi
       simp only [idx_IntofNat, setIdx_IntofNat, idx_ofNat, hbi, hi, hn, if_true, Option.bind_some]
     · intro r stack cur; rfl
     · intro ps a p k h ha hka
       simp only [idx_IntofNat, setIdx_IntofNat, List.getElem?_map, ha, hka, Option.map_some,
         Option.bind_some]
       cases hp : h[p]? with
       | none => rfl
       | some es0 =>
         have hplt : p < h.length := (List.getElem?_eq_some_iff.1 hp).1
         simp only [hplt, if_true, Option.bind_some, List.getElem?_set_self hplt, len]
         cases mapErase es0 k <;> simp
     · intro h; rfl)

end TrieGo
end Bio.GoSrcLemmas

/-
  `(*Node).traverse`, `PreOrder`, `PostOrder` of formats/newick/traverse.go, translated from the Go
  source text on every run into `Bio.Generated.GoSrc.traverse` / `PreOrder` / `PostOrder` (the
  `for len(stack) > 0 { … }` loop bounded by `fuel`, the consumer asked about the whole history of
  nodes handed to it, the result = the log of those nodes; `none` = a Go panic or out of fuel).

  * `trav_step`: one iteration of the translated loop from ANY well-formed stack (the Go stack has its
    top frame last, the model's first) and ANY log either ends the loop with the recursive order cut by the
    consumer, or is one step of the stack machine (`Newick.frame_cases`);
  * hence `traverse_log` for `2 * size ≤ fuel` (sharp: `traverse_short`) by the fuel lemmas of
    `Bio.Lemmas.GoRt`, and `GoSrc.traverse fuel t pre h = some (traverseH pre h t)`.

  Guarded by the translator's `<f>_Found` flags as in `Bio.Lemmas.GoSrc`.
-/
import Bio.Generated.GoSrc
import Bio.Lemmas.GoRt
import Bio.Lemmas.Traverse
import Bio.Lemmas.IterH
set_option linter.unusedVariables false
namespace Bio.GoSrcLemmas
open Bio Bio.GoRt Bio.Generated Bio.Newick

/-! ## `n.Children` -/

theorem forestList_length (f : Forest) : (forestList f).length = f.length := by
  induction f with
  | nil => rfl
  | cons n d k r _ ih => simp [forestList, Forest.length, ih]; omega

theorem forestList_getElem? (f : Forest) (i : Nat) : (forestList f)[i]? = f.get? i := by
  induction f generalizing i with
  | nil => cases i <;> rfl
  | cons n d k r _ ih =>
    cases i with
    | zero => rfl
    | succ i => simpa [forestList, Forest.get?] using ih i

theorem len_kidsOf (t : Tree) : len (kidsOf t) = (t.kids.length : Int) := by
  simp [len, kidsOf, forestList_length]

theorem idx_kidsOf (t : Tree) (i : Nat) : idx (kidsOf t) (i : Int) = t.kids.get? i := by
  rw [idx_ofNat, kidsOf, forestList_getElem?]

/-! ## The stack: a Go slice whose LAST element is the top frame -/

/-- the Go stack of a model stack (top frame first): reversed, child indices as Go `int`s -/
def encStack (s : List (Tree × Nat)) : List (Tree × Int) := s.reverse.map fun p => (p.1, (p.2 : Int))

theorem encStack_nil : encStack [] = [] := rfl

theorem encStack_cons (n : Tree) (i : Nat) (s : List (Tree × Nat)) :
    encStack ((n, i) :: s) = encStack s ++ [(n, (i : Int))] := by
  simp [encStack]

/-! ## One loop iteration -/

abbrev TravSt := Option (List Tree) × List Tree × List (Tree × Int) × Bool

/-- an iteration from the visit of the top frame `st` in post-order on (`acc` = the log, `stack` = the
Go stack at the start of the iteration, `d` = the `done` flag): verbatim -/
def travRest (pre : Bool) (h : List Tree → Bool) (acc : List Tree) (st : Tree × Int)
    (stack : List (Tree × Int)) (d : Bool) : Option (ForInStep TravSt) :=
  if (st.2 == len (kidsOf st.1)) = true then
    if (!pre) = true then
      if (!h (acc ++ [st.1])) = true then some (.done (some (acc ++ [st.1]), acc ++ [st.1], stack, d))
      else (slice stack 0 (len stack - 1)).bind fun stack' =>
        some (.yield (none, acc ++ [st.1], stack', d))
    else (slice stack 0 (len stack - 1)).bind fun stack' => some (.yield (none, acc, stack', d))
  else (idx (kidsOf st.1) st.2).bind fun c =>
    (idx (stack ++ [(c, 0)]) (len stack - 1)).bind fun tmp_2 =>
    (setIdx (stack ++ [(c, 0)]) (len stack - 1) (tmp_2.1, tmp_2.2 + 1)).bind fun stack' =>
      some (.yield (none, acc, stack', d))

/-- one iteration of the translated loop (the body of `GoSrc.traverse`, verbatim; the translator has
copied what follows the pre-order visit into both of its branches: `travRest`) -/
def goTrav (pre : Bool) (h : List Tree → Bool) (s : TravSt) : Option (ForInStep TravSt) :=
  if (!decide (len s.2.2.1 > 0)) = true then some (.done (none, s.2.1, s.2.2.1, true))
  else (idx s.2.2.1 (len s.2.2.1 - 1)).bind fun st =>
    if (pre && st.2 == 0) = true then
      if (!h (s.2.1 ++ [st.1])) = true then
        some (.done (some (s.2.1 ++ [st.1]), s.2.1 ++ [st.1], s.2.2.1, s.2.2.2))
      else travRest pre h (s.2.1 ++ [st.1]) st s.2.2.1 s.2.2.2
    else travRest pre h s.2.1 st s.2.2.1 s.2.2.2

/-- after the loop: a pending `return log`, or `return log` when the loop ended by itself -/
def travFin (s : TravSt) : Option (List Tree) :=
  match s.1 with
  | some r => some r
  | none => if s.2.2.2 = true then some s.2.1 else none

/-- the loop variables for the log `a.1` and the model stack `a.2` -/
def travEnc (a : List Tree × List (Tree × Nat)) : TravSt := (none, a.1, encStack a.2, false)

/-- One iteration from a well-formed stack: it ends the loop (the stack is empty, or the consumer said
stop) with the recursive order cut by the consumer as the log; or it is one machine step, after which
the log and what is still to come give the same cut.  (The first conjunct — a consumer that never stops
ends the loop only on the empty stack — is what `traverse_short` needs.) -/
theorem trav_step (pre : Bool) (h : List Tree → Bool) (acc : List Tree) (s : List (Tree × Nat))
    (hwf : WF s) :
    (((∀ l, h l = true) → s = []) ∧
      doneWith travFin (goTrav pre h (travEnc (acc, s))) = some (takeThroughH h acc (pending pre s))) ∨
    ∃ acc' s', goTrav pre h (travEnc (acc, s)) = some (.yield (travEnc (acc', s'))) ∧ WF s' ∧
      work s = work s' + 1 ∧
      takeThroughH h acc' (pending pre s') = takeThroughH h acc (pending pre s) := by
  cases s with
  | nil => exact Or.inl ⟨fun _ => rfl, rfl⟩
  | cons x s =>
    obtain ⟨n, i⟩ := x
    simp only [goTrav, travEnc, encStack_cons, len_snoc_pos, len_snoc_sub, idx_snoc_last,
      Option.bind_some, int_beq_zero, Bool.not_true, Bool.false_eq_true, if_false]
    rcases frame_cases pre hwf with ⟨hil, hwfs, hw, hp⟩ | ⟨c, hget, hne, hwf', hw, hp⟩
    · rw [hp]
      simp only [travRest, len_kidsOf, int_beq_natCast, hil, len_snoc_sub, slice_snoc, if_true,
        Option.bind_some]
      cases pre with
      | true =>
        cases h0 : (i == 0) with
        | false => exact Or.inr ⟨acc, s, rfl, hwfs, hw, rfl⟩
        | true =>
          cases hh : h (acc ++ [n]) with
          | false =>
            exact Or.inl ⟨fun ha => absurd (ha _) (by rw [hh]; decide),
              by simp [doneWith, travFin, takeThroughH_cons, hh]⟩
          | true => exact Or.inr ⟨acc ++ [n], s, rfl, hwfs, hw, by simp [takeThroughH_cons, hh]⟩
      | false =>
        cases hh : h (acc ++ [n]) with
        | false =>
          exact Or.inl ⟨fun ha => absurd (ha _) (by rw [hh]; decide),
              by simp [doneWith, travFin, takeThroughH_cons, hh]⟩
        | true => exact Or.inr ⟨acc ++ [n], s, by simp, hwfs, hw, by simp [takeThroughH_cons, hh]⟩
    · rw [hp]
      have hpush : ∀ acc', travRest pre h acc' (n, (i : Int)) (encStack s ++ [(n, (i : Int))]) false
          = some (.yield (travEnc (acc', (c, 0) :: (n, i + 1) :: s))) := by
        intro acc'
        simp only [travRest, travEnc, len_kidsOf, int_beq_natCast, hne, idx_kidsOf, hget, len_snoc_sub,
          idx_snoc2, setIdx_snoc2, Option.bind_some, encStack_cons, Bool.false_eq_true, if_false]
        rfl
      simp only [hpush]
      cases pre with
      | false => exact Or.inr ⟨acc, _, rfl, hwf', hw, rfl⟩
      | true =>
        cases h0 : (i == 0) with
        | false => exact Or.inr ⟨acc, _, rfl, hwf', hw, rfl⟩
        | true =>
          cases hh : h (acc ++ [n]) with
          | false =>
            exact Or.inl ⟨fun ha => absurd (ha _) (by rw [hh]; decide),
              by simp [doneWith, travFin, takeThroughH_cons, hh]⟩
          | true => exact Or.inr ⟨acc ++ [n], _, rfl, hwf', hw, by simp [takeThroughH_cons, hh]⟩

/-! ## The translated functions -/

/-- the translated function is the loop `goTrav` followed by `travFin` -/
theorem traverse_unfold (hF : GoSrc.traverse_Found = true) (fuel : Nat) (t : Tree) (pre : Bool)
    (h : List Tree → Bool) :
    GoSrc.traverse fuel t pre h
      = (forIn (List.range fuel) (travEnc ([], [(t, 0)])) (fun _ s => goTrav pre h s)).bind travFin := by
  first
  | exact absurd hF (by decide)
  | (unfold GoSrc.traverse
     simp only [Option.pure_def, Option.bind_eq_bind]
     exact Option.bind_congr fun s _ => by rcases s with ⟨_ | r, log, s, _ | _⟩ <;> rfl)

/-- the translated `traverse` logs the recursive pre- or post-order, cut after the first node at which
the consumer said stop, as soon as `2 * size ≤ fuel` -/
theorem traverse_log (hF : GoSrc.traverse_Found = true) (t : Tree) (pre : Bool)
    (h : List Tree → Bool) (fuel : Nat) (hf : 2 * t.size ≤ fuel) :
    GoSrc.traverse fuel t pre h
      = some (takeThroughH h [] (if pre then preRec t else postRec t)) := by
  have hs : 1 ≤ t.size := by simp [Tree.size]
  have hw := work_single t
  rw [traverse_unfold hF]
  -- iterations needed: `work` machine steps, and one more that sees the empty stack
  have := forIn_fuel_le (fun _ s => goTrav pre h s) travFin travEnc (fun a => WF a.2)
    (fun a => work a.2 + 1) (fun a => takeThroughH h a.1 (pending pre a.2)) (fun _ _ => Nat.succ_pos _)
    (fun _ a ha => (trav_step pre h a.1 a.2 ha).imp (·.2)
      fun ⟨acc', s', h1, h2, h3, h4⟩ =>
        ⟨(acc', s'), h1, h2, by show work s' + 1 < work a.2 + 1; omega, h4⟩)
    (List.range fuel) ([], [(t, 0)]) (WF.single t)
    (by rw [List.length_range]; show work [(t, 0)] + 1 ≤ fuel; omega)
  rw [this]
  cases pre <;> simp [pending, recF, preRec, postRec]

/-- the fuel bound is sharp: with fewer than `2 * size` iterations a consumer that never stops is
not done (the translation reports `none` = no claim) -/
theorem traverse_short (hF : GoSrc.traverse_Found = true) (t : Tree) (pre : Bool) (fuel : Nat)
    (hf : fuel < 2 * t.size) : GoSrc.traverse fuel t pre (fun _ => true) = none := by
  have hw := work_single t
  rw [traverse_unfold hF]
  exact forIn_fuel_short (fun _ s => goTrav pre (fun _ => true) s) travFin travEnc (fun a => WF a.2)
    (fun a => work a.2 + 1) (fun _ _ => rfl)
    (fun _ a ha => (trav_step pre (fun _ => true) a.1 a.2 ha).imp
      (fun hd => by rw [hd.1 fun _ => rfl]; exact Nat.le_refl _)
      fun ⟨acc', s', h1, h2, h3, _⟩ =>
        ⟨(acc', s'), h1, h2, by show work a.2 + 1 ≤ work s' + 1 + 1; omega⟩)
    (List.range fuel) ([], [(t, 0)]) (WF.single t)
    (by rw [List.length_range]; show fuel < work [(t, 0)] + 1; omega)

/-- the translated `traverse` is the hand model `IterH.traverseH` -/
theorem traverse_eq (hF : GoSrc.traverse_Found = true) (t : Tree) (pre : Bool)
    (h : List Tree → Bool) (fuel : Nat) (hf : 2 * t.size ≤ fuel) :
    GoSrc.traverse fuel t pre h = some (IterH.traverseH pre h t) := by
  rw [traverse_log hF t pre h fuel hf, IterH.traverseH_log]

theorem PreOrder_eq_traverse (hP : GoSrc.PreOrder_Found = true) (fuel : Nat) (t : Tree)
    (h : List Tree → Bool) : GoSrc.PreOrder fuel t h = GoSrc.traverse fuel t true h := by
  first
  | exact absurd hP (by decide)
  | (unfold GoSrc.PreOrder
     cases GoSrc.traverse fuel t true h <;> rfl)

theorem PostOrder_eq_traverse (hP : GoSrc.PostOrder_Found = true) (fuel : Nat) (t : Tree)
    (h : List Tree → Bool) : GoSrc.PostOrder fuel t h = GoSrc.traverse fuel t false h := by
  first
  | exact absurd hP (by decide)
  | (unfold GoSrc.PostOrder
     cases GoSrc.traverse fuel t false h <;> rfl)

end Bio.GoSrcLemmas

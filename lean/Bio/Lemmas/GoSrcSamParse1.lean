/-
  The translated SAM line parser (`splitTag`, `parseTags` of tags.go; `parseInts`, `parseLine` of sam.go)
  with `strconv.Atoi`, `strconv.ParseFloat`, `hex.DecodeString` as ARBITRARY parameters `f`, `g`, `h`: the
  translated functions never panic (`none`), except `parseInts` on lists of different lengths, and equal
  small specifications with the three value parsers as parameters.  The Go tag map is kept in INSERTION
  order (`mapSet`).  Guarded by the translator's `_Found` flags as in `Bio.Lemmas.GoSrc`.
-/
import Bio.Generated.GoSrc
import Bio.Lemmas.GoRt
import Bio.Lemmas.Sam
import Bio.Lemmas.GoSrcBedRead1
set_option linter.unusedVariables false
namespace Bio.GoSrcLemmas
open Bio Bio.GoRt Bio.Generated
namespace SamP
open BedRd (reqA AtoiModel)

/-- the body of the colon-finding loop of `splitTag`; the state is the positions of the first and the second
colon, `-1` = not seen yet (the Go code's sentinel); the loop ends at the second colon -/
def colonBody (x : Int × UInt8) (s : Int × Int) : Option (ForInStep (Int × Int)) :=
  if (x.snd == 58) = true then
    if (s.fst == -1) = true then some (ForInStep.yield (x.fst, s.snd))
    else some (ForInStep.done (s.fst, x.fst))
  else some (ForInStep.yield (s.fst, s.snd))

theorem colonLoop_second (r : Bytes) (j : Nat) (c1 : Int) (hc : c1 ≠ -1) :
    forIn ((r.zipIdx j).map fun p => ((p.2 : Int), p.1)) (c1, (-1 : Int)) colonBody
      = some (match Sam.splitColon r with
        | none => (c1, -1)
        | some (b, _) => (c1, ((j + b.length : Nat) : Int))) := by
  induction r generalizing j with
  | nil => rfl
  | cons x r ih =>
    simp only [List.zipIdx_cons, List.map_cons, List.forIn_cons, Sam.splitColon]
    by_cases hx : x = 58
    · subst hx
      have : (c1 == -1) = false := by simpa using hc
      simp [colonBody, this, Sam.COLON]
    · have h1 : (x == 58) = false := by simpa using hx
      have h2 : (x == Sam.COLON) = false := h1
      simp only [colonBody, h1, h2, Bool.false_eq_true, if_false, Option.bind_some, Option.bind_eq_bind]
      rw [ih (j + 1)]
      cases Sam.splitColon r with
      | none => rfl
      | some p => simp; omega

theorem colonLoop_first (tag : Bytes) (k : Nat) :
    forIn ((tag.zipIdx k).map fun p => ((p.2 : Int), p.1)) ((-1 : Int), (-1 : Int)) colonBody
      = some (match Sam.splitColon tag with
        | none => (-1, -1)
        | some (a, r) => match Sam.splitColon r with
          | none => (((k + a.length : Nat) : Int), -1)
          | some (b, _) => (((k + a.length : Nat) : Int), ((k + a.length + 1 + b.length : Nat) : Int))) := by
  induction tag generalizing k with
  | nil => rfl
  | cons x r ih =>
    simp only [List.zipIdx_cons, List.map_cons, List.forIn_cons, Sam.splitColon]
    by_cases hx : x = 58
    · subst hx
      simp only [colonBody, Sam.COLON, beq_self_eq_true, if_true, Option.bind_some, Option.bind_eq_bind]
      rw [colonLoop_second r (k + 1) (k : Int) (by omega)]
      cases Sam.splitColon r with
      | none => simp
      | some p => simp
    · have h1 : (x == 58) = false := by simpa using hx
      have h2 : (x == Sam.COLON) = false := h1
      simp only [colonBody, h1, h2, Bool.false_eq_true, if_false, Option.bind_some, Option.bind_eq_bind]
      rw [ih (k + 1)]
      cases Sam.splitColon r with
      | none => rfl
      | some p =>
        obtain ⟨a, r'⟩ := p
        simp only [List.length_cons]
        cases Sam.splitColon r' with
        | none => simp; omega
        | some q => simp; omega

theorem slice_mid {α : Type} (pre mid suf : List α) (lo hi : Int) (hlo : lo = (pre.length : Int))
    (hhi : hi = ((pre.length + mid.length : Nat) : Int)) : slice (pre ++ (mid ++ suf)) lo hi = some mid := by
  subst hlo; subst hhi
  rw [slice_ofNat _ _ _ (by omega) (by simp)]
  simp

/-- what the translated `splitTag` returns, in terms of the model's `Sam.splitTag` -/
def splitTagRes (tag : Bytes) : List Bytes × GoErr :=
  match Sam.splitTag tag with
  | some (n, ty, v) => ([n, ty, v], GoErr.nil)
  | none => ([[], [], []], GoErr.other)

theorem splitTag_eq (hF : GoSrc.splitTag_Found = true) (tag : Bytes) :
    GoSrc.splitTag tag = some (splitTagRes tag) := by
  first
  | exact absurd hF (by decide)
  | (unfold GoSrc.splitTag
     dsimp only [Option.pure_def, Option.bind_eq_bind]
     have hl := colonLoop_first tag 0
     unfold colonBody at hl
     unfold enum
     rw [hl]
     unfold splitTagRes Sam.splitTag
     cases h1 : Sam.splitColon tag with
     | none => simp
     | some p =>
       obtain ⟨a, r⟩ := p
       cases h2 : Sam.splitColon r with
       | none => simp [h2]
       | some q =>
         obtain ⟨b, v⟩ := q
         obtain ⟨e1, _⟩ := Sam.splitColon_some h1
         obtain ⟨e2, _⟩ := Sam.splitColon_some h2
         simp only [h2, Option.bind_some, Nat.zero_add]
         have hne : ¬ (((a.length + 1 + b.length : Nat) : Int) = -1) := by omega
         simp only [beq_iff_eq, hne, if_false]
         have s1 : slice tag 0 (a.length : Int) = some a := by
           have := slice_mid [] a (Sam.COLON :: r) 0 (a.length : Int) rfl (by simp)
           simpa [e1] using this
         have s2 : slice tag ((a.length : Int) + 1) ((a.length + 1 + b.length : Nat) : Int) = some b := by
           have := slice_mid (a ++ [Sam.COLON]) b (Sam.COLON :: v) ((a.length : Int) + 1)
             ((a.length + 1 + b.length : Nat) : Int) (by simp) (by simp)
           simpa [e1, e2] using this
         have s3 : slice tag (((a.length + 1 + b.length : Nat) : Int) + 1) (len tag) = some v := by
           have := slice_mid (a ++ [Sam.COLON] ++ b ++ [Sam.COLON]) v [] (((a.length + 1 + b.length : Nat) : Int) + 1)
             (len tag) (by simp; omega) (by subst e1; subst e2; simp [len]; omega)
           simpa [e1, e2] using this
         rw [s1, s2, s3]
         rfl)

/-- `parseInts` on lists of equal length, for an arbitrary `strconv.Atoi`: the error of the first
string with an error (nil when there is none) and the pointees afterwards (the values before that
string written, the rest untouched) -/
def intsSpec (f : Bytes → Int × GoErr) : List Bytes → List Int → GoErr × List Int
  | s :: strs, x :: p =>
    if (f s).2 = GoErr.nil then ((intsSpec f strs p).1, (f s).1 :: (intsSpec f strs p).2)
    else ((f s).2, x :: p)
  | _, p => (GoErr.nil, p)

theorem intsSpec_length (f : Bytes → Int × GoErr) (strs : List Bytes) (p : List Int) :
    (intsSpec f strs p).2.length = p.length := by
  induction strs generalizing p with
  | nil => simp [intsSpec]
  | cons s strs ih =>
    cases p with
    | nil => simp [intsSpec]
    | cons x p =>
      simp only [intsSpec]
      split <;> simp [ih]

abbrev IntsSt := Option (GoErr × List Int) × List Int

def intsBody (f : Bytes → Int × GoErr) (x : Int × Bytes) (s : IntsSt) : Option (ForInStep IntsSt) :=
  if ((f x.snd).snd != GoErr.nil) = true then some (ForInStep.done (some ((f x.snd).snd, s.snd), s.snd))
  else (setIdx s.snd x.fst (f x.snd).fst).bind fun p => some (ForInStep.yield (none, p))

def intsK (s : IntsSt) : Option (GoErr × List Int) :=
  match s.fst with
  | some r => some r
  | none => some (GoErr.nil, s.snd)

theorem intsLoop (f : Bytes → Int × GoErr) (strs : List Bytes) (p done : List Int)
    (hlen : strs.length = p.length) :
    (forIn ((strs.zipIdx done.length).map fun q => ((q.2 : Int), q.1)) ((none, done ++ p) : IntsSt) (intsBody f)).bind intsK
      = some ((intsSpec f strs p).1, done ++ (intsSpec f strs p).2) := by
  induction strs generalizing p done with
  | nil =>
    cases p with
    | nil => rfl
    | cons x p => simp at hlen
  | cons s strs ih =>
    cases p with
    | nil => simp at hlen
    | cons x p =>
      simp only [List.zipIdx_cons, List.map_cons, List.forIn_cons, intsSpec]
      by_cases he : (f s).2 = GoErr.nil
      · have hset : setIdx (done ++ x :: p) (done.length : Int) (f s).1 = some ((done ++ [(f s).1]) ++ p) := by
          rw [setIdx_ofNat, if_pos (by simp)]; simp
        simp only [intsBody, he, bne_self_eq_false, Bool.false_eq_true, if_false, hset, Option.bind_some,
          Option.bind_eq_bind, if_true]
        have := ih p (done ++ [(f s).1]) (by simpa using hlen)
        simp only [List.length_append, List.length_cons, List.length_nil, Nat.zero_add] at this
        rw [this]; simp
      · have hb : ((f s).2 != GoErr.nil) = true := by simpa using he
        simp [intsBody, hb, he, intsK]

theorem parseInts_eq (hF : GoSrc.parseInts_Found = true) (f : Bytes → Int × GoErr) (strs : List Bytes) (p : List Int) :
    GoSrc.parseInts f strs p = if strs.length = p.length then some (intsSpec f strs p) else none := by
  first
  | exact absurd hF (by decide)
  | (unfold GoSrc.parseInts
     dsimp only [Option.pure_def, Option.bind_eq_bind]
     by_cases hl : strs.length = p.length
     · have hl' : (len strs != len p) = false := by simp [len, hl]
       rw [hl', if_pos hl]
       simp only [Bool.false_eq_true, if_false]
       have := intsLoop f strs p [] hl
       simp only [List.length_nil, List.nil_append] at this
       unfold enum
       refine Eq.trans ?_ this
       congr 1
       funext s
       rcases s with ⟨_ | _, _⟩ <;> rfl
     · have hl' : (len strs != len p) = true := by simp [len]; omega
       rw [hl', if_neg hl]; rfl)

/-- `x, err := strconv.ParseFloat(s, 64); if err != nil { return … }`: the value, when there is no error -/
def reqP (g : Bytes → Int → Bytes × GoErr) (s : Bytes) : Option Bytes :=
  if (g s 64).2 = GoErr.nil then some (g s 64).1 else none

/-- `x, err := hex.DecodeString(s); if err != nil { return … }` -/
def reqH (h : Bytes → Bytes × GoErr) (s : Bytes) : Option Bytes :=
  if (h s).2 = GoErr.nil then some (h s).1 else none

/-- one tag field: split, parse the value by its type letter, `result[name] = value` -/
def tagStep (A : Bytes → Option Int) (P H : Bytes → Option Bytes) (fld : Bytes) (acc : Sam.Tags) : Option Sam.Tags :=
  match Sam.splitTag fld with
  | none => none
  | some (name, ty, val) => (tagValSpec A P H ty val).map fun v => mapSet acc name v

/-- the translated `parseTags` with the value parsers as parameters: the Go map in insertion order -/
def tagsSpec (A : Bytes → Option Int) (P H : Bytes → Option Bytes) : List Bytes → Sam.Tags → Option Sam.Tags
  | [], acc => some acc
  | fld :: rest, acc =>
    match tagStep A P H fld acc with
    | none => none
    | some acc' => tagsSpec A P H rest acc'

def tagsRes (o : Option Sam.Tags) : Sam.Tags × GoErr :=
  match o with
  | some r => (r, GoErr.nil)
  | none => ([], GoErr.other)

abbrev TagsSt := Option (Sam.Tags × GoErr) × Sam.Tags

theorem tagsLoop (A : Bytes → Option Int) (P H : Bytes → Option Bytes)
    (body : Bytes → TagsSt → Option (ForInStep TagsSt)) (K : TagsSt → Option (Sam.Tags × GoErr))
    (hbody : ∀ fld acc, body fld (none, acc) = some (match tagStep A P H fld acc with
      | some acc' => ForInStep.yield (none, acc')
      | none => ForInStep.done (some ([], GoErr.other), acc)))
    (hK : ∀ s, K s = some (match s.1 with | some r => r | none => (s.2, GoErr.nil)))
    (vs : List Bytes) (acc : Sam.Tags) :
    (forIn vs ((none, acc) : TagsSt) body).bind K = some (tagsRes (tagsSpec A P H vs acc)) := by
  induction vs generalizing acc with
  | nil => simp [hK, tagsSpec, tagsRes]
  | cons fld rest ih =>
    simp only [List.forIn_cons, hbody, tagsSpec, Option.bind_eq_bind, Option.bind_some]
    cases tagStep A P H fld acc with
    | none => simp [hK, tagsRes]
    | some acc' => exact ih acc'

theorem parseTags_eq (hF : GoSrc.parseTags_Found = true) (hS : GoSrc.splitTag_Found = true)
    (h : Bytes → Bytes × GoErr) (f : Bytes → Int × GoErr) (g : Bytes → Int → Bytes × GoErr) (vs : List Bytes) :
    GoSrc.parseTags h f g vs = some (tagsRes (tagsSpec (reqA f) (reqP g) (reqH h) vs [])) := by
  first
  | exact absurd hF (by decide)
  | (unfold GoSrc.parseTags
     dsimp only [Option.pure_def, Option.bind_eq_bind]
     apply tagsLoop
     · intro fld acc
       rw [splitTag_eq hS]
       dsimp only [Option.bind_some]
       unfold splitTagRes tagStep
       cases Sam.splitTag fld with
       | none => simp
       | some t =>
         obtain ⟨n, ty, v⟩ := t
         have i0 : idx [n, ty, v] 0 = some n := rfl
         have i1 : idx [n, ty, v] 1 = some ty := rfl
         have i2 : idx [n, ty, v] 2 = some v := rfl
         simp only [i0, i1, i2, Option.bind_some, bne_self_eq_false, Bool.false_eq_true, if_false, beq_iff_eq]
         by_cases t1 : ty = [65]
         · subst t1
           rcases v with _ | ⟨c, _ | ⟨d, r⟩⟩
           · simp [tagValSpec, len]
           · simp [tagValSpec, len, idx]
           · simp [tagValSpec, len]; omega
         rw [if_neg t1]
         by_cases t2 : ty = [105]
         · subst t2
           by_cases e : (f v).2 = GoErr.nil <;>
             simp only [↓reduceIte, e, bne_self_eq_false, Bool.false_eq_true, bne_iff_ne, ne_eq, not_false_eq_true,
               tagValSpec, reqA, Option.map_some, Option.map_none]
         rw [if_neg t2]
         by_cases t3 : ty = [102]
         · subst t3
           by_cases e : (g v 64).2 = GoErr.nil <;>
             simp only [↓reduceIte, e, bne_self_eq_false, Bool.false_eq_true, bne_iff_ne, ne_eq, not_false_eq_true,
               tagValSpec, reqP, Option.map_some, Option.map_none]
         rw [if_neg t3]
         by_cases t4 : ty = [90]
         · subst t4; simp only [↓reduceIte, tagValSpec, Option.map_some]
         rw [if_neg t4]
         by_cases t5 : ty = [72]
         · subst t5
           by_cases e : (h v).2 = GoErr.nil <;>
             simp only [↓reduceIte, e, bne_self_eq_false, Bool.false_eq_true, bne_iff_ne, ne_eq, not_false_eq_true,
               tagValSpec, reqH, Option.map_some, Option.map_none]
         rw [if_neg t5]
         by_cases t6 : ty = [66]
         · subst t6; simp only [↓reduceIte, tagValSpec, Option.map_some]
         rw [if_neg t6]
         rw [tagValSpec_unknown _ _ _ v (by simp only [List.mem_cons, t1, t2, t3, t4, t5, t6, List.not_mem_nil, or_self, not_false_eq_true])]
         rfl
     · intro s
       rcases s with ⟨_ | _, _⟩ <;> rfl)

/-- a `*SAM` of the translated code: the twelve fields (`Tags` as the association list of the Go map) -/
abbrev SamT := Bytes × Int × Bytes × Int × Int × Bytes × Bytes × Int × Int × Bytes × Bytes × Sam.Tags

set_option synthInstance.maxSize 100000 in
/-- (found in one step; the search through twelve nested products doubles in size at every level) -/
instance instDecidableEqSamT : DecidableEq SamT := by unfold SamT; exact inferInstance

/-- the fields of a model record with the given tag map, as the translated code holds them -/
def tupleOf (s : Sam.Sam) (tags : Sam.Tags) : SamT :=
  (s.qname, s.flag, s.rname, s.pos, s.mapq, s.cigar, s.rnext, s.pnext, s.tlen, s.seq, s.qual, tags)

/-- the translated `parseLine` for arbitrary parameters -/
def lineSpec (h : Bytes → Bytes × GoErr) (f : Bytes → Int × GoErr) (g : Bytes → Int → Bytes × GoErr)
    (line : List Bytes) : Option SamT × GoErr :=
  match line with
  | qn :: fl :: rn :: po :: mq :: cg :: rx :: pn :: tl :: sq :: ql :: tagFields =>
    let r := intsSpec f [fl, po, mq, pn, tl] [0, 0, 0, 0, 0]
    if r.1 ≠ GoErr.nil then (none, r.1)
    else match tagsSpec (reqA f) (reqP g) (reqH h) tagFields [] with
      | none => (none, GoErr.other)
      | some tags => (some (qn, (r.2[0]?).getD 0, rn, (r.2[1]?).getD 0, (r.2[2]?).getD 0, cg, rx,
          (r.2[3]?).getD 0, (r.2[4]?).getD 0, sq, ql, tags), GoErr.nil)
  | _ => (none, GoErr.other)

theorem lineSpec_too_few (h : Bytes → Bytes × GoErr) (f : Bytes → Int × GoErr) (g : Bytes → Int → Bytes × GoErr)
    {line : List Bytes} (hn : line.length < 11) : lineSpec h f g line = (none, GoErr.other) := by
  unfold lineSpec
  split
  · simp at hn; omega
  · rfl

theorem list5_of_length {α : Type} (l : List α) (h : l.length = 5) : ∃ a b c d e, l = [a, b, c, d, e] := by
  match l, h with
  | [a, b, c, d, e], _ => exact ⟨a, b, c, d, e, rfl⟩

theorem sam_parseLine_eq (hF : GoSrc.sam_parseLine_Found = true) (hI : GoSrc.parseInts_Found = true)
    (hT : GoSrc.parseTags_Found = true) (hS : GoSrc.splitTag_Found = true)
    (h : Bytes → Bytes × GoErr) (f : Bytes → Int × GoErr) (g : Bytes → Int → Bytes × GoErr) (line : List Bytes) :
    GoSrc.sam_parseLine h f g line = some (lineSpec h f g line) := by
  first
  | exact absurd hF (by decide)
  | (unfold GoSrc.sam_parseLine
     dsimp only [Option.pure_def, Option.bind_eq_bind]
     by_cases hn : line.length < 11
     · rw [if_pos (by unfold len; omega), lineSpec_too_few h f g hn]
     · rw [if_neg (by unfold len; omega)]
       obtain ⟨qn, fl, rn, po, mq, cg, rx, pn, tl, sq, ql, tagFields, rfl⟩ := Sam.exists_cons11 (Nat.le_of_not_lt hn)
       have iat : atIdx (qn :: fl :: rn :: po :: mq :: cg :: rx :: pn :: tl :: sq :: ql :: tagFields) [1, 3, 4, 7, 8]
           = some [fl, po, mq, pn, tl] := rfl
       have isl : slice (qn :: fl :: rn :: po :: mq :: cg :: rx :: pn :: tl :: sq :: ql :: tagFields) 11
           (len (qn :: fl :: rn :: po :: mq :: cg :: rx :: pn :: tl :: sq :: ql :: tagFields)) = some tagFields :=
         slice_to_len _ 11 (by decide) (by simp [len]; omega)
       simp only [show ∀ l : List Bytes, idx (qn :: l) 0 = some qn from fun _ => rfl,
         show ∀ a b (l : List Bytes), idx (a :: b :: rn :: l) 2 = some rn from fun _ _ _ => rfl,
         show ∀ a b c d e (l : List Bytes), idx (a :: b :: c :: d :: e :: cg :: l) 5 = some cg from fun _ _ _ _ _ _ => rfl,
         show ∀ a b c d e k (l : List Bytes), idx (a :: b :: c :: d :: e :: k :: rx :: l) 6 = some rx
           from fun _ _ _ _ _ _ _ => rfl,
         show ∀ a b c d e k m n o (l : List Bytes), idx (a :: b :: c :: d :: e :: k :: m :: n :: o :: sq :: l) 9 = some sq
           from fun _ _ _ _ _ _ _ _ _ _ => rfl,
         show ∀ a b c d e k m n o p (l : List Bytes),
           idx (a :: b :: c :: d :: e :: k :: m :: n :: o :: p :: ql :: l) 10 = some ql
           from fun _ _ _ _ _ _ _ _ _ _ _ => rfl,
         iat, isl, Option.bind_some, parseInts_eq hI, parseTags_eq hT hS]
       unfold lineSpec
       simp only [List.length_cons, List.length_nil, if_true, Option.bind_some]
       obtain ⟨a, b, c, d, e, hr⟩ := list5_of_length _ (intsSpec_length f [fl, po, mq, pn, tl] [0, 0, 0, 0, 0])
       generalize intsSpec f [fl, po, mq, pn, tl] [0, 0, 0, 0, 0] = r at hr
       obtain ⟨er, pr⟩ := r
       simp only at hr
       subst hr
       simp only [show idx [a, b, c, d, e] 0 = some a from rfl, show idx [a, b, c, d, e] 1 = some b from rfl,
         show idx [a, b, c, d, e] 2 = some c from rfl, show idx [a, b, c, d, e] 3 = some d from rfl,
         show idx [a, b, c, d, e] 4 = some e from rfl, Option.bind_some]
       by_cases he : er = GoErr.nil
       · subst he
         simp only [bne_self_eq_false, Bool.false_eq_true, if_false, ne_eq, not_true_eq_false]
         cases tagsSpec (reqA f) (reqP g) (reqH h) tagFields [] with
         | none => simp [tagsRes]
         | some tags => simp [tagsRes]
       · simp [he])

end SamP
end Bio.GoSrcLemmas


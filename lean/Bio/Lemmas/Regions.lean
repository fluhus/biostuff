/-
  Helper lemmas for the regions model (property C16): `insertNat`/`erase`
  facts, the event order, the semantic characterisation of `at'` on a sweep,
  and the link between the swept events and the brute-force `covering`.
-/
import Bio.Model.Regions
namespace Bio.Regions

theorem mem_insertNat {a x : Nat} {l : List Nat} : a ∈ insertNat x l ↔ a = x ∨ a ∈ l := by
  induction l with
  | nil => simp [insertNat]
  | cons y ys ih =>
    simp only [insertNat]
    split
    · simp
    · split
      · rename_i h
        cases beq_iff_eq.1 h
        simp
      · simp only [List.mem_cons, ih]
        exact or_left_comm

theorem pairwise_insertNat {x : Nat} {l : List Nat} (h : l.Pairwise (· < ·)) :
    (insertNat x l).Pairwise (· < ·) := by
  induction l with
  | nil => simp [insertNat]
  | cons y ys ih =>
    have hy := List.pairwise_cons.1 h
    simp only [insertNat]
    split
    · rename_i hxy
      exact List.pairwise_cons.2 ⟨fun a ha => (List.mem_cons.1 ha).elim (· ▸ hxy)
        fun ha => Nat.lt_trans hxy (hy.1 a ha), h⟩
    · split
      · exact h
      · rename_i h1 h2
        have hne : x ≠ y := by simpa using h2
        refine List.pairwise_cons.2 ⟨fun a ha => ?_, ih hy.2⟩
        rcases mem_insertNat.1 ha with rfl | ha
        · omega
        · exact hy.1 a ha

theorem mem_erase_of_pairwise {a x : Nat} {l : List Nat} (h : l.Pairwise (· < ·)) :
    a ∈ l.erase x ↔ a ≠ x ∧ a ∈ l :=
  List.Nodup.mem_erase_iff (h.imp Nat.ne_of_lt)

theorem eq_of_pairwise_lt_of_mem_iff {l₁ l₂ : List Nat} (h₁ : l₁.Pairwise (· < ·))
    (h₂ : l₂.Pairwise (· < ·)) (h : ∀ a, a ∈ l₁ ↔ a ∈ l₂) : l₁ = l₂ :=
  List.Perm.eq_of_pairwise (le := (· < ·)) (fun _ _ _ _ h1 h2 => absurd h1 (Nat.lt_asymm h2)) h₁ h₂
    ((List.perm_ext_iff_of_nodup (h₁.imp Nat.ne_of_lt) (h₂.imp Nat.ne_of_lt)).2 h)

theorem evLess_irrefl (a : Ev) : evLess a a = false := by
  simp [evLess]

theorem evLe_refl (a : Ev) : evLe a a = true := by
  simp [evLe, evLess_irrefl]

theorem evLe_iff (a b : Ev) : evLe a b = true ↔
    a.pos < b.pos ∨ (a.pos = b.pos ∧ (a.start.toNat < b.start.toNat ∨
      (a.start.toNat = b.start.toNat ∧ a.idx ≤ b.idx))) := by
  obtain ⟨ai, ap, as⟩ := a
  obtain ⟨bi, bp, bs⟩ := b
  by_cases hp : ap = bp
  · subst hp
    cases as <;> cases bs <;> simp [evLe, evLess]
  · have hp' : ¬ bp = ap := fun h => hp h.symm
    simp [evLe, evLess, hp, hp']
    omega

theorem evLe_total (a b : Ev) : (evLe a b || evLe b a) = true := by
  simp only [Bool.or_eq_true, evLe_iff]
  omega

theorem evLe_trans (a b c : Ev) : evLe a b = true → evLe b c = true → evLe a c = true := by
  simp only [evLe_iff]
  omega

theorem evLe_pos {a b : Ev} (h : evLe a b = true) : a.pos ≤ b.pos := by
  rw [evLe_iff] at h
  omega

theorem not_evLe_end_start {x : Nat} {s q : Int} (h : s < q) :
    evLe ⟨x, q, false⟩ ⟨x, s, true⟩ = false := by
  have : ¬ s = q := by omega
  simp [evLe, evLess, this, h]

theorem sorted_mergeSort_evLe (l : List Ev) : (l.mergeSort evLe).Pairwise (fun a b => evLe a b = true) :=
  List.pairwise_mergeSort evLe_trans evLe_total l

theorem mem_eventsFrom {ev : Ev} : ∀ {k : Nat} {ss es : List Int},
    ev ∈ eventsFrom k ss es ↔
      ∃ j s q, ss[j]? = some s ∧ es[j]? = some q ∧ s < q ∧
        (ev = ⟨k + j, s, true⟩ ∨ ev = ⟨k + j, q, false⟩)
  | k, [], es => by simp [eventsFrom]
  | k, s :: ss, [] => by simp [eventsFrom]
  | k, s :: ss, e :: es => by
    -- the interval at `j = 0` is the head, those at `j + 1` are the events of the tails
    have ih := @mem_eventsFrom ev (k + 1) ss es
    simp only [Nat.add_right_comm k 1, Nat.add_assoc, exists_and_left] at ih
    rw [← Nat.or_exists_add_one, eventsFrom]
    simp only [List.getElem?_cons_zero, List.getElem?_cons_succ, Option.some.injEq, Nat.add_zero,
      exists_and_left, exists_eq_left', ← ih]
    split
    · rename_i h
      simp only [List.mem_cons, h, true_and, or_assoc]
    · rename_i h
      simp only [h, false_and, false_or]

theorem mem_events {ev : Ev} {starts ends : List Int} :
    ev ∈ eventsFrom 0 starts ends ↔
      ∃ s q, starts[ev.idx]? = some s ∧ ends[ev.idx]? = some q ∧ s < q ∧
        (ev = ⟨ev.idx, s, true⟩ ∨ ev = ⟨ev.idx, q, false⟩) := by
  rw [mem_eventsFrom]
  constructor
  · rintro ⟨j, s, q, h1, h2, h3, h4⟩
    have hj : ev.idx = j := by rcases h4 with h | h <;> simp [h]
    rw [hj]
    exact ⟨s, q, h1, h2, h3, by simpa using h4⟩
  · rintro ⟨s, q, h1, h2, h3, h4⟩
    exact ⟨ev.idx, s, q, h1, h2, h3, by simpa using h4⟩

theorem mem_covering {x : Nat} {starts ends : List Int} {i : Int} :
    x ∈ covering starts ends i ↔
      ∃ s q, starts[x]? = some s ∧ ends[x]? = some q ∧ s ≤ i ∧ i < q := by
  unfold covering
  rw [List.mem_filter, List.mem_range]
  constructor
  · rintro ⟨_, h⟩
    split at h
    · rename_i s q hs hq
      exact ⟨s, q, hs, hq, by simpa using h⟩
    · simp at h
  · rintro ⟨s, q, hs, hq, h⟩
    exact ⟨(List.getElem?_eq_some_iff.1 hs).1, by rw [hs, hq]; simpa using h⟩

theorem pairwise_covering (starts ends : List Int) (i : Int) :
    (covering starts ends i).Pairwise (· < ·) :=
  List.Pairwise.filter _ List.pairwise_lt_range

theorem not_mem_covering_of_ge {x : Nat} {starts ends : List Int} {i s e : Int}
    (hs : starts[x]? = some s) (he : ends[x]? = some e) (hse : s ≥ e) :
    x ∉ covering starts ends i := by
  rw [mem_covering]
  rintro ⟨s', q', hs', hq', h3, h4⟩
  cases hs.symm.trans hs'
  cases he.symm.trans hq'
  omega

/-- One step of the sweep on the active set. -/
def step (act : List Nat) (e : Ev) : List Nat :=
  if e.start then insertNat e.idx act else act.erase e.idx

theorem sweep_cons (e : Ev) (es : List Ev) (pos : Int) (act : List Nat) :
    sweep (e :: es) pos act =
      if e.pos != pos then (pos, act) :: sweep es e.pos (step act e) else sweep es pos (step act e) :=
  rfl

theorem pairwise_step {act : List Nat} (e : Ev) (h : act.Pairwise (· < ·)) :
    (step act e).Pairwise (· < ·) := by
  unfold step
  split
  · exact pairwise_insertNat h
  · exact h.erase _

theorem mem_step {act : List Nat} {e : Ev} {x : Nat} (h : act.Pairwise (· < ·)) :
    x ∈ step act e ↔ if e.idx = x then e.start = true else x ∈ act := by
  unfold step
  cases hs : e.start
  · rw [if_neg Bool.false_ne_true, mem_erase_of_pairwise h]
    split
    · rename_i hx; simp [hx]
    · rename_i hx; simp [Ne.symm hx]
  · rw [if_pos rfl, mem_insertNat]
    split
    · rename_i hx; simp [hx]
    · rename_i hx; simp [Ne.symm hx]

theorem pairwise_foldl_step : ∀ (l : List Ev) {act : List Nat}, act.Pairwise (· < ·) →
    (l.foldl step act).Pairwise (· < ·)
  | [], _, h => h
  | e :: l, _, h => pairwise_foldl_step l (pairwise_step e h)

/-- The `start` flag of the last event of index `x`, if any. -/
def lastFlag (x : Nat) : List Ev → Option Bool
  | [] => none
  | e :: es =>
    match lastFlag x es with
    | some b => some b
    | none => if e.idx = x then some e.start else none

theorem mem_foldl_step {x : Nat} : ∀ (l : List Ev) {act : List Nat}, act.Pairwise (· < ·) →
    (x ∈ l.foldl step act ↔
      match lastFlag x l with
      | some b => b = true
      | none => x ∈ act)
  | [], _, _ => by simp [lastFlag]
  | e :: l, act, h => by
    rw [List.foldl_cons, mem_foldl_step l (pairwise_step e h), lastFlag]
    cases lastFlag x l with
    | some b => rfl
    | none =>
      dsimp only
      rw [mem_step h]
      split <;> rfl

theorem lastFlag_eq_none {x : Nat} : ∀ {l : List Ev}, lastFlag x l = none → ∀ e ∈ l, e.idx ≠ x
  | [], _, e, he => by simp at he
  | a :: l, h, e, he => by
    rw [lastFlag] at h
    cases hl : lastFlag x l with
    | some b => rw [hl] at h; cases h
    | none =>
      rw [hl] at h
      rcases List.mem_cons.1 he with rfl | he
      · intro hx; simp [hx] at h
      · exact lastFlag_eq_none hl e he

theorem lastFlag_eq_some {x : Nat} {b : Bool} : ∀ {l : List Ev},
    l.Pairwise (fun a b => evLe a b = true) → lastFlag x l = some b →
    ∃ e ∈ l, e.idx = x ∧ e.start = b ∧ ∀ e' ∈ l, e'.idx = x → evLe e' e = true
  | [], _, h => by simp [lastFlag] at h
  | a :: l, hp, h => by
    have hp' := List.pairwise_cons.1 hp
    rw [lastFlag] at h
    cases hl : lastFlag x l with
    | some b' =>
      rw [hl] at h
      cases h
      obtain ⟨e, he, h1, h2, h3⟩ := lastFlag_eq_some hp'.2 hl
      refine ⟨e, List.mem_cons_of_mem _ he, h1, h2, fun e' he' hx => ?_⟩
      rcases List.mem_cons.1 he' with rfl | he'
      · exact hp'.1 e he
      · exact h3 e' he' hx
    | none =>
      rw [hl] at h
      dsimp only at h
      split at h
      · rename_i hx
        cases h
        refine ⟨a, by simp, hx, rfl, fun e' he' hx' => ?_⟩
        rcases List.mem_cons.1 he' with rfl | he'
        · exact evLe_refl _
        · exact absurd hx' (lastFlag_eq_none hl e' he')
      · cases h

theorem sweep_head : ∀ (evs : List Ev) (pos : Int) (act : List Nat),
    ∃ a rest, sweep evs pos act = (pos, a) :: rest
  | [], pos, act => ⟨act, [], rfl⟩
  | e :: es, pos, act => by
    rw [sweep_cons]
    split
    · exact ⟨_, _, rfl⟩
    · exact sweep_head es pos _

theorem at'_sweep_lt (evs : List Ev) (pos : Int) (act : List Nat) (i : Int) (h : i < pos) :
    at' (sweep evs pos act) i = [] := by
  obtain ⟨a, rest, hs⟩ := sweep_head evs pos act
  have : ¬ pos ≤ i := by omega
  simp [at', hs, this]

theorem at'_cons_sweep (p : Int) (a : List Nat) (es : List Ev) (q : Int) (act : List Nat)
    (i : Int) (hp : p ≤ i) :
    at' ((p, a) :: sweep es q act) i = if q ≤ i then at' (sweep es q act) i else a := by
  obtain ⟨a', rest, hs⟩ := sweep_head es q act
  rw [hs]
  by_cases hq : q ≤ i <;> simp [at', hp, hq]

/-- `at'` reads a sweep as a fold: for events sorted by position, none before `pos ≤ i`, the answer
at `i` is the active set after the events at positions `≤ i`. -/
theorem at'_sweep (i : Int) : ∀ (evs : List Ev) (pos : Int) (act : List Nat),
    evs.Pairwise (fun a b => a.pos ≤ b.pos) → (∀ e ∈ evs, pos ≤ e.pos) → pos ≤ i →
    at' (sweep evs pos act) i = (evs.takeWhile fun e => e.pos ≤ i).foldl step act
  | [], pos, act, _, _, hi => by simp [sweep, at', hi]
  | e :: es, pos, act, hs, hge, hi => by
    have hs' := List.pairwise_cons.1 hs
    rw [sweep_cons, List.takeWhile_cons]
    by_cases hep : e.pos = pos
    · rw [hep, bne_self_eq_false, if_neg Bool.false_ne_true,
        at'_sweep i es pos _ hs'.2 (fun e' he' => hge e' (List.mem_cons_of_mem _ he')) hi,
        if_pos (decide_eq_true hi), List.foldl_cons]
    · rw [if_pos (bne_iff_ne.2 hep), at'_cons_sweep _ _ _ _ _ _ hi]
      by_cases hei : e.pos ≤ i
      · rw [if_pos hei, at'_sweep i es e.pos _ hs'.2 hs'.1 hei, if_pos (decide_eq_true hei),
          List.foldl_cons]
      · rw [if_neg hei, if_neg (by simpa using hei), List.foldl_nil]

theorem mem_takeWhile_pos {i : Int} {ev : Ev} : ∀ {evs : List Ev},
    evs.Pairwise (fun a b => a.pos ≤ b.pos) →
    (ev ∈ evs.takeWhile (fun e => e.pos ≤ i) ↔ ev ∈ evs ∧ ev.pos ≤ i)
  | [], _ => by simp
  | e :: es, hs => by
    have hs' := List.pairwise_cons.1 hs
    rw [List.takeWhile_cons]
    by_cases hei : e.pos ≤ i
    · rw [if_pos (decide_eq_true hei), List.mem_cons, List.mem_cons, mem_takeWhile_pos hs'.2,
        or_and_right]
      exact or_congr_left ⟨fun h => ⟨h, h ▸ hei⟩, And.left⟩
    · rw [if_neg (by simpa using hei)]
      refine iff_of_false List.not_mem_nil fun ⟨h1, h2⟩ => hei ?_
      rcases List.mem_cons.1 h1 with rfl | h1
      · exact h2
      · exact Int.le_trans (hs'.1 ev h1) h2

theorem foldl_takeWhile_eq_covering (starts ends : List Int) (i : Int) (evs : List Ev)
    (hsorted : evs.Pairwise (fun a b => evLe a b = true))
    (hmem : ∀ e, e ∈ evs ↔ e ∈ eventsFrom 0 starts ends) :
    (evs.takeWhile fun e => e.pos ≤ i).foldl step [] = covering starts ends i := by
  have hpos : evs.Pairwise (fun a b => a.pos ≤ b.pos) := hsorted.imp evLe_pos
  have hL : (evs.takeWhile fun e => e.pos ≤ i).Pairwise (fun a b => evLe a b = true) :=
    hsorted.sublist (List.takeWhile_sublist _)
  have hin : ∀ e, e ∈ evs.takeWhile (fun e => e.pos ≤ i) ↔
      e ∈ eventsFrom 0 starts ends ∧ e.pos ≤ i := by
    intro e; rw [mem_takeWhile_pos hpos, hmem]
  apply eq_of_pairwise_lt_of_mem_iff (pairwise_foldl_step _ List.Pairwise.nil)
    (pairwise_covering _ _ _)
  intro x
  rw [mem_foldl_step _ List.Pairwise.nil, mem_covering]
  cases hl : lastFlag x (evs.takeWhile fun e => e.pos ≤ i) with
  | none =>
    -- no event of `x` up to `i`: its start, if it has one, is beyond `i`
    refine iff_of_false List.not_mem_nil ?_
    rintro ⟨s, q, hs, hq, h1, h2⟩
    exact lastFlag_eq_none hl ⟨x, s, true⟩
      ((hin _).2 ⟨mem_events.2 ⟨s, q, hs, hq, by omega, Or.inl rfl⟩, h1⟩) rfl
  | some b =>
    -- the last event of `x` up to `i` is its start iff its end is beyond `i`
    obtain ⟨e, he, hx, hb, hmax⟩ := lastFlag_eq_some hL hl
    have he' := (hin e).1 he
    obtain ⟨s, q, hs, hq, hsq, hev⟩ := mem_events.1 he'.1
    rw [hx] at hs hq hev
    dsimp only
    constructor
    · rintro rfl
      rcases hev with hev | hev
      · refine ⟨s, q, hs, hq, by simpa [hev] using he'.2, Int.not_le.1 fun hqi => ?_⟩
        have hend : (⟨x, q, false⟩ : Ev) ∈ evs.takeWhile (fun e => e.pos ≤ i) :=
          (hin _).2 ⟨mem_events.2 ⟨s, q, hs, hq, hsq, Or.inr rfl⟩, hqi⟩
        have := hmax _ hend rfl
        rw [hev, not_evLe_end_start hsq] at this
        cases this
      · rw [hev] at hb; cases hb
    · rintro ⟨s', q', hs', hq', h1, h2⟩
      cases hs.symm.trans hs'
      cases hq.symm.trans hq'
      rcases hev with hev | hev
      · rw [← hb, hev]
      · have := he'.2
        rw [hev] at this
        exact absurd this (Int.not_le.2 h2)

theorem covering_eq_nil_of_lt (starts ends : List Int) (i : Int) (evs : List Ev) (p : Int)
    (hmem : ∀ e, e ∈ evs ↔ e ∈ eventsFrom 0 starts ends)
    (hlow : ∀ e ∈ evs, p ≤ e.pos) (hi : i < p) : covering starts ends i = [] := by
  refine List.eq_nil_iff_forall_not_mem.2 fun x hx => ?_
  obtain ⟨s, q, hs, hq, h1, h2⟩ := mem_covering.1 hx
  have := hlow ⟨x, s, true⟩ ((hmem _).2 (mem_events.2 ⟨s, q, hs, hq, by omega, Or.inl rfl⟩))
  dsimp only at this
  omega

/-- `pos0` of `newIndex`: position of the first event (0 if none). -/
def firstPos (evs : List Ev) : Int :=
  match evs with
  | e :: _ => e.pos
  | [] => 0

theorem firstPos_le {evs : List Ev} (hpos : evs.Pairwise (fun a b => a.pos ≤ b.pos)) :
    ∀ e ∈ evs, firstPos evs ≤ e.pos := by
  intro e he
  match evs, he, hpos with
  | a :: l, he, hpos =>
    rcases List.mem_cons.1 he with rfl | he
    · exact Int.le_refl _
    · exact (List.pairwise_cons.1 hpos).1 e he

/-- The sweep over ANY list of the input's events that is sorted by `evLe`
answers `covering` (so the result does not depend on which correct sorting
algorithm produced the list). -/
theorem at'_sweep_any_sorted (starts ends : List Int) (i : Int) (evs : List Ev)
    (hsorted : evs.Pairwise (fun a b => evLe a b = true))
    (hmem : ∀ e, e ∈ evs ↔ e ∈ eventsFrom 0 starts ends) :
    at' (sweep evs (firstPos evs) []) i = covering starts ends i := by
  have hpos : evs.Pairwise (fun a b => a.pos ≤ b.pos) := hsorted.imp evLe_pos
  have hlow := firstPos_le hpos
  by_cases hi : firstPos evs ≤ i
  · rw [at'_sweep i evs _ [] hpos hlow hi]
    exact foldl_takeWhile_eq_covering starts ends i evs hsorted hmem
  · rw [at'_sweep_lt _ _ _ _ (by omega)]
    exact (covering_eq_nil_of_lt starts ends i evs _ hmem hlow (by omega)).symm

theorem at'_sweep_sorted (starts ends : List Int) (i : Int) :
    at' (sweep ((eventsFrom 0 starts ends).mergeSort evLe)
        (firstPos ((eventsFrom 0 starts ends).mergeSort evLe)) []) i = covering starts ends i :=
  at'_sweep_any_sorted starts ends i _ (sorted_mergeSort_evLe _) (fun _ => List.mem_mergeSort)

theorem newIndex_eq {starts ends : List Int} (h : starts.length = ends.length) :
    newIndex starts ends =
      some (sweep ((eventsFrom 0 starts ends).mergeSort evLe)
        (firstPos ((eventsFrom 0 starts ends).mergeSort evLe)) []) := by
  simp only [newIndex, h, bne_self_eq_false, Bool.false_eq_true, if_false]
  rfl

theorem length_eq_of_newIndex_some {starts ends : List Int} {idx : Index}
    (h : newIndex starts ends = some idx) : starts.length = ends.length := by
  refine Classical.byContradiction fun hne => ?_
  simp [newIndex, hne] at h

/-! ## Breakpoints are strictly increasing (justifies reading `At`'s binary
search as "last breakpoint with position ≤ i") -/

theorem sweep_sorted : ∀ (evs : List Ev) (pos : Int) (act : List Nat),
    evs.Pairwise (fun a b => a.pos ≤ b.pos) → (∀ e ∈ evs, pos ≤ e.pos) →
    (sweep evs pos act).Pairwise (fun a b => a.1 < b.1) ∧ ∀ bp ∈ sweep evs pos act, pos ≤ bp.1
  | [], pos, act, _, _ => by simp [sweep]
  | e :: es, pos, act, hs, hge => by
    have hs' := List.pairwise_cons.1 hs
    rw [sweep_cons]
    by_cases hep : e.pos = pos
    · rw [hep, bne_self_eq_false, if_neg Bool.false_ne_true]
      exact sweep_sorted es pos _ hs'.2 (fun e' he' => hge e' (List.mem_cons_of_mem _ he'))
    · have hlt : pos < e.pos := by have := hge e (by simp); omega
      have ih := sweep_sorted es e.pos (step act e) hs'.2 hs'.1
      rw [if_pos (bne_iff_ne.2 hep)]
      refine ⟨List.pairwise_cons.2 ⟨fun bp hbp => Int.lt_of_lt_of_le hlt (ih.2 bp hbp), ih.1⟩,
        fun bp hbp => ?_⟩
      rcases List.mem_cons.1 hbp with rfl | hbp
      · exact Int.le_refl _
      · exact Int.le_trans (Int.le_of_lt hlt) (ih.2 bp hbp)

theorem breakpoints_sorted_of_sorted (evs : List Ev)
    (hsorted : evs.Pairwise (fun a b => evLe a b = true)) :
    (sweep evs (firstPos evs) []).Pairwise (fun a b => a.1 < b.1) := by
  have hpos : evs.Pairwise (fun a b => a.pos ≤ b.pos) := hsorted.imp evLe_pos
  exact (sweep_sorted evs _ [] hpos (firstPos_le hpos)).1

end Bio.Regions

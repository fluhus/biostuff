/-
  The translated SAM line parser (`splitTag`, `parseTags`, `parseInts`, `parseLine` of formats/sam) against
  the model `Bio.Sam`, under the hypotheses `AtoiModel f`, `PFModel g pf`, `HexModel h` about `strconv.Atoi`,
  `strconv.ParseFloat`, `hex.DecodeString`.  Guarded by the translator's `_Found` flags as in `Bio.Lemmas.GoSrc`.
-/
import Bio.Lemmas.GoSrcSamParse2
namespace Bio.GoSrcLemmas
open Bio Bio.GoRt Bio.Generated
namespace SamP
open BedRd (reqA AtoiModel)

/-- the translated `parseTags` under the three hypotheses IS the insertion-order parser at the model's
value parsers -/
theorem parseTags_insertion (hT : GoSrc.parseTags_Found = true) (hS : GoSrc.splitTag_Found = true)
    {h f g pf} (hf : AtoiModel f) (hg : PFModel g pf) (hh : HexModel h) (values : List Bytes) :
    GoSrc.parseTags h f g values = some (tagsRes (tagsSpec atoi pf hexDec values [])) := by
  rw [parseTags_eq hT hS, tagsSpec_of_models hf hg hh]

/-- the translated `parseTags` against the model's `parseTags` -/
theorem parseTags_model (hT : GoSrc.parseTags_Found = true) (hS : GoSrc.splitTag_Found = true)
    {h f g pf} (hf : AtoiModel f) (hg : PFModel g pf) (hh : HexModel h) (values : List Bytes) :
    match Sam.parseTags pf values [] with
    | none => GoSrc.parseTags h f g values = some ([], GoErr.other)
    | some m => ∃ r, GoSrc.parseTags h f g values = some (r, GoErr.nil) ∧ SameMap r m ∧ Sam.SortedTags m := by
  rw [parseTags_insertion hT hS hf hg hh]
  have ht := tagsSpec_model_nil pf values
  cases hm : Sam.parseTags pf values [] with
  | none => rw [hm] at ht; simp only at ht ⊢; rw [ht]; rfl
  | some m =>
    rw [hm] at ht
    obtain ⟨r, hr, hp, hs⟩ := ht
    exact ⟨r, by rw [hr]; rfl, sameMap_of_perm_sorted hp hs, hs⟩

/-- the translated `parseLine` against the model's `parseLine` -/
theorem sam_parseLine_model (hF : GoSrc.sam_parseLine_Found = true) (hI : GoSrc.parseInts_Found = true)
    (hT : GoSrc.parseTags_Found = true) (hS : GoSrc.splitTag_Found = true)
    {h f g pf} (hf : AtoiModel f) (hg : PFModel g pf) (hh : HexModel h) (line : List Bytes) :
    match Sam.parseLine pf line with
    | some s => ∃ r, GoSrc.sam_parseLine h f g line = some (some (tupleOf s r), GoErr.nil)
        ∧ SameMap r s.tags ∧ Sam.SortedTags s.tags
    | none => ∃ e, e ≠ GoErr.nil ∧ GoSrc.sam_parseLine h f g line = some (none, e) := by
  rw [sam_parseLine_eq hF hI hT hS]
  have hl := lineSpec_model hf hg hh line
  cases hm : Sam.parseLine pf line with
  | none =>
    rw [hm] at hl
    obtain ⟨e, he, hq⟩ := hl
    exact ⟨e, he, by rw [hq]⟩
  | some s =>
    rw [hm] at hl
    obtain ⟨r, hq, hp, hs⟩ := hl
    exact ⟨r, by rw [hq], sameMap_of_perm_sorted hp hs, hs⟩

/-- a model verdict `none` is an error of the translated `parseLine` -/
theorem sam_parseLine_none (hF : GoSrc.sam_parseLine_Found = true) (hI : GoSrc.parseInts_Found = true)
    (hT : GoSrc.parseTags_Found = true) (hS : GoSrc.splitTag_Found = true)
    {h f g pf} (hf : AtoiModel f) (hg : PFModel g pf) (hh : HexModel h) (line : List Bytes)
    (hm : Sam.parseLine pf line = none) :
    ∃ e, e ≠ GoErr.nil ∧ GoSrc.sam_parseLine h f g line = some (none, e) := by
  have := sam_parseLine_model hF hI hT hS hf hg hh line
  rw [hm] at this
  exact this

/-- fewer than eleven fields, arbitrary parameters -/
theorem sam_parseLine_too_few (hF : GoSrc.sam_parseLine_Found = true) (hI : GoSrc.parseInts_Found = true)
    (hT : GoSrc.parseTags_Found = true) (hS : GoSrc.splitTag_Found = true)
    (h : Bytes → Bytes × GoErr) (f : Bytes → Int × GoErr) (g : Bytes → Int → Bytes × GoErr) (line : List Bytes)
    (hn : line.length < 11) : GoSrc.sam_parseLine h f g line = some (none, GoErr.other) := by
  rw [sam_parseLine_eq hF hI hT hS, lineSpec_too_few h f g hn]

/-! ## Errors that need less than the three hypotheses -/

theorem intsSpec_err_of_mem {f} (hf : AtoiModel f) (strs : List Bytes) (p : List Int)
    (hl : strs.length = p.length) (hb : ∃ s ∈ strs, atoi s = none) : (intsSpec f strs p).1 ≠ GoErr.nil := by
  induction strs generalizing p with
  | nil => obtain ⟨s, hs, _⟩ := hb; simp at hs
  | cons s0 strs ih =>
    cases p with
    | nil => simp at hl
    | cons x p =>
      unfold intsSpec
      by_cases he : (f s0).2 = GoErr.nil
      · rw [if_pos he]
        apply ih p (by simpa using hl)
        obtain ⟨s, hs, hbad⟩ := hb
        rcases List.mem_cons.1 hs with rfl | hm
        · exact absurd he (hf.bad _ hbad)
        · exact ⟨s, hm, hbad⟩
      · rw [if_neg he]; exact he

/-- a bad integer field: only `AtoiModel` is needed (the integers are parsed before the tags) -/
theorem lineSpec_bad_int {f} (hf : AtoiModel f) (h : Bytes → Bytes × GoErr) (g : Bytes → Int → Bytes × GoErr)
    (line : List Bytes) (hb : ∃ i ∈ [1, 3, 4, 7, 8], ∃ s, line[i]? = some s ∧ atoi s = none) :
    ∃ e, e ≠ GoErr.nil ∧ lineSpec h f g line = (none, e) := by
  by_cases hn : line.length < 11
  · exact ⟨GoErr.other, by decide, lineSpec_too_few h f g hn⟩
  · obtain ⟨qn, fl, rn, po, mq, cg, rx, pn, tl, sq, ql, tagFields, rfl⟩ := Sam.exists_cons11 (Nat.le_of_not_lt hn)
    have herr : (intsSpec f [fl, po, mq, pn, tl] [0, 0, 0, 0, 0]).1 ≠ GoErr.nil := by
      apply intsSpec_err_of_mem hf _ _ rfl
      obtain ⟨i, hi, s, hs, hbad⟩ := hb
      refine ⟨s, ?_, hbad⟩
      simp only [List.mem_cons, List.not_mem_nil, or_false] at hi
      rcases hi with rfl | rfl | rfl | rfl | rfl <;> simp at hs <;> subst hs <;> simp
    unfold lineSpec
    simp only
    rw [if_pos herr]
    exact ⟨_, herr, rfl⟩

theorem tagsSpec_none_of_mem (A : Bytes → Option Int) (P H : Bytes → Option Bytes) {fld : Bytes} {vs : List Bytes}
    (hm : fld ∈ vs) (hs : ∀ acc, tagStep A P H fld acc = none) (acc : Sam.Tags) :
    tagsSpec A P H vs acc = none := by
  induction vs generalizing acc with
  | nil => simp at hm
  | cons v rest ih =>
    rw [tagsSpec]
    rcases List.mem_cons.1 hm with rfl | hm'
    · rw [hs]
    · cases tagStep A P H v acc with
      | none => rfl
      | some acc' => exact ih hm' acc'

/-- a tag field that no parameters can save (here: `splitTag` fails): arbitrary parameters -/
theorem lineSpec_bad_tag (h : Bytes → Bytes × GoErr) (f : Bytes → Int × GoErr) (g : Bytes → Int → Bytes × GoErr)
    (line : List Bytes) (ht : tagsSpec (reqA f) (reqP g) (reqH h) (line.drop 11) [] = none) :
    ∃ e, e ≠ GoErr.nil ∧ lineSpec h f g line = (none, e) := by
  by_cases hn : line.length < 11
  · exact ⟨GoErr.other, by decide, lineSpec_too_few h f g hn⟩
  · obtain ⟨qn, fl, rn, po, mq, cg, rx, pn, tl, sq, ql, tagFields, rfl⟩ := Sam.exists_cons11 (Nat.le_of_not_lt hn)
    simp only [List.drop_succ_cons, List.drop_zero] at ht
    unfold lineSpec
    simp only
    by_cases herr : (intsSpec f [fl, po, mq, pn, tl] [0, 0, 0, 0, 0]).1 ≠ GoErr.nil
    · rw [if_pos herr]; exact ⟨_, herr, rfl⟩
    · rw [if_neg herr, ht]; exact ⟨GoErr.other, by decide, rfl⟩

theorem sam_parseLine_bad_int (hF : GoSrc.sam_parseLine_Found = true) (hI : GoSrc.parseInts_Found = true)
    (hT : GoSrc.parseTags_Found = true) (hS : GoSrc.splitTag_Found = true)
    {f} (hf : AtoiModel f) (h : Bytes → Bytes × GoErr) (g : Bytes → Int → Bytes × GoErr) (line : List Bytes)
    (hb : ∃ i ∈ [1, 3, 4, 7, 8], ∃ s, line[i]? = some s ∧ atoi s = none) :
    ∃ e, e ≠ GoErr.nil ∧ GoSrc.sam_parseLine h f g line = some (none, e) := by
  obtain ⟨e, he, hq⟩ := lineSpec_bad_int hf h g line hb
  exact ⟨e, he, by rw [sam_parseLine_eq hF hI hT hS, hq]⟩

theorem sam_parseLine_few_colons (hF : GoSrc.sam_parseLine_Found = true) (hI : GoSrc.parseInts_Found = true)
    (hT : GoSrc.parseTags_Found = true) (hS : GoSrc.splitTag_Found = true)
    (h : Bytes → Bytes × GoErr) (f : Bytes → Int × GoErr) (g : Bytes → Int → Bytes × GoErr) (line : List Bytes)
    (fld : Bytes) (hm : fld ∈ line.drop 11) (hc : fld.count 58 < 2) :
    ∃ e, e ≠ GoErr.nil ∧ GoSrc.sam_parseLine h f g line = some (none, e) := by
  have ht : tagsSpec (reqA f) (reqP g) (reqH h) (line.drop 11) [] = none :=
    tagsSpec_none_of_mem _ _ _ hm (fun acc => by
      unfold tagStep; rw [Sam.splitTag_none_of_count hc]) []
  obtain ⟨e, he, hq⟩ := lineSpec_bad_tag h f g line ht
  exact ⟨e, he, by rw [sam_parseLine_eq hF hI hT hS, hq]⟩

/-- the normal form of a Go tag map: inserting its entries into the model's sorted list -/
theorem insertAll_of_sameMap {r m : Sam.Tags} (h : SameMap r m) (hs : Sam.SortedTags m) :
    Sam.insertAll r [] = m :=
  Sam.insertAll_perm_sorted h.2.2 hs

end SamP
end Bio.GoSrcLemmas

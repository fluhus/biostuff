/-
  Helper lemmas for C07 / C11, Newick part: under a failing source the reader never reports a
  clean end; a tree read from a failing source is read identically from any extension of the data
  (prefix monotonicity), hence a source failing inside written trees; the distance invariant of the
  parser; the bytes of a written tree (C06: no LF).
-/
import Bio.Lemmas.Cross
namespace Bio.Newick

/-! ## Under a failing source the reader never reports a clean end -/

theorem nextToken_fail_ne_eof (x : Bytes) : nextToken .fail x ≠ .eof := by
  fun_induction nextToken .fail x <;> simp_all

theorem readTree_fail_ne_eof (pd : Bytes → Option Dist) (x : Bytes) :
    readTree pd .fail x ≠ .eof :=
  fun h => nextToken_fail_ne_eof x ((readLoop_eq_eof_iff ..).1 h).2

theorem readTree_fail_nil (pd : Bytes → Option Dist) : readTree pd .fail [] = .err :=
  readLoop_err _ _ _ _ _ _ _ rfl

/-- Whatever the bytes: under a failing source the last item is an error. -/
theorem fail_getLast (pd : Bytes → Option Dist) (x : Bytes) :
    (decodeSrc pd .fail x).getLast? = some Item.err := by
  induction x using decodeSrc_induct pd .fail with
  | heof x hr => exact absurd hr (readTree_fail_ne_eof pd x)
  | herr x _ => rfl
  | htree x t rest _ ih => exact getLast?_cons_of_some ih

/-! ## Prefix monotonicity: what was read from a failing source is read from any extension -/

theorem quotedTail_fail_append (e : Ending) (z : Bytes) (y : Bytes) :
    ∀ (aq : Bool) (p : Bytes × Bytes), quotedTail .fail aq y = some p →
      quotedTail e aq (y ++ z) = some (p.1, p.2 ++ z) := by
  induction y with
  | nil => intro aq p h; simp [quotedTail] at h
  | cons b r ih =>
    intro aq p h
    simp only [quotedTail, List.cons_append] at h ⊢
    split at h
    · rename_i hb
      obtain ⟨q, hq, rfl⟩ := Option.map_eq_some_iff.mp h
      simp [hb, ih _ _ hq]
    · rename_i hb
      split at h
      · rename_i haq
        cases h
        simp [hb, haq]
      · rename_i haq
        obtain ⟨q, hq, rfl⟩ := Option.map_eq_some_iff.mp h
        simp [hb, haq, ih _ _ hq]

theorem bareTail_fail_append (e : Ending) (z : Bytes) (y : Bytes) :
    ∀ (p : Bytes × Bytes), bareTail .fail y = some (some p) →
      bareTail e (y ++ z) = some (some (p.1, p.2 ++ z)) := by
  induction y with
  | nil => intro p h; simp [bareTail] at h
  | cons b r ih =>
    intro p h
    simp only [bareTail, List.cons_append] at h ⊢
    split at h
    · cases h
    · rename_i hq
      split at h
      · rename_i hs
        cases h
        simp [hq, hs]
      · rename_i hs
        split at h
        · rename_i hw
          cases h
          simp [hq, hs, hw]
        · rename_i hw
          split at h
          · rename_i q hbt
            cases h
            simp [hq, hs, hw, ih _ hbt]
          · rename_i r' hne
            cases hr : bareTail .fail r with
            | none => rw [hr] at h; cases h
            | some o =>
              cases o with
              | none => rw [hr] at h; cases h
              | some q => exact absurd hr (hne q)

theorem nextToken_fail_append (e : Ending) (z : Bytes) (y : Bytes) :
    ∀ (t rest : Bytes), nextToken .fail y = .tok t rest →
      nextToken e (y ++ z) = .tok t (rest ++ z) := by
  induction y with
  | nil => intro t rest h; simp [nextToken] at h
  | cons b r ih =>
    intro t rest h
    simp only [nextToken, List.cons_append] at h ⊢
    split at h
    · rename_i hq
      split at h
      · rename_i p hp
        cases h
        simp [hq, quotedTail_fail_append e z r _ _ hp]
      · cases h
    · rename_i hq
      split at h
      · rename_i hs
        cases h
        simp [hq, hs]
      · rename_i hs
        split at h
        · rename_i hw
          simp [hq, hs, hw, ih _ _ h]
        · rename_i hw
          split at h
          · rename_i p hp
            cases h
            simp [hq, hs, hw, bareTail_fail_append e z r _ hp]
          · cases h

theorem Reads.fail_append {pd : Bytes → Option Dist} (e : Ending) (z : Bytes) {y cur stack st t rest}
    (h : Reads pd .fail y cur stack st t rest) : Reads pd e (y ++ z) cur stack st t (rest ++ z) := by
  induction h with
  | done hn hs => exact .done (nextToken_fail_append e z _ _ _ hn) hs
  | cont hn hs _ ih => exact .cont (nextToken_fail_append e z _ _ _ hn) hs ih

theorem readTree_fail_append (pd : Bytes → Option Dist) (e : Ending) (y z : Bytes) (t : Tree)
    (rest : Bytes) (h : readTree pd .fail y = .tree t rest) :
    readTree pd e (y ++ z) = .tree t (rest ++ z) :=
  ((Reads.of_readLoop _ _ _ _ _ h).fail_append e z).readLoop_eq _

/-! ## A source failing inside a written tree -/

/-- A strict prefix of one written tree, read from a failing source, is an error: never a
tree made from the cut text. -/
theorem readTree_strict_prefix (qs : Bytes) (pd : Bytes → Option Dist) (hq : QS_OK qs) (t : Tree)
    (hd : t.AllDist (DistOK pd)) (k : Nat) (hk : k < (write qs t).length) :
    readTree pd .fail ((write qs t).take k) = .err := by
  cases hr : readTree pd .fail ((write qs t).take k) with
  | eof => exact absurd hr (readTree_fail_ne_eof pd _)
  | err => rfl
  | tree t' rest =>
    exfalso
    have h1 := readTree_fail_append pd .eof _ ((write qs t).drop k) t' rest hr
    rw [List.take_append_drop] at h1
    have h2 := readTree_write qs pd .eof hq t hd []
    rw [List.append_nil] at h2
    rw [h2] at h1
    injection h1 with _ h3
    have := congrArg List.length h3
    simp only [List.length_nil, List.length_append, List.length_drop] at this
    omega

theorem decodeSrc_fail_nil (pd : Bytes → Option Dist) : decodeSrc pd .fail [] = [Item.err] :=
  decodeSrc_err _ _ _ (readTree_fail_nil pd)

/-- Source failing after `k` bytes of trees written back to back: leading trees, then exactly
one error. -/
theorem fault_prefix (qs : Bytes) (pd : Bytes → Option Dist) (hq : QS_OK qs) (ts : List Tree)
    (hd : ∀ t ∈ ts, t.AllDist (DistOK pd)) :
    ∀ k, ∃ n, decodeSrc pd .fail (((ts.map (write qs)).flatten).take k) =
      (ts.take n).map Item.ok ++ [Item.err] := by
  induction ts with
  | nil => intro k; exact ⟨0, by simpa using decodeSrc_fail_nil pd⟩
  | cons t ts ih =>
    intro k
    simp only [List.map_cons, List.flatten_cons]
    by_cases hk : k < (write qs t).length
    · refine ⟨0, ?_⟩
      rw [List.take_append_of_le_length (Nat.le_of_lt hk),
        decodeSrc_err _ _ _ (readTree_strict_prefix qs pd hq t (hd t (by simp)) k hk)]
      rfl
    · obtain ⟨n, hn⟩ := ih (fun u hu => hd u (List.mem_cons_of_mem _ hu)) (k - (write qs t).length)
      refine ⟨n + 1, ?_⟩
      rw [List.take_append, List.take_of_length_le (by omega),
        decodeSrc_tree _ _ _ _ _ (readTree_write qs pd .fail hq t (hd t (by simp)) _), hn]
      rfl

/-! ## The distance invariant of the parser -/

theorem Forest.AllDist.snoc {P : Dist → Prop} : ∀ (f : Forest) (t : Tree),
    f.AllDist P → t.AllDist P → (f.snoc t).AllDist P
  | .nil, _, _, ht => ⟨ht.1, ht.2, trivial⟩
  | .cons _ _ _ r, t, hf, ht => ⟨hf.1, hf.2.1, Forest.AllDist.snoc r t hf.2.2 ht⟩

section Inv
variable (pd : Bytes → Option Dist) (P : Dist → Prop)

/-- Invariant: every distance in the current node and in the open ancestors satisfies `P`. -/
def PInv (cur : Tree) (stack : List Tree) : Prop :=
  cur.AllDist P ∧ ∀ s ∈ stack, s.AllDist P

/-- What the invariant says about the outcome of one step. -/
def StepOK : Step → Prop
  | .err => True
  | .done tr => tr.AllDist P
  | .cont c s _ => PInv P c s

theorem closeTop_allDist {cur parent : Tree} (hc : cur.AllDist P) (hp : parent.AllDist P) :
    (closeTop cur parent).AllDist P :=
  ⟨hp.1, Forest.AllDist.snoc _ _ hp.2 hc⟩

theorem step_inv (hP0 : P none) (hpd : ∀ t d, pd t = some d → P d)
    (t : Bytes) (cur : Tree) (stack : List Tree) (st : PState) (h : PInv P cur stack) :
    StepOK P (step pd t cur stack st) := by
  have hempty : emptyNode.AllDist P := ⟨hP0, trivial⟩
  unfold step
  split
  · split
    · trivial
    · exact ⟨hempty, fun s hs => by
        rcases List.mem_cons.mp hs with rfl | hs
        · exact h.1
        · exact h.2 s hs⟩
  · split
    · trivial
    · split
      · trivial
      · rename_i parent stack'
        exact ⟨closeTop_allDist P h.1 (h.2 parent (by simp)),
          fun s hs => h.2 s (List.mem_cons_of_mem _ hs)⟩
  · split
    · trivial
    · split
      · trivial
      · rename_i parent stack'
        exact ⟨hempty, fun s hs => by
          rcases List.mem_cons.mp hs with rfl | hs
          · exact closeTop_allDist P h.1 (h.2 parent (by simp))
          · exact h.2 s (List.mem_cons_of_mem _ hs)⟩
  · split
    · trivial
    · exact h
  · split
    · trivial
    · split
      · trivial
      · exact h.1
  · split
    · trivial
    · split
      · exact ⟨⟨h.1.1, h.1.2⟩, h.2⟩
      · split
        · trivial
        · rename_i d hd
          exact ⟨⟨hpd _ _ hd, h.1.2⟩, h.2⟩

theorem Reads.allDist (hP0 : P none) (hpd : ∀ t d, pd t = some d → P d) {e x cur stack st t rest}
    (h : Reads pd e x cur stack st t rest) (hinv : PInv P cur stack) : t.AllDist P := by
  induction h with
  | @done _ cur stack st tk _ _ _ hs =>
    have := step_inv pd P hP0 hpd tk cur stack st hinv
    rwa [hs] at this
  | @cont _ cur stack st tk _ _ _ _ _ _ _ hs _ ih =>
    have := step_inv pd P hP0 hpd tk cur stack st hinv
    rw [hs] at this
    exact ih this

theorem decodeSrc_allDist (hP0 : P none) (hpd : ∀ t d, pd t = some d → P d) (e : Ending)
    (x : Bytes) : ∀ t, Item.ok t ∈ decodeSrc pd e x → t.AllDist P := by
  induction x using decodeSrc_induct pd e with
  | heof x _ => intro t hm; cases hm
  | herr x _ => intro t hm; simp at hm
  | htree x t' rest hr ih =>
    intro t hm
    rcases List.mem_cons.mp hm with h | h
    · cases h
      exact (Reads.of_readLoop _ _ _ _ _ hr).allDist pd P hP0 hpd ⟨⟨hP0, trivial⟩, by simp⟩
    · exact ih t h

end Inv

/-- A tree delivered by the reader is in the domain of the round-trip theorem, provided the
external distance parser returns canonical tokens. -/
theorem accepted_allDist (pd : Bytes → Option Dist)
    (hpd : ∀ t d, pd t = some (some d) → DistOK pd (some d))
    (e : Ending) (x : Bytes) (t : Tree) (hm : Item.ok t ∈ decodeSrc pd e x) :
    t.AllDist (DistOK pd) := by
  apply decodeSrc_allDist pd (DistOK pd) trivial _ e x t hm
  intro tok d hd
  cases d with
  | none => trivial
  | some d' => exact hpd tok d' hd

theorem decode_write (qs : Bytes) (pd : Bytes → Option Dist) (hq : QS_OK qs) (t : Tree)
    (hd : t.AllDist (DistOK pd)) : decode pd (write qs t) = [Item.ok t] :=
  decodeSrc_write qs pd hq t hd

/-! ## The bytes of a written tree (for the `crlf` form of C06: no LF) -/

/-- `P` holds of every name in the forest. -/
def Forest.AllNames (P : Bytes → Prop) : Forest → Prop
  | .nil => True
  | .cons n _ k r => P n ∧ k.AllNames P ∧ r.AllNames P

/-- `P` holds of every name in the tree. -/
def Tree.AllNames (P : Bytes → Prop) (t : Tree) : Prop := P t.name ∧ t.kids.AllNames P

def Forest.decAllNames (P : Bytes → Prop) [DecidablePred P] :
    (f : Forest) → Decidable (f.AllNames P)
  | .nil => isTrue trivial
  | .cons n _ k r =>
    have := Forest.decAllNames P k
    have := Forest.decAllNames P r
    inferInstanceAs (Decidable (P n ∧ k.AllNames P ∧ r.AllNames P))

instance (P : Bytes → Prop) [DecidablePred P] (f : Forest) : Decidable (f.AllNames P) :=
  Forest.decAllNames P f

instance (P : Bytes → Prop) [DecidablePred P] (t : Tree) : Decidable (t.AllNames P) :=
  inferInstanceAs (Decidable (P t.name ∧ t.kids.AllNames P))

theorem mem_doubleQuotes {b : UInt8} {s : Bytes} (h : b ∈ doubleQuotes s) : b = QUOTE ∨ b ∈ s := by
  induction s with
  | nil => cases h
  | cons c s ih =>
    simp only [doubleQuotes] at h
    split at h
    · rcases List.mem_cons.1 h with h | h
      · exact Or.inl h
      · rcases List.mem_cons.1 h with h | h
        · exact Or.inl h
        · exact (ih h).imp id (List.mem_cons_of_mem _)
    · rcases List.mem_cons.1 h with h | h
      · exact Or.inr (h ▸ List.mem_cons_self)
      · exact (ih h).imp id (List.mem_cons_of_mem _)

/-- A byte of a name's text is the quote, the underscore, or a byte of the name. -/
theorem mem_nameToText {b : UInt8} {qs n : Bytes} (h : b ∈ nameToText qs n) :
    b = 39 ∨ b = 95 ∨ b ∈ n := by
  unfold nameToText at h
  split at h
  · rcases List.mem_append.1 h with h | h
    · rcases List.mem_cons.1 h with h | h
      · exact Or.inl h
      · exact (mem_doubleQuotes h).imp id Or.inr
    · exact Or.inl (List.mem_singleton.1 h)
  · obtain ⟨a, ha, he⟩ := List.mem_map.1 h
    split at he
    · exact Or.inr (Or.inl he.symm)
    · exact Or.inr (Or.inr (he ▸ ha))

/-- A byte that occurs in no name and in no distance token of the forest occurs in its text only if the
writer adds it (parentheses, comma, colon, quote, underscore). -/
theorem mem_writeForest {b : UInt8} (qs : Bytes) (f : Forest) (hn : f.AllNames (b ∉ ·))
    (hd : f.AllDist fun d => ∀ t, d = some t → b ∉ t) (h : b ∈ writeForest qs f) :
    b ∈ ([40, 41, 44, 58, 39, 95] : Bytes) := by
  induction f with
  | nil => cases h
  | cons n d k r ihk ihr =>
    obtain ⟨hn1, hnk, hnr⟩ := hn
    obtain ⟨hd1, hdk, hdr⟩ := hd
    rw [writeForest_cons] at h
    rcases List.mem_append.1 h with h | h
    · cases k with
      | nil => cases h
      | cons n1 d1 k1 r1 =>
        rcases List.mem_cons.1 h with h | h
        · simp [h]
        · rcases List.mem_append.1 h with h | h
          · exact ihk hnk hdk h
          · simp [List.mem_singleton.1 h]
    rcases List.mem_append.1 h with h | h
    · rcases mem_nameToText h with h | h | h
      · simp [h]
      · simp [h]
      · exact absurd h hn1
    rcases List.mem_append.1 h with h | h
    · cases d with
      | none => cases h
      | some t =>
        rcases List.mem_cons.1 h with h | h
        · simp [h]
        · exact absurd h (hd1 t rfl)
    · cases r with
      | nil => cases h
      | cons n1 d1 k1 r1 =>
        rcases List.mem_cons.1 h with h | h
        · simp [h]
        · exact ihr hnr hdr h

/-- A tree whose names are LF-free (and whose distance tokens are `DistClean`) is written without LF. -/
theorem not_lf_write (qs : Bytes) (t : Tree) (hn : t.AllNames (fun n => (10 : UInt8) ∉ n))
    (hd : t.AllDist DistClean) : (10 : UInt8) ∉ write qs t := by
  have hclean : ∀ d, DistClean d → ∀ u, d = some u → (10 : UInt8) ∉ u := by
    rintro _ h u rfl hm
    exact absurd (h 10 hm).1 (by decide)
  intro hm
  rcases List.mem_append.1 hm with hm | hm
  · exact absurd (mem_writeForest qs (.cons t.name t.dist t.kids .nil) ⟨hn.1, hn.2, trivial⟩
      ⟨hclean _ hd.1, Forest.AllDist.mono hclean _ hd.2, trivial⟩ hm) (by decide)
  · exact absurd hm (by decide)

end Bio.Newick

/-
  The `File` wrappers `bed.File`, `newick.File`, `sam.File`, `sam.FileHeader` as translated from the Go
  source text (`GoSrc.bed_File`, …):

      f, err := aio.Open(file); if err != nil { yield(nil, err); return }
      for x, err := range Reader(f) { if !yield(x, err) { break } }

  a range-over-func loop whose body (`FileW.fwd y`) forwards every item to the outer consumer `y`.  The
  inner iterator is run with `fwdC y` ("the body answered `true` on this inner history"); the translation
  then tests for the Go runtime panic (the iterator went on after the body said stop) and replays the
  inner history through the body (`SamRd.runG`).  `runG_fwd_eq`: on a history with the take-through
  discipline the replay is the history itself.  Hence a forwarding loop keeps the history law `LawO`
  (`LawO.after_eq`), and `File` obeys it for the reader's items or the one error item of a failed open.

  Guarded by the translator's `_Found` flags as in `Bio.Lemmas.GoSrc`.
-/
import Bio.Lemmas.GoSrcBedIter
import Bio.Lemmas.GoSrcSamReader
import Bio.Lemmas.GoSrcNewickIter
set_option linter.unusedVariables false -- the `hF` of the flag idiom (Lemmas/GoSrc.lean)
set_option linter.unusedSimpArgs false
namespace Bio.GoSrcLemmas
open Bio Bio.GoRt Bio.Generated

namespace FileW
open SamRd

/-! ## The forwarding loop body, generically -/

/-- the loop body of `File`: hand the item on, continue iff the outer consumer says so -/
def fwd {α : Type} (y : List α → Bool) (log : List α) (item : α) : List α × Bool :=
  (log ++ [item], y (log ++ [item]))

/-- the consumer the inner iterator is run with: "the loop body answered `true` on this inner history" -/
def fwdC {α : Type} (y : List α → Bool) : List α → Bool := fun l => (runG (fwd y) l).2

theorem runG_fwd_snoc {α : Type} (y : List α → Bool) (l : List α) (x : α)
    (hl : runG (fwd y) l = (l, true)) : runG (fwd y) (l ++ [x]) = (l ++ [x], y (l ++ [x])) := by
  rw [runG_concat, hl]; rfl

theorem runG_fwd_true {α : Type} (y : List α → Bool) (l : List α) :
    (runG (fwd y) l).2 = true → runG (fwd y) l = (l, true) := by
  rw [← List.reverse_reverse l]
  generalize l.reverse = r
  induction r with
  | nil => intro _; rfl
  | cons x r ih =>
    rw [List.reverse_cons]
    generalize r.reverse = l at ih ⊢
    intro h2
    by_cases hl : (runG (fwd y) l).2 = true
    · have h3 := runG_fwd_snoc y l x (ih hl)
      rw [h3] at h2 ⊢
      simp only at h2
      rw [h2]
    · rw [runG_concat, if_neg hl] at h2; exact absurd h2 hl

/-- On a non-empty inner history with the take-through discipline for `fwdC y` (the inner iterator
went on only while its consumer answered `true`) the replay through the forwarding body gives the
history itself, and the body's answer on it is the outer consumer's. -/
theorem runG_fwd_eq {α : Type} (y : List α → Bool) (L : List α) (hne : L ≠ [])
    (hgo : ∀ j, j + 1 < L.length → fwdC y (L.take (j + 1)) = true) : runG (fwd y) L = (L, y L) := by
  have := runG_fwd_snoc y _ (L.getLast hne)
    (runG_fwd_true y _ (runG_dropLast_of_go_on (fwd y) L hgo))
  rwa [List.dropLast_concat_getLast hne] at this

/-- For such a history: the runtime-panic test `!(run L.dropLast).2` fails, the replay gives back `L`,
and the OUTER consumer answered `true` on every proper non-empty prefix of `L`. -/
theorem fwd_replay {α : Type} (y : List α → Bool) (L : List α)
    (hgo : ∀ j, j + 1 < L.length → fwdC y (L.take (j + 1)) = true) :
    (runG (fwd y) L.dropLast).2 = true
    ∧ (runG (fwd y) L).1 = L
    ∧ (∀ j, j + 1 < L.length → y (L.take (j + 1)) = true)
    ∧ (L ≠ [] → fwdC y L = y L) := by
  refine ⟨runG_dropLast_of_go_on (fwd y) L hgo, ?_, fun j hj => ?_,
    fun hne => congrArg Prod.snd (runG_fwd_eq y L hne hgo)⟩
  · by_cases hne : L = []
    · subst hne; rfl
    · rw [runG_fwd_eq y L hne hgo]
  · have h := hgo j hj
    have hlen : (L.take (j + 1)).length = j + 1 := by rw [List.length_take]; omega
    rwa [fwdC, runG_fwd_eq y (L.take (j + 1)) (List.ne_nil_of_length_pos (by omega)) fun i hi => by
      rw [List.take_take, Nat.min_eq_left (by omega)]
      exact hgo i (by omega)] at h

theorem takeThroughH_fwdC_acc {α : Type} (y : List α → Bool) (xs : List α) : ∀ acc : List α,
    runG (fwd y) acc = (acc, true) → takeThroughH (fwdC y) acc xs = takeThroughH y acc xs := by
  induction xs with
  | nil => intro acc _; rfl
  | cons x xs ih =>
    intro acc hacc
    have hs := runG_fwd_snoc y acc x hacc
    have hc : fwdC y (acc ++ [x]) = y (acc ++ [x]) := congrArg Prod.snd hs
    rw [takeThroughH_cons, takeThroughH_cons, hc]
    by_cases hy : y (acc ++ [x]) = true
    · rw [if_pos hy, if_pos hy]; exact ih _ (by rw [hs, hy])
    · rw [if_neg hy, if_neg hy]

theorem takeThroughH_fwdC {α : Type} (y : List α → Bool) (xs : List α) :
    takeThroughH (fwdC y) [] xs = takeThroughH y [] xs :=
  takeThroughH_fwdC_acc y xs [] rfl

/-- the history of an iterator with the take-through law under the loop body: it passes the
runtime-panic test, is replayed to itself, and is the item list cut by the OUTER consumer -/
theorem after_layers {α : Type} (y : List α → Bool) (xs : List α) :
    (runG (fwd y) (takeThroughH (fwdC y) [] xs).dropLast).2 = true
    ∧ (runG (fwd y) (takeThroughH (fwdC y) [] xs)).1 = takeThroughH (fwdC y) [] xs
    ∧ takeThroughH (fwdC y) [] xs = takeThroughH y [] xs := by
  have h := fwd_replay y (takeThroughH (fwdC y) [] xs) (fun j hj => takeThroughH_go_on _ xs j hj)
  exact ⟨h.1, h.2.1, takeThroughH_fwdC y xs⟩

/-- the outcome of the translated wrapper once `aio.Open` succeeded: run the inner iterator with the loop
body as its consumer, panic if the inner history shows a call after the body answered `false`, else
return the replayed log -/
def after {α : Type} (y : List α → Bool) (inner : Option (List α)) : Option (List α) :=
  inner.bind fun L => if (runG (fwd y) L.dropLast).2 = true then some (runG (fwd y) L).1 else none

theorem after_takeThroughH {α : Type} (y : List α → Bool) (xs : List α) :
    after y (some (takeThroughH (fwdC y) [] xs)) = some (takeThroughH y [] xs) := by
  obtain ⟨h1, h2, h3⟩ := after_layers y xs
  rw [after, Option.bind_some, if_pos h1, h2, h3]

/-- the translated loop body (the same text in the four wrappers, up to the variable's name) -/
theorem step_eq {α β : Type} (yield : List (α × β) → Bool) (log : List (α × β)) (item : α × β) :
    (Id.run do
      let mut log := log
      let b := item.1
      let err := item.2
      log := log ++ [(b, err)]
      if !(yield log) then
        return (log, false)
      return (log, true)) = fwd yield log item := by
  obtain ⟨a, b⟩ := item
  cases hy : yield (log ++ [(a, b)]) <;> simp [fwd, hy]

/-- What follows the inner iterator in a translated forwarding loop (the runtime-panic test, then the
replayed log), in the shape the `do` translation gives it, is `after`. -/
theorem bind_panic_eq_after {α : Type} (y : List α → Bool) (inner : Option (List α)) :
    (inner.bind fun L =>
      if (!(runG (fwd y) L.dropLast).2) = true then (none : Option Unit).bind fun _ => some (runG (fwd y) L).1
      else some (runG (fwd y) L).1) = after y inner := by
  cases inner with
  | none => rfl
  | some L => simp only [after, Option.bind_some]; cases (runG (fwd y) L.dropLast).2 <;> rfl

theorem open_panic_eq_after {α : Type} (y : List α → Bool) (err : GoErr) (item : α)
    (inner : Option (List α)) :
    (if (err != GoErr.nil) = true then some ([] ++ [item]) else
      inner.bind fun L =>
        if (!(runG (fwd y) L.dropLast).2) = true then (none : Option Unit).bind fun _ => some (runG (fwd y) L).1
        else some (runG (fwd y) L).1)
      = if err ≠ GoErr.nil then some [item] else after y inner := by
  rw [bind_panic_eq_after]; cases err <;> rfl

/-! ## The history law through a forwarding loop -/

theorem _root_.Bio.GoSrcLemmas.LawO.after_eq {α : Type} {inner : (List α → Bool) → Option (List α)}
    {L : List α} (hi : LawO inner L) (y : List α → Bool) : after y (inner (fwdC y)) = inner y := by
  rw [hi, hi, after_takeThroughH]

/-- layer by layer: the inner iterator returns a history under the loop body, the runtime-panic test
fails on it, its replay is itself, and it is what the iterator returns under the outer consumer -/
theorem _root_.Bio.GoSrcLemmas.LawO.no_panic {α : Type} {inner : (List α → Bool) → Option (List α)}
    {L : List α} (hi : LawO inner L) (y : List α → Bool) :
    ∃ l, inner (fwdC y) = some l ∧ (runG (fwd y) l.dropLast).2 = true ∧ (runG (fwd y) l).1 = l
      ∧ inner y = some l := by
  obtain ⟨h1, h2, h3⟩ := after_layers y L
  exact ⟨_, hi _, h1, h2, by rw [hi, h3]⟩

/-! ## The translated wrappers -/

theorem bed_File_spec (hFl : GoSrc.bed_File_Found = true)
    (o : Bytes → BufRd × GoErr) (f : Bytes → Int × GoErr) (g : Bytes → Int → Int → Int × GoErr)
    (fuel : Nat) (file : Bytes) (yield : List BedIt.GoItem → Bool) :
    GoSrc.bed_File o f g fuel file yield
      = if (o file).2 ≠ GoErr.nil then some [(none, (o file).2)]
        else after yield (GoSrc.bed_Reader f g fuel (o file).1 (fwdC yield)) := by
  first
  | exact absurd hFl (by decide)
  | (unfold GoSrc.bed_File
     simp only [FileW.step_eq]
     exact open_panic_eq_after yield (o file).2 _ _)

theorem bed_Reader_law (hR : GoSrc.bed_Reader_Found = true) (hF : GoSrc.bed_read_Found = true)
    (hP : GoSrc.parseLine_Found = true) (f : Bytes → Int × GoErr) (g : Bytes → Int → Int → Int × GoErr)
    (fuel : Nat) (r : BufRd) (hfuel : (textLines r.ending r.rest).length + 1 ≤ fuel) :
    LawO (GoSrc.bed_Reader f g fuel r) ((BedIt.goBedItems f g r.ending r.rest).map BedIt.goItem) :=
  fun y => BedIt.bed_Reader_raw hR hF hP f g fuel r.rest r.ending y hfuel

def bedFileItems (o : Bytes → BufRd × GoErr) (f : Bytes → Int × GoErr) (g : Bytes → Int → Int → Int × GoErr)
    (file : Bytes) : List BedIt.GoItem :=
  if (o file).2 = GoErr.nil then (BedIt.goBedItems f g (o file).1.ending (o file).1.rest).map BedIt.goItem
  else [(none, (o file).2)]

/-- A translated `File` given by its `spec` equation, over a reader with the history law: the law for
`File`, with the single error item when the path does not open. -/
theorem file_law {α : Type} {fileIt inner : (List α → Bool) → Option (List α)} {err : GoErr} {z : α}
    {L : List α} (hspec : ∀ y, fileIt y = if err ≠ GoErr.nil then some [z] else after y (inner (fwdC y)))
    (hi : err = GoErr.nil → LawO inner L) :
    LawO fileIt (if err = GoErr.nil then L else [z]) := fun y => by
  rw [hspec]
  by_cases ho : err = GoErr.nil
  · rw [if_neg (not_not_intro ho), if_pos ho, (hi ho).after_eq, hi ho]
  · rw [if_pos ho, if_neg ho, takeThroughH_singleton]; rfl

theorem file_no_panic {α : Type} {fileIt inner : (List α → Bool) → Option (List α)} {err : GoErr} {z : α}
    {L : List α} (hspec : ∀ y, fileIt y = if err ≠ GoErr.nil then some [z] else after y (inner (fwdC y)))
    (hi : err = GoErr.nil → LawO inner L) (y : List α → Bool) :
    fileIt y ≠ none
    ∧ (err = GoErr.nil → ∃ l, inner (fwdC y) = some l ∧ (runG (fwd y) l.dropLast).2 = true
        ∧ (runG (fwd y) l).1 = l ∧ fileIt y = some l) := by
  refine ⟨by rw [file_law hspec hi y]; exact Option.some_ne_none _, fun ho => ?_⟩
  obtain ⟨l, h1, h2, h3, h4⟩ := (hi ho).no_panic y
  exact ⟨l, h1, h2, h3, by rw [hspec, if_neg (not_not_intro ho), (hi ho).after_eq, h4]⟩

theorem bed_File_law (hFl : GoSrc.bed_File_Found = true) (hR : GoSrc.bed_Reader_Found = true)
    (hF : GoSrc.bed_read_Found = true) (hP : GoSrc.parseLine_Found = true)
    (o : Bytes → BufRd × GoErr) (f : Bytes → Int × GoErr) (g : Bytes → Int → Int → Int × GoErr)
    (fuel : Nat) (file : Bytes)
    (hfuel : (o file).2 = GoErr.nil → (textLines (o file).1.ending (o file).1.rest).length + 1 ≤ fuel) :
    LawO (GoSrc.bed_File o f g fuel file) (bedFileItems o f g file) :=
  file_law (bed_File_spec hFl o f g fuel file) fun ho => bed_Reader_law hR hF hP f g fuel _ (hfuel ho)

/-! ### sam -/

theorem sam_File_spec (hFl : GoSrc.sam_File_Found = true)
    (h : Bytes → Bytes × GoErr) (o : Bytes → BufRd × GoErr) (f : Bytes → Int × GoErr)
    (g : Bytes → Int → Bytes × GoErr) (fuel : Nat) (file : Bytes) (yield : List OItem → Bool) :
    GoSrc.sam_File h o f g fuel file yield
      = if (o file).2 ≠ GoErr.nil then some [(none, (o file).2)]
        else after yield (GoSrc.sam_Reader h f g fuel (o file).1 (fwdC yield)) := by
  first
  | exact absurd hFl (by decide)
  | (unfold GoSrc.sam_File
     simp only [FileW.step_eq]
     exact open_panic_eq_after yield (o file).2 _ _)

theorem sam_Reader_law (hRd : GoSrc.sam_Reader_Found = true) (hR : GoSrc.sam_ReaderHeader_Found = true)
    (hF : GoSrc.sam_parseLine_Found = true) (hI : GoSrc.parseInts_Found = true)
    (hT : GoSrc.parseTags_Found = true) (hS : GoSrc.splitTag_Found = true)
    (h : Bytes → Bytes × GoErr) (f : Bytes → Int × GoErr) (g : Bytes → Int → Bytes × GoErr)
    (fuel : Nat) (r : BufRd) (hfuel : (textLines r.ending r.rest).length + 1 ≤ fuel) :
    LawO (GoSrc.sam_Reader h f g fuel r) (outItems (SamP.lineSpec h f g) r.ending r.rest) :=
  fun y => sam_Reader_raw hRd hR hF hI hT hS h f g fuel r.rest r.ending y hfuel

def samFileItems (h : Bytes → Bytes × GoErr) (o : Bytes → BufRd × GoErr) (f : Bytes → Int × GoErr)
    (g : Bytes → Int → Bytes × GoErr) (file : Bytes) : List OItem :=
  if (o file).2 = GoErr.nil then outItems (SamP.lineSpec h f g) (o file).1.ending (o file).1.rest
  else [(none, (o file).2)]

theorem sam_File_law (hFl : GoSrc.sam_File_Found = true) (hRd : GoSrc.sam_Reader_Found = true)
    (hR : GoSrc.sam_ReaderHeader_Found = true)
    (hF : GoSrc.sam_parseLine_Found = true) (hI : GoSrc.parseInts_Found = true)
    (hT : GoSrc.parseTags_Found = true) (hS : GoSrc.splitTag_Found = true)
    (h : Bytes → Bytes × GoErr) (o : Bytes → BufRd × GoErr) (f : Bytes → Int × GoErr)
    (g : Bytes → Int → Bytes × GoErr) (fuel : Nat) (file : Bytes)
    (hfuel : (o file).2 = GoErr.nil → (textLines (o file).1.ending (o file).1.rest).length + 1 ≤ fuel) :
    LawO (GoSrc.sam_File h o f g fuel file) (samFileItems h o f g file) :=
  file_law (sam_File_spec hFl h o f g fuel file) fun ho =>
    sam_Reader_law hRd hR hF hI hT hS h f g fuel _ (hfuel ho)

theorem sam_FileHeader_spec (hFl : GoSrc.sam_FileHeader_Found = true)
    (h : Bytes → Bytes × GoErr) (o : Bytes → BufRd × GoErr) (f : Bytes → Int × GoErr)
    (g : Bytes → Int → Bytes × GoErr) (fuel : Nat) (file : Bytes) (yield : List SamIt.GoItem → Bool) :
    GoSrc.sam_FileHeader h o f g fuel file yield
      = if (o file).2 ≠ GoErr.nil then some [((none, none), (o file).2)]
        else after yield (GoSrc.sam_ReaderHeader h f g fuel (o file).1 (fwdC yield)) := by
  first
  | exact absurd hFl (by decide)
  | (unfold GoSrc.sam_FileHeader
     simp only [FileW.step_eq]
     exact open_panic_eq_after yield (o file).2 _ _)

theorem sam_ReaderHeader_law (hR : GoSrc.sam_ReaderHeader_Found = true)
    (hF : GoSrc.sam_parseLine_Found = true) (hI : GoSrc.parseInts_Found = true)
    (hT : GoSrc.parseTags_Found = true) (hS : GoSrc.splitTag_Found = true)
    (h : Bytes → Bytes × GoErr) (f : Bytes → Int × GoErr) (g : Bytes → Int → Bytes × GoErr)
    (fuel : Nat) (r : BufRd) (hfuel : (textLines r.ending r.rest).length + 1 ≤ fuel) :
    LawO (GoSrc.sam_ReaderHeader h f g fuel r) (SamIt.goItems (SamP.lineSpec h f g) r.ending r.rest) :=
  fun y => SamIt.sam_ReaderHeader_raw hR hF hI hT hS h f g fuel r.rest r.ending y hfuel

def samFileHeaderItems (h : Bytes → Bytes × GoErr) (o : Bytes → BufRd × GoErr) (f : Bytes → Int × GoErr)
    (g : Bytes → Int → Bytes × GoErr) (file : Bytes) : List SamIt.GoItem :=
  if (o file).2 = GoErr.nil then SamIt.goItems (SamP.lineSpec h f g) (o file).1.ending (o file).1.rest
  else [((none, none), (o file).2)]

theorem sam_FileHeader_law (hFl : GoSrc.sam_FileHeader_Found = true)
    (hR : GoSrc.sam_ReaderHeader_Found = true)
    (hF : GoSrc.sam_parseLine_Found = true) (hI : GoSrc.parseInts_Found = true)
    (hT : GoSrc.parseTags_Found = true) (hS : GoSrc.splitTag_Found = true)
    (h : Bytes → Bytes × GoErr) (o : Bytes → BufRd × GoErr) (f : Bytes → Int × GoErr)
    (g : Bytes → Int → Bytes × GoErr) (fuel : Nat) (file : Bytes)
    (hfuel : (o file).2 = GoErr.nil → (textLines (o file).1.ending (o file).1.rest).length + 1 ≤ fuel) :
    LawO (GoSrc.sam_FileHeader h o f g fuel file) (samFileHeaderItems h o f g file) :=
  file_law (sam_FileHeader_spec hFl h o f g fuel file) fun ho =>
    sam_ReaderHeader_law hR hF hI hT hS h f g fuel _ (hfuel ho)

/-- `FileHeader` for ANY fuel and reader: whenever the inner `ReaderHeader` (run with the loop body as its
consumer) returns a history, the runtime-panic test fails and `FileHeader` returns that very history
(`fwd_replay` on the take-through discipline `rhSpec_go_on` of `ReaderHeader`) -/
theorem sam_FileHeader_some (hFl : GoSrc.sam_FileHeader_Found = true)
    (hR : GoSrc.sam_ReaderHeader_Found = true)
    (hF : GoSrc.sam_parseLine_Found = true) (hI : GoSrc.parseInts_Found = true)
    (hT : GoSrc.parseTags_Found = true) (hS : GoSrc.splitTag_Found = true)
    (h : Bytes → Bytes × GoErr) (o : Bytes → BufRd × GoErr) (f : Bytes → Int × GoErr)
    (g : Bytes → Int → Bytes × GoErr) (fuel : Nat) (file : Bytes) (yield : List SamIt.GoItem → Bool)
    (ho : (o file).2 = GoErr.nil) (inner : List SamIt.GoItem)
    (hin : GoSrc.sam_ReaderHeader h f g fuel (o file).1 (fwdC yield) = some inner) :
    (runG (fwd yield) inner.dropLast).2 = true
    ∧ GoSrc.sam_FileHeader h o f g fuel file yield = some inner := by
  have hgo : ∀ j, j + 1 < inner.length → fwdC yield (inner.take (j + 1)) = true := by
    rw [SamIt.sam_ReaderHeader_spec hR hF hI hT hS] at hin
    obtain ⟨t, rfl, ht⟩ := rhSpec_go_on _ _ _ _ _ _ hin
    intro j hj
    have := ht j (by simpa using hj)
    simpa using this
  have hr := fwd_replay yield inner hgo
  refine ⟨hr.1, ?_⟩
  rw [sam_FileHeader_spec hFl, if_neg (by simpa using ho), hin]
  simp only [after, Option.bind_some, if_pos hr.1, hr.2.1]

/-! ### newick: the heap is threaded through -/

/-- the calls `newick.Reader` makes under the loop body are the calls it makes under the outer consumer -/
theorem readsDone_fwdC (y : List NwkIt.GoItem → Bool) : ∀ (R : List NwkRd.Res) (log : List NwkIt.GoItem),
    runG (fwd y) log = (log, true) → NwkIt.readsDone (fwdC y) log R = NwkIt.readsDone y log R := by
  intro R
  induction R with
  | nil => intro log _; rfl
  | cons res rs ih =>
    intro log hlog
    have hs := runG_fwd_snoc y log (res.1, GoErr.nil) hlog
    have hc : fwdC y (log ++ [(res.1, GoErr.nil)]) = y (log ++ [(res.1, GoErr.nil)]) :=
      congrArg Prod.snd hs
    simp only [NwkIt.readsDone, hc]
    split
    · rename_i hh
      rw [ih _ (by rw [hs, hh.2])]
    · rfl

/-- `after` for an iterator that also returns the heap (`H`; newick). -/
def afterH {α H : Type} (y : List α → Bool) (inner : Option (List α × H)) : Option (List α × H) :=
  inner.bind fun p =>
    if (runG (fwd y) p.1.dropLast).2 = true then some ((runG (fwd y) p.1).1, p.2) else none

theorem newick_File_spec (hFl : GoSrc.newick_File_Found = true)
    (o : Bytes → ByteRd × GoErr) (pf : NwkRd.PF) (fuel : Nat) (heap : NwkRd.Heap) (file : Bytes)
    (yield : List NwkIt.GoItem → Bool) :
    GoSrc.newick_File o pf fuel heap file yield
      = if (o file).2 ≠ GoErr.nil then some ([(-1, (o file).2)], heap)
        else afterH yield (GoSrc.newick_Reader pf fuel heap (o file).1 (fwdC yield)) := by
  first
  | exact absurd hFl (by decide)
  | (unfold GoSrc.newick_File
     simp only [FileW.step_eq]
     by_cases he : (o file).2 = GoErr.nil
     · rw [if_neg (by simpa using he), if_neg (by simpa using he)]
       show Option.bind _ _ = Option.bind _ _
       congr 1
       funext inner
       show (if (!(runG (fwd yield) inner.1.dropLast).2) = true then _ else _) = _
       cases (runG (fwd yield) inner.1.dropLast).2 <;> rfl
     · rw [if_pos (by simpa using he), if_pos he]
       rfl)

theorem newick_File_raw (hFl : GoSrc.newick_File_Found = true)
    (hF : GoSrc.newick_Reader_Found = true) (hR : GoSrc.newick_read_Found = true)
    (hT : GoSrc.newick_nextToken_Found = true) (hN : GoSrc.nameFromText_Found = true)
    (hQ : GoSrc.quoted_Found = true)
    (o : Bytes → ByteRd × GoErr) (pf : NwkRd.PF) (fuel : Nat) (heap : NwkRd.Heap) (file : Bytes)
    (yield : List NwkIt.GoItem → Bool) (ho : (o file).2 = GoErr.nil)
    (hfuel : (o file).1.rest.length + 1 ≤ fuel) :
    GoSrc.newick_File o pf fuel heap file yield = GoSrc.newick_Reader pf fuel heap (o file).1 yield := by
  rw [newick_File_spec hFl, if_neg (by simpa using ho)]
  rw [(NwkIt.newick_Reader_raw hF hR hT hN hQ pf fuel heap _ (fwdC yield) hfuel).2.2.1,
    (NwkIt.newick_Reader_raw hF hR hT hN hQ pf fuel heap _ yield hfuel).2.2.1,
    readsDone_fwdC yield _ [] rfl]
  obtain ⟨h1, h2, h3⟩ := after_layers yield (NwkIt.goItems pf fuel heap (o file).1)
  rw [afterH, Option.bind_some, if_pos h1, h2, h3]

def newickFileItems (o : Bytes → ByteRd × GoErr) (pf : NwkRd.PF) (fuel : Nat) (heap : NwkRd.Heap)
    (file : Bytes) : List NwkIt.GoItem :=
  if (o file).2 = GoErr.nil then NwkIt.goItems pf fuel heap (o file).1 else [(-1, (o file).2)]

/-- the heap `newick.File` hands back: untouched when `aio.Open` fails, else the heap after the `read()`
calls `Reader` made under the consumer -/
def newickFileHeap (o : Bytes → ByteRd × GoErr) (pf : NwkRd.PF) (fuel : Nat) (heap : NwkRd.Heap)
    (file : Bytes) (yield : List NwkIt.GoItem → Bool) : NwkRd.Heap :=
  if (o file).2 = GoErr.nil then
    NwkIt.lastHeap heap (NwkIt.readsDone yield [] (NwkIt.reads pf fuel heap (o file).1))
  else heap

theorem newick_File_log (hFl : GoSrc.newick_File_Found = true)
    (hF : GoSrc.newick_Reader_Found = true) (hR : GoSrc.newick_read_Found = true)
    (hT : GoSrc.newick_nextToken_Found = true) (hN : GoSrc.nameFromText_Found = true)
    (hQ : GoSrc.quoted_Found = true)
    (o : Bytes → ByteRd × GoErr) (pf : NwkRd.PF) (fuel : Nat) (heap : NwkRd.Heap) (file : Bytes)
    (yield : List NwkIt.GoItem → Bool)
    (hfuel : (o file).2 = GoErr.nil → (o file).1.rest.length + 1 ≤ fuel) :
    GoSrc.newick_File o pf fuel heap file yield
      = some (takeThroughH yield [] (newickFileItems o pf fuel heap file),
          newickFileHeap o pf fuel heap file yield) := by
  by_cases ho : (o file).2 = GoErr.nil
  · rw [newick_File_raw hFl hF hR hT hN hQ o pf fuel heap file yield ho (hfuel ho), newickFileItems, if_pos ho,
      newickFileHeap, if_pos ho]
    exact (NwkIt.newick_Reader_raw hF hR hT hN hQ pf fuel heap _ yield (hfuel ho)).2.2.1
  · rw [newick_File_spec hFl, if_pos ho, newickFileItems, if_neg ho, newickFileHeap, if_neg ho,
      takeThroughH_singleton]; rfl

end FileW
end Bio.GoSrcLemmas

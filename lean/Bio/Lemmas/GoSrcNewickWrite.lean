/-
  `(*Node).newick` and `(*Node).MarshalText` of formats/newick/newick.go, translated from the Go source
  text on every run into `Bio.Generated.GoSrc.Node_newick` / `Node_MarshalText` (a `*Node` is the hand
  model's `Newick.Tree`, `n.Children` is `kidsOf n`, the `*bytes.Buffer` is the list of bytes written so
  far and is handed back, `%v` of a float64 is the parameter `fmt_float`, the self-recursion consumes one
  unit of `fuel` per call; `none` = a Go panic or out of fuel).

  * `newick_char`: for ARBITRARY `fmt_float`, the translated writer is completely characterised:
    `Node_newick ff fuel t buf = if depth t + 1 ≤ fuel then some (buf ++ nodeText qs ff t) else none`
    (`depth` = the height of the tree, a leaf has depth 0; `nodeText` = the model's writer with
    `distText` replaced by `":" ++ ff d` on non-zero distances), so the fuel bound `depth t + 1` is sharp,
    the buffer is only appended to, there is no panic, and `ff none` is never looked at;
  * under `FFModel ff` (`ff (some t) = t`) `nodeText` is the model's `writeForest` of the single tree.

  Guarded by the translator's `<f>_Found` flags as in `Bio.Lemmas.GoSrc`.
-/
import Bio.Generated.GoSrc
import Bio.Lemmas.GoRt
import Bio.Lemmas.GoSrcNewick
import Bio.Lemmas.Newick
set_option linter.unusedVariables false
namespace Bio.GoSrcLemmas
namespace NwkWr
open Bio Bio.GoRt Bio.Generated Bio.Newick

/-! ## Vocabulary -/

/-- the assumption on `%v` of a float64: the text of the canonical token `t` is `t` -/
def FFModel (ff : Dist → Bytes) : Prop := ∀ t : Bytes, ff (some t) = t

/-- height of a forest: 0 for the empty forest, else 1 + the height of its tallest tree -/
def depthF : Forest → Nat
  | .nil => 0
  | .cons _ _ k r => max (depthF k + 1) (depthF r)

/-- height of a tree: a leaf has depth 0 -/
def depth (t : Tree) : Nat := depthF t.kids

/-- the model's text of the subtree `t` (what `Newick.write` puts before the final `;`) -/
def subtree (qs : Bytes) (t : Tree) : Bytes := writeForest qs (.cons t.name t.dist t.kids .nil)

theorem write_eq_subtree (qs : Bytes) (t : Tree) : write qs t = subtree qs t ++ [59] := rfl

/-- what the code writes for a distance: nothing for 0, else `":"` and `%v` of it -/
def dText (ff : Dist → Bytes) : Dist → Bytes
  | none => []
  | some t => 58 :: ff (some t)

/-- `Newick.writeForest` with `%v` = `ff` -/
def textF (qs : Bytes) (ff : Dist → Bytes) : Forest → Bytes
  | .nil => []
  | .cons n d k r =>
    (match k with
      | .nil => []
      | _ => 40 :: textF qs ff k ++ [41])
    ++ nameToText qs n ++ dText ff d
    ++ (match r with
      | .nil => []
      | _ => 44 :: textF qs ff r)

def kidsT (qs : Bytes) (ff : Dist → Bytes) (k : Forest) : Bytes :=
  match k with
  | .nil => []
  | _ => 40 :: textF qs ff k ++ [41]

def sibT (qs : Bytes) (ff : Dist → Bytes) (r : Forest) : Bytes :=
  match r with
  | .nil => []
  | _ => 44 :: textF qs ff r

/-- the text of one node and its subtree, with `%v` = `ff` -/
def nodeText (qs : Bytes) (ff : Dist → Bytes) (t : Tree) : Bytes :=
  kidsT qs ff t.kids ++ (nameToText qs t.name ++ dText ff t.dist)

theorem textF_cons (qs ff n d k r) :
    textF qs ff (.cons n d k r) = nodeText qs ff ⟨n, d, k⟩ ++ sibT qs ff r := by
  cases k <;> cases r <;> simp only [textF, nodeText, kidsT, sibT, List.append_assoc]

theorem sibT_cons (qs ff n d k r) :
    sibT qs ff (.cons n d k r) = 44 :: textF qs ff (.cons n d k r) := rfl

theorem kidsT_cons (qs ff n d k r) :
    kidsT qs ff (.cons n d k r) = 40 :: (textF qs ff (.cons n d k r) ++ [41]) := rfl

/-- only the values of `ff` on non-zero distances matter -/
theorem dText_congr {ff ff' : Dist → Bytes} (h : ∀ t : Bytes, ff (some t) = ff' (some t)) (d : Dist) :
    dText ff d = dText ff' d := by
  cases d with
  | none => rfl
  | some t => simp only [dText, h t]

theorem textF_congr {ff ff' : Dist → Bytes} (h : ∀ t : Bytes, ff (some t) = ff' (some t)) (qs : Bytes)
    (f : Forest) : textF qs ff f = textF qs ff' f := by
  induction f with
  | nil => rfl
  | cons n d k r ihk ihr =>
    have hk : kidsT qs ff k = kidsT qs ff' k := by cases k <;> simp only [kidsT, ihk]
    have hr : sibT qs ff r = sibT qs ff' r := by cases r <;> simp only [sibT, ihr]
    rw [textF_cons, textF_cons, nodeText, nodeText, hk, hr, dText_congr h]

theorem nodeText_congr {ff ff' : Dist → Bytes} (h : ∀ t : Bytes, ff (some t) = ff' (some t)) (qs : Bytes)
    (t : Tree) : nodeText qs ff t = nodeText qs ff' t := by
  have := textF_congr h qs (.cons t.name t.dist t.kids .nil)
  rwa [textF_cons, textF_cons, sibT, sibT, List.append_nil, List.append_nil] at this

theorem dText_model {ff : Dist → Bytes} (h : FFModel ff) (d : Dist) : dText ff d = distText d := by
  cases d with
  | none => rfl
  | some t => simp only [dText, distText, h t]

/-- under `FFModel` the text is the model writer's: `textF` with the model's `%v` -/
theorem textF_model {ff : Dist → Bytes} (h : FFModel ff) (qs : Bytes) (f : Forest) :
    textF qs ff f = writeForest qs f := by
  induction f with
  | nil => rfl
  | cons n d k r ihk ihr =>
    have hk : kidsT qs ff k = kidsText qs k := by cases k <;> simp only [kidsT, kidsText, ihk]
    have hr : sibT qs ff r = sibText qs r := by cases r <;> simp only [sibT, sibText, ihr]
    rw [textF_cons, writeForest_cons, nodeText, hk, hr, dText_model h, List.append_assoc,
      List.append_assoc]

theorem nodeText_model {ff : Dist → Bytes} (h : FFModel ff) (qs : Bytes) (t : Tree) :
    nodeText qs ff t = subtree qs t := by
  have := textF_model h qs (.cons t.name t.dist t.kids .nil)
  rwa [textF_cons, sibT, List.append_nil] at this

/-! ## The loop over `n.Children` -/

/-- the `for i, c := range n.Children` loop, for any callee `g` that is characterised on the children:
it succeeds iff every child does, and writes the comma-separated texts.  `k` is the index of the first
child in the list (`k = 0`: no leading comma).  The translator copies the recursive call into both branches
of `if i > 0`; `body` with `hbody` lets `newick_char` hand that lambda over once instead of the induction
carrying it. -/
theorem loop_spec (qs : Bytes) (ff : Dist → Bytes) (fuel : Nat) (g : Tree → Bytes → Option Bytes)
    (body : Int × Tree → Bytes → Option (ForInStep Bytes))
    (hbody : ∀ (i : Nat) (c : Tree) (b : Bytes),
      body ((i : Int), c) b = (g c (if i > 0 then b ++ [44] else b)).bind fun r => some (.yield r))
    (f : Forest)
    (hg : ∀ c ∈ forestList f, ∀ b,
      g c b = if depth c + 1 ≤ fuel then some (b ++ nodeText qs ff c) else none)
    (k : Nat) (buf : Bytes) :
    forIn (((forestList f).zipIdx k).map fun p => ((p.2 : Int), p.1)) buf body
      = if depthF f ≤ fuel then some (buf ++ (if k = 0 then textF qs ff f else sibT qs ff f)) else none := by
  induction f generalizing k buf with
  | nil => simp [forestList, depthF, textF, sibT]
  | cons n d kk r _ ih =>
    simp only [forestList, List.zipIdx_cons, List.map_cons, List.forIn_cons, hbody]
    rw [hg ⟨n, d, kk⟩ (by simp [forestList])]
    have hg' : ∀ c ∈ forestList r, ∀ b,
        g c b = if depth c + 1 ≤ fuel then some (b ++ nodeText qs ff c) else none :=
      fun c hc b => hg c (by simp [forestList, hc]) b
    simp only [depth, depthF]
    by_cases h1 : depthF kk + 1 ≤ fuel
    · simp only [h1, if_true, Option.bind_eq_bind, Option.bind_some]
      rw [ih hg' (k + 1)]
      by_cases h2 : depthF r ≤ fuel
      · have h3 : max (depthF kk + 1) (depthF r) ≤ fuel := by omega
        simp only [h2, h3, if_true, Nat.add_eq_zero_iff, Nat.succ_ne_self, and_false, if_false,
          textF_cons, sibT_cons]
        by_cases hk : k = 0
        · subst hk; simp
        · have : k > 0 := by omega
          simp [hk, this]
      · have h3 : ¬ max (depthF kk + 1) (depthF r) ≤ fuel := by omega
        simp [h2, h3]
    · have h3 : ¬ max (depthF kk + 1) (depthF r) ≤ fuel := by omega
      simp [h1, h3]

/-! ## The translated functions -/

theorem len_kidsOf_nil (n : Bytes) (d : Dist) : decide (len (kidsOf ⟨n, d, .nil⟩) > 0) = false := by
  simp [len, kidsOf, forestList]

theorem len_kidsOf_cons (n : Bytes) (d : Dist) (n' d' k' r') :
    decide (len (kidsOf ⟨n, d, .cons n' d' k' r'⟩) > 0) = true := by
  simp [len, kidsOf, forestList]

/-- complete characterisation of the translated `(*Node).newick`, for ARBITRARY `fmt_float` -/
theorem newick_char (hF : GoSrc.Node_newick_Found = true) (hN : GoSrc.nameToText_Found = true)
    (ff : Dist → Bytes) : ∀ (fuel : Nat) (t : Tree) (buf : Bytes),
    GoSrc.Node_newick ff fuel t buf
      = if depth t + 1 ≤ fuel then some (buf ++ nodeText Generated.newickQuoteBytes ff t) else none := by
  first
  | exact absurd hF (by decide)
  | (intro fuel
     induction fuel with
     | zero => intro t buf; rw [GoSrc.Node_newick]; simp
     | succ fuel ih =>
       intro t buf
       obtain ⟨n, d, k⟩ := t
       rw [GoSrc.Node_newick]
       simp only [Option.pure_def, Option.bind_eq_bind, nameToText_eq_observed hN, Option.bind_some]
       cases k with
       | nil =>
         simp only [gt_iff_lt]
         cases d <;> simp [depth, depthF, nodeText, kidsT, dText, len, kidsOf, forestList]
       | cons n' d' k' r' =>
         have hl : len (kidsOf ⟨n, d, .cons n' d' k' r'⟩) > 0 := by
           simpa using len_kidsOf_cons n d n' d' k' r'
         rw [if_pos hl]
         have hloop := loop_spec Generated.newickQuoteBytes ff fuel (GoSrc.Node_newick ff fuel)
           (fun x __s =>
             if x.fst > 0 then (GoSrc.Node_newick ff fuel x.snd (__s ++ [44])).bind fun buf => some (ForInStep.yield buf)
             else (GoSrc.Node_newick ff fuel x.snd __s).bind fun buf => some (ForInStep.yield buf))
           (by
             intro i c b
             by_cases hi : i > 0
             · simp [hi]
             · simp [hi])
           (.cons n' d' k' r') (fun c _ b => ih c b) 0 (buf ++ [40])
         have he : enum (kidsOf ⟨n, d, .cons n' d' k' r'⟩)
             = ((forestList (.cons n' d' k' r')).zipIdx 0).map fun p => ((p.2 : Int), p.1) := rfl
         rw [he, hloop]
         have hd : depth ⟨n, d, .cons n' d' k' r'⟩ = depthF (.cons n' d' k' r') := rfl
         rw [hd]
         by_cases h1 : depthF (.cons n' d' k' r') ≤ fuel
         · have h2 : depthF (.cons n' d' k' r') + 1 ≤ fuel + 1 := by omega
           rw [if_pos h1, if_pos h2]
           cases d <;> simp [nodeText, kidsT_cons, dText]
         · have h2 : ¬ depthF (.cons n' d' k' r') + 1 ≤ fuel + 1 := by omega
           rw [if_neg h1, if_neg h2]; rfl)

/-- the translated `MarshalText`, for ARBITRARY `fmt_float` -/
theorem marshal_char (hM : GoSrc.Node_MarshalText_Found = true) (hF : GoSrc.Node_newick_Found = true)
    (hN : GoSrc.nameToText_Found = true) (ff : Dist → Bytes) (fuel : Nat) (t : Tree) :
    GoSrc.Node_MarshalText ff fuel t
      = if depth t + 1 ≤ fuel then some (nodeText Generated.newickQuoteBytes ff t ++ [59], GoErr.nil)
        else none := by
  first
  | exact absurd hM (by decide)
  | (unfold GoSrc.Node_MarshalText
     simp only [Option.pure_def, Option.bind_eq_bind, newick_char hF hN]
     split <;> simp)

end NwkWr
end Bio.GoSrcLemmas

/-
  Facts about the two concrete float-token recognisers of `Bio/Model/Float.lean`
  (`FloatTok.samFloat`, `FloatTok.newickDist`) that discharge the hypotheses the codec
  theorems make about their float parameters `pf` / `pd`:

  * a canonical token is non-empty and consists of digits, `.`, `e`, `+`, `-` and the letters
    of `NaN` / `Inf` only — hence free of every SAM / Newick separator byte;
  * `samFloat` / `newickDist` return their argument unchanged (or "zero = no distance"), so
    they are idempotent;
  * `WFVal samFloat (.F t) ↔ isCanonE t`, `DistOK newickDist (some t) ↔ isCanonG t ∧ t ≠ 0, -0`.
-/
import Bio.Model.Float
import Bio.Lemmas.Sam
import Bio.Lemmas.Newick
import Bio.Lemmas.CrossSam
namespace Bio.FloatTok
open Bio

/-! ## The alphabet of canonical tokens -/

/-- Digits, `.`, `e`, `+`, `-`, and the letters `N a I n f`. -/
def okByte (b : UInt8) : Bool :=
  isDigit b || b == 46 || b == 101 || b == 43 || b == 45 ||
  b == 78 || b == 97 || b == 73 || b == 110 || b == 102

theorem okByte_of_digit {b : UInt8} (h : isDigit b = true) : okByte b = true := by
  simp [okByte, h]

/-- A byte of the alphabet is no Newick structural byte, no whitespace, no quote (so none of
TAB LF CR SP `'` `(` `)` `,` `:` `;`). -/
theorem okByte_clean {b : UInt8} (h : okByte b = true) :
    Newick.isStruct b = false ∧ Newick.isWS b = false ∧ b ≠ 39 := by
  simp only [okByte, Bool.or_eq_true, beq_iff_eq] at h
  rcases h with ((((((((h | h) | h) | h) | h) | h) | h) | h) | h) | h
  · have := (isDigit_iff b).1 h
    refine ⟨?_, ?_, ?_⟩
    · cases hs : Newick.isStruct b with
      | false => rfl
      | true => rcases Newick.isStruct_cases hs with rfl | rfl | rfl | rfl | rfl <;> exact absurd this (by decide)
    · cases hw : Newick.isWS b with
      | false => rfl
      | true => rcases Newick.isWS_cases hw with rfl | rfl | rfl | rfl <;> exact absurd this (by decide)
    · rintro rfl; exact absurd this (by decide)
  all_goals (subst h; decide)

/-! ## Pieces of the recognisers -/

theorem allDigits_mem {s : Bytes} (h : allDigits s = true) : ∀ b ∈ s, isDigit b = true := by
  simp only [allDigits, Bool.and_eq_true, List.all_eq_true] at h
  exact h.2

theorem mem_splitOn_pieces (sep : UInt8) (s : Bytes) :
    ∀ b ∈ s, b = sep ∨ ∃ p ∈ splitOn sep s, b ∈ p := by
  induction s with
  | nil => intro b hb; simp at hb
  | cons c rest ih =>
    intro b hb
    by_cases hc : c = sep
    · subst hc
      rcases List.mem_cons.1 hb with h | h
      · exact Or.inl h
      · rcases ih b h with h' | ⟨p, hp, hbp⟩
        · exact Or.inl h'
        · refine Or.inr ⟨p, ?_, hbp⟩
          rw [splitOn_cons_sep]; exact List.mem_cons_of_mem _ hp
    · obtain ⟨p, ps, hp, hcp⟩ := splitOn_cons_ne hc rest
      rw [hcp]
      rcases List.mem_cons.1 hb with h | h
      · subst h; exact Or.inr ⟨b :: p, by simp, by simp⟩
      · rcases ih b h with h' | ⟨q, hq, hbq⟩
        · exact Or.inl h'
        · rw [hp] at hq
          rcases List.mem_cons.1 hq with e | e
          · subst e; exact Or.inr ⟨c :: q, by simp, List.mem_cons_of_mem _ hbq⟩
          · exact Or.inr ⟨q, List.mem_cons_of_mem _ e, hbq⟩

theorem isMantissa_nil : isMantissa [] = false := by decide

theorem isMantissa_bytes {s : Bytes} (h : isMantissa s = true) : ∀ b ∈ s, okByte b = true := by
  intro b hb
  rcases mem_splitOn_pieces 46 s b hb with h46 | ⟨p, hp, hbp⟩
  · subst h46; decide
  · unfold isMantissa at h
    split at h
    · rename_i i hi
      rw [hi] at hp
      simp only [List.mem_singleton] at hp
      subst hp
      exact okByte_of_digit (allDigits_mem h b hbp)
    · rename_i i f hi
      rw [hi] at hp
      simp only [Bool.and_eq_true] at h
      simp only [List.mem_cons, List.not_mem_nil, or_false] at hp
      rcases hp with rfl | rfl
      · exact okByte_of_digit (allDigits_mem h.1 b hbp)
      · exact okByte_of_digit (allDigits_mem h.2 b hbp)
    · exact absurd h (by simp)

theorem isExp_bytes {s : Bytes} (h : isExp s = true) : ∀ b ∈ s, okByte b = true := by
  unfold isExp at h
  split at h
  · rename_i sg ds
    simp only [Bool.and_eq_true, Bool.or_eq_true, beq_iff_eq, List.all_eq_true] at h
    intro b hb
    simp only [List.mem_cons] at hb
    rcases hb with rfl | rfl | hb
    · decide
    · rcases h.1.1 with rfl | rfl <;> decide
    · exact okByte_of_digit (h.2 b hb)
  · exact absurd h (by simp)

theorem splitE_append (s : Bytes) : (splitE s).1 ++ (splitE s).2 = s := by
  induction s with
  | nil => rfl
  | cons b rest ih =>
    unfold splitE
    split
    · rfl
    · simp [ih]

theorem stripSign_cases (s : Bytes) : s = stripSign s ∨ s = 45 :: stripSign s := by
  unfold stripSign
  split
  · exact Or.inr rfl
  · exact Or.inl rfl

theorem isSpecial_cases {s : Bytes} (h : isSpecial s = true) :
    s = [78, 97, 78] ∨ s = [43, 73, 110, 102] ∨ s = [45, 73, 110, 102] := by
  simpa [isSpecial, or_assoc] using h

/-! ## Structural facts about canonical tokens -/

/-- Every `'e'`-canonical token is `%v`-canonical. -/
theorem isCanonG_of_isCanonE {t : Bytes} (h : isCanonE t = true) : isCanonG t = true := by
  simp only [isCanonE, isCanonG, Bool.or_eq_true, Bool.and_eq_true] at h ⊢
  rcases h with h | h
  · exact Or.inl h
  · exact Or.inr ⟨h.1.1, Or.inr h.1.2⟩

/-- A `%v`-canonical token is non-empty and built from the alphabet `okByte`. -/
theorem isCanonG_okByte {t : Bytes} (h : isCanonG t = true) :
    t ≠ [] ∧ ∀ b ∈ t, okByte b = true := by
  simp only [isCanonG, Bool.or_eq_true, Bool.and_eq_true] at h
  rcases h with h | ⟨hm, he⟩
  · rcases isSpecial_cases h with rfl | rfl | rfl <;> decide
  · have hs : ∀ b ∈ stripSign t, okByte b = true := by
      intro b hb
      rw [← splitE_append (stripSign t)] at hb
      rcases List.mem_append.1 hb with hb | hb
      · exact isMantissa_bytes hm b hb
      · rcases he with he | he
        · have : (splitE (stripSign t)).2 = [] := by simpa using he
          rw [this] at hb; simp at hb
        · exact isExp_bytes he b hb
    have hne : stripSign t ≠ [] := by
      intro e
      rw [e] at hm
      have : (splitE ([] : Bytes)).1 = [] := rfl
      rw [this, isMantissa_nil] at hm
      exact absurd hm (by simp)
    rcases stripSign_cases t with e | e
    · rw [e]; exact ⟨hne, hs⟩
    · rw [e]
      refine ⟨by simp, ?_⟩
      intro b hb
      rcases List.mem_cons.1 hb with rfl | hb
      · decide
      · exact hs b hb

/-- `%v`-canonical tokens: non-empty, and free of every Newick structural byte, whitespace and quote. -/
theorem isCanonG_clean (t : Bytes) (h : isCanonG t = true) : t ≠ [] ∧ Newick.Clean t :=
  ⟨(isCanonG_okByte h).1, fun b hm => okByte_clean ((isCanonG_okByte h).2 b hm)⟩

/-- `'e'`-canonical tokens contain no TAB, LF, CR (all whitespace to Newick). -/
theorem isCanonE_textOK {t : Bytes} (h : isCanonE t = true) : Sam.textOK t := by
  intro b hb
  have hw := ((isCanonG_clean t (isCanonG_of_isCanonE h)).2 b hb).2.1
  refine ⟨?_, ?_, ?_⟩ <;> (rintro rfl; exact absurd hw (by decide))

theorem samFloat_eq_some {t t' : Bytes} :
    samFloat t = some t' ↔ isCanonE t = true ∧ t' = t := by
  unfold samFloat
  split
  · rename_i h; simp [h, eq_comm]
  · rename_i h; simp [h]

theorem samFloat_idem {t t' : Bytes} (h : samFloat t = some t') :
    t' = t ∧ samFloat t' = some t' := by
  obtain ⟨hc, rfl⟩ := samFloat_eq_some.1 h
  exact ⟨rfl, h⟩

theorem newickDist_eq_some_some {t d : Bytes} :
    newickDist t = some (some d) ↔
      isCanonG t = true ∧ t ≠ [48] ∧ t ≠ [45, 48] ∧ d = t := by
  unfold newickDist
  by_cases hc : isCanonG t = true
  · by_cases hz : (t == [48] || t == [45, 48]) = true
    · have hz' : t = [48] ∨ t = [45, 48] := by simpa using hz
      simp only [hc, hz]
      rcases hz' with rfl | rfl <;> simp
    · have hz' : ¬ (t = [48] ∨ t = [45, 48]) := by simpa using hz
      have h1 : t ≠ [48] := fun e => hz' (Or.inl e)
      have h2 : t ≠ [45, 48] := fun e => hz' (Or.inr e)
      simp [hc, hz, h1, h2, eq_comm]
  · simp [hc]

theorem newickDist_idem {t d : Bytes} (h : newickDist t = some (some d)) :
    d = t ∧ newickDist d = some (some d) := by
  obtain ⟨_, _, _, rfl⟩ := newickDist_eq_some_some.1 h
  exact ⟨rfl, h⟩

theorem newickDist_zero {t : Bytes} :
    newickDist t = some none ↔ t = [48] ∨ t = [45, 48] := by
  constructor
  · intro h
    unfold newickDist at h
    split at h
    · cases h
    · split at h
      · rename_i hz; simpa using hz
      · cases h
  · rintro (rfl | rfl) <;> decide

/-! ## Discharged hypotheses -/

/-- SAM: the `F` clause of `WFVal` for the concrete codec is just canonicity. -/
theorem wfVal_samFloat_F (t : Bytes) : Sam.WFVal samFloat (.F t) ↔ isCanonE t = true := by
  constructor
  · intro h; exact (samFloat_eq_some.1 h.1).1
  · intro h; exact ⟨samFloat_eq_some.2 ⟨h, rfl⟩, isCanonE_textOK h⟩

/-- The hypothesis `hpf` of `C11_sam_fixed_point` / `Sam.accepted_WF`. -/
theorem hpf_samFloat : ∀ t t', samFloat t = some t' → samFloat t' = some t' :=
  fun _ _ h => (samFloat_idem h).2

/-- Newick: `DistOK` for the concrete parser is canonicity plus "not a spelling of zero". -/
theorem distOK_newickDist (t : Bytes) (h : isCanonG t = true) (hz : t ≠ [48] ∧ t ≠ [45, 48]) :
    Newick.DistOK newickDist (some t) :=
  ⟨newickDist_eq_some_some.2 ⟨h, hz.1, hz.2, rfl⟩, isCanonG_clean t h⟩

theorem distOK_newickDist_iff (t : Bytes) :
    Newick.DistOK newickDist (some t) ↔ isCanonG t = true ∧ t ≠ [48] ∧ t ≠ [45, 48] := by
  constructor
  · intro h
    obtain ⟨h1, h2, h3, _⟩ := newickDist_eq_some_some.1 h.1
    exact ⟨h1, h2, h3⟩
  · intro h; exact distOK_newickDist t h.1 h.2

/-- The hypothesis `hpd` of `C11_newick_fixed_point` / `Newick.accepted_allDist`. -/
theorem hpd_newickDist : ∀ t d, newickDist t = some (some d) → Newick.DistOK newickDist (some d) := by
  intro t d h
  obtain ⟨h1, h2, h3, rfl⟩ := newickDist_eq_some_some.1 h
  exact distOK_newickDist _ h1 ⟨h2, h3⟩

end Bio.FloatTok

/-! ## Decidable, codec-free forms of the round-trip domains -/

namespace Bio.Sam
open Bio

/-- `WFVal` with the float clause replaced by the decidable canonicity check. -/
def WFValCanon : TagVal → Prop
  | .A c => c ≠ 9 ∧ c ≠ 10 ∧ c ≠ 13
  | .I n => int64Min ≤ n ∧ n ≤ int64Max
  | .F t => FloatTok.isCanonE t = true
  | .Z s => textOK s
  | .H _ => True

/-- `WF` with `WFValCanon` in place of `WFVal pf`: no mention of a float codec. -/
def WFCanon (s : Sam) : Prop :=
  textOK s.qname ∧ textOK s.rname ∧ textOK s.cigar ∧ textOK s.rnext ∧ textOK s.seq ∧
  textOK s.qual ∧ s.qname.head? ≠ some 64 ∧
  (int64Min ≤ s.flag ∧ s.flag ≤ int64Max) ∧ (int64Min ≤ s.pos ∧ s.pos ≤ int64Max) ∧
  (int64Min ≤ s.mapq ∧ s.mapq ≤ int64Max) ∧ (int64Min ≤ s.pnext ∧ s.pnext ≤ int64Max) ∧
  (int64Min ≤ s.tlen ∧ s.tlen ≤ int64Max) ∧
  (∀ p ∈ s.tags, nameOK p.1 ∧ WFValCanon p.2) ∧
  List.Pairwise (fun a b => bytesLt a.1 b.1 = true) s.tags

instance : (v : TagVal) → Decidable (WFValCanon v)
  | .A c => inferInstanceAs (Decidable (c ≠ 9 ∧ c ≠ 10 ∧ c ≠ 13))
  | .I n => inferInstanceAs (Decidable (int64Min ≤ n ∧ n ≤ int64Max))
  | .F t => inferInstanceAs (Decidable (FloatTok.isCanonE t = true))
  | .Z s => inferInstanceAs (Decidable (textOK s))
  | .H _ => inferInstanceAs (Decidable True)
instance (s : Sam) : Decidable (WFCanon s) := inferInstanceAs (Decidable (_ ∧ _))

theorem wfValCanon_iff (v : TagVal) : WFValCanon v ↔ WFVal FloatTok.samFloat v := by
  cases v with
  | A c => exact Iff.rfl
  | I n => exact Iff.rfl
  | F t => exact (FloatTok.wfVal_samFloat_F t).symm
  | Z s => exact Iff.rfl
  | H bs => exact Iff.rfl

theorem wfCanon_iff (s : Sam) : WFCanon s ↔ WF FloatTok.samFloat s := by
  unfold WFCanon WF
  simp only [wfValCanon_iff]

/-- `valClean` without the float clause. -/
def valCleanNF : TagVal → Prop
  | .A c => c ≠ 9 ∧ c ≠ 10 ∧ c ≠ 13
  | .Z s => textOK s
  | _ => True

/-- `Clean` without the float clause: nothing is asked of `F` tokens. -/
def CleanNF (s : Sam) : Prop :=
  textOK s.qname ∧ textOK s.rname ∧ textOK s.cigar ∧ textOK s.rnext ∧ textOK s.seq ∧
  textOK s.qual ∧ ∀ p ∈ s.tags, textOK p.1 ∧ valCleanNF p.2

instance : (v : TagVal) → Decidable (valCleanNF v)
  | .A c => inferInstanceAs (Decidable (c ≠ 9 ∧ c ≠ 10 ∧ c ≠ 13))
  | .I _ => inferInstanceAs (Decidable True)
  | .F _ => inferInstanceAs (Decidable True)
  | .Z s => inferInstanceAs (Decidable (textOK s))
  | .H _ => inferInstanceAs (Decidable True)
instance (s : Sam) : Decidable (CleanNF s) := inferInstanceAs (Decidable (_ ∧ _))

/-- With the concrete codec the float clause of `Clean` is automatic for every record the
reader delivers: an accepted `F` token is canonical, hence free of TAB/CR/LF. -/
theorem accepted_clean_samFloat (e : Ending) (x : Bytes) (s : Sam)
    (hm : Item.ok s ∈ decodeSrc FloatTok.samFloat e x) (hc : CleanNF s) : Clean s := by
  obtain ⟨l, _, _, hp⟩ := header_ok_mem FloatTok.samFloat e x s (mem_dropHeaders hm)
  obtain ⟨_, _, _, _, _, _, _, htags⟩ := parseLine_some hp
  obtain ⟨c1, c2, c3, c4, c5, c6, c7⟩ := hc
  refine ⟨c1, c2, c3, c4, c5, c6, fun p hp' => ⟨(c7 p hp').1, ?_⟩⟩
  have hv := (c7 p hp').2
  have hpv := (htags p hp').2
  cases h : p.2 with
  | A c => rw [h] at hv; exact hv
  | I n => trivial
  | F t =>
    rw [h] at hpv
    obtain ⟨t0, h0⟩ := hpv
    exact FloatTok.isCanonE_textOK
      ((FloatTok.samFloat_eq_some.1 ((FloatTok.samFloat_idem h0).2)).1)
  | Z z => rw [h] at hv; exact hv
  | H bs => trivial

end Bio.Sam

namespace Bio.Newick
open Bio

/-- `DistOK` for the concrete parser, codec-free: absent, or a canonical `%v` token that is
not a spelling of zero (`0`, `-0` mean "no distance" to the reader). -/
def DistCanon (d : Dist) : Prop :=
  match d with
  | none => True
  | some t => FloatTok.isCanonG t = true ∧ t ≠ [48] ∧ t ≠ [45, 48]

instance : (d : Dist) → Decidable (DistCanon d)
  | none => isTrue trivial
  | some t => inferInstanceAs (Decidable (FloatTok.isCanonG t = true ∧ t ≠ [48] ∧ t ≠ [45, 48]))

theorem distCanon_iff (d : Dist) : DistCanon d ↔ DistOK FloatTok.newickDist d := by
  cases d with
  | none => exact Iff.rfl
  | some t => exact (FloatTok.distOK_newickDist_iff t).symm

theorem allDist_canon {t : Tree} (h : t.AllDist DistCanon) :
    t.AllDist (DistOK FloatTok.newickDist) :=
  ⟨(distCanon_iff _).1 h.1, Forest.AllDist.mono (fun d => (distCanon_iff d).1) _ h.2⟩

theorem allDist_canon_iff (t : Tree) :
    t.AllDist DistCanon ↔ t.AllDist (DistOK FloatTok.newickDist) :=
  ⟨allDist_canon, fun h =>
    ⟨(distCanon_iff _).2 h.1, Forest.AllDist.mono (fun d => (distCanon_iff d).2) _ h.2⟩⟩

end Bio.Newick

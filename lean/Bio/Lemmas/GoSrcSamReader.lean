/-
  The translated `Reader` of formats/sam/iter.go: `for … range ReaderHeader(r)`, i.e. Go range-over-func —
  the translated `sam_ReaderHeader` is run with the loop body as its (history) consumer.  `SamRd.runG body`
  is the translator's replay of an inner history through the body: a fold that IGNORES whatever follows an
  item on which the body answered `false`; `runG_dropLast` shows that never happens (the body answered
  `true` on all but the last item).  Guarded by the translator's `_Found` flags as in `Bio.Lemmas.GoSrc`.
-/
import Bio.Lemmas.GoSrcSamIter
set_option linter.unusedVariables false
set_option linter.unusedSimpArgs false
namespace Bio.GoSrcLemmas
open Bio Bio.GoRt Bio.Generated

namespace SamRd
open BedRd SamP SamIt Bio.IterH Bio.Iter

/-- what `Reader` hands to `yield`: `(*SAM, error)` -/
abbrev OItem := Option SamT × GoErr

/-- the loop body of `Reader` on one `ReaderHeader` item `(sh, err)`: `err != nil` — `yield(nil, err)`;
`sh.S == nil` (a header line) — `continue`; else `yield(sh.S, nil)` -/
def pick : GoItem → Option OItem
  | ((_, _), GoErr.eof) => some (none, GoErr.eof)
  | ((_, _), GoErr.other) => some (none, GoErr.other)
  | ((_, none), GoErr.nil) => none
  | ((_, some t), GoErr.nil) => some (some t, GoErr.nil)

/-- the outer items of an uninterrupted run -/
def outItems (P : List Bytes → Option SamT × GoErr) (e : Ending) (x : Bytes) : List OItem :=
  (goItems P e x).filterMap pick

/-- the translator's replay of an inner history through the loop body, from the empty outer log: items
after one on which the body answered `false` are ignored -/
def runG {α β : Type} (body : List β → α → List β × Bool) (l : List α) : List β × Bool :=
  l.foldl (fun st item => if st.2 = true then body st.1 item else st) ([], true)

theorem runG_nil {α β : Type} (body : List β → α → List β × Bool) : runG body [] = ([], true) := rfl

theorem runG_concat {α β : Type} (body : List β → α → List β × Bool) (l : List α) (x : α) :
    runG body (l ++ [x]) = if (runG body l).2 = true then body (runG body l).1 x else runG body l := by
  unfold runG
  rw [List.foldl_append]
  rfl

/-- Replaying the inner history that an inner iterator with the take-through law produces when its
consumer is the loop body: the outer log is the take-through of the filtered-and-mapped items. -/
theorem runG_takeThroughH_acc {α β : Type} (g : α → Option β) (y : List β → Bool) (xs : List α) :
    ∀ acc : List α, (runG (filterMapBodyH g y) acc).2 = true →
      (runG (filterMapBodyH g y)
          (takeThroughH (fun l => (runG (filterMapBodyH g y) l).2) acc xs)).1
        = takeThroughH y (runG (filterMapBodyH g y) acc).1 (xs.filterMap g) := by
  induction xs with
  | nil => intro acc _; rfl
  | cons x xs ih =>
    intro acc hacc
    rw [takeThroughH_cons]
    have hc : runG (filterMapBodyH g y) (acc ++ [x])
        = filterMapBodyH g y (runG (filterMapBodyH g y) acc).1 x := by
      rw [runG_concat, if_pos hacc]
    cases hg : g x with
    | none =>
      have h2 : runG (filterMapBodyH g y) (acc ++ [x]) = ((runG (filterMapBodyH g y) acc).1, true) := by
        rw [hc]; simp [filterMapBodyH, hg]
      rw [h2, if_pos rfl, ih (acc ++ [x]) (by rw [h2]), h2, List.filterMap_cons_none hg]
    | some o =>
      have h2 : runG (filterMapBodyH g y) (acc ++ [x])
          = ((runG (filterMapBodyH g y) acc).1 ++ [o], y ((runG (filterMapBodyH g y) acc).1 ++ [o])) := by
        rw [hc]; simp [filterMapBodyH, hg]
      rw [List.filterMap_cons_some hg, takeThroughH_cons, h2]
      by_cases hy : y ((runG (filterMapBodyH g y) acc).1 ++ [o]) = true
      · rw [if_pos hy, if_pos hy, ih (acc ++ [x]) (by rw [h2]; exact hy), h2]
      · rw [if_neg hy, if_neg hy, h2]

theorem runG_takeThroughH {α β : Type} (g : α → Option β) (y : List β → Bool) (xs : List α) :
    (runG (filterMapBodyH g y) (takeThroughH (fun l => (runG (filterMapBodyH g y) l).2) [] xs)).1
      = takeThroughH y [] (xs.filterMap g) :=
  runG_takeThroughH_acc g y xs [] rfl

/-- the replay of everything but the last item of a history on all of whose proper prefixes the body
answered `true` -/
theorem runG_dropLast_of_go_on {α β : Type} (body : List β → α → List β × Bool) (L : List α)
    (hgo : ∀ j, j + 1 < L.length → (runG body (L.take (j + 1))).2 = true) :
    (runG body L.dropLast).2 = true := by
  by_cases hlen : L.length ≤ 1
  · have : L.dropLast = [] := by
      match L, hlen with
      | [], _ => rfl
      | [_], _ => rfl
    rw [this]; rfl
  · have h := hgo (L.length - 2) (by omega)
    rw [List.dropLast_eq_take]
    have : L.length - 2 + 1 = L.length - 1 := by omega
    rw [this] at h
    exact h

/-- The inner iterator stopped right after the body answered `false`: on everything but the last item
of the inner history the body answered `true`. -/
theorem runG_dropLast {α β : Type} (body : List β → α → List β × Bool) (xs : List α) :
    (runG body (takeThroughH (fun l => (runG body l).2) [] xs).dropLast).2 = true :=
  runG_dropLast_of_go_on body _ (takeThroughH_go_on (fun l => (runG body l).2) xs)

/-! ## The translated closure -/

/-- the translated loop body is the filter-and-map body of `pick` -/
theorem step_eq (yield : List OItem → Bool) (log : List OItem) (item : GoItem) :
    (Id.run do
      let mut log := log
      let sh := item.1
      let err := item.2
      if err != GoErr.nil then
        log := log ++ [(none, err)]
        if !(yield log) then
          return (log, false)
        return (log, true)
      if Option.isNone sh.2 then
        return (log, true)
      log := log ++ [(sh.2, GoErr.nil)]
      if !(yield log) then
        return (log, false)
      return (log, true)) = filterMapBodyH pick yield log item := by
  obtain ⟨⟨H, S⟩, err⟩ := item
  cases err
  · cases S
    · simp [filterMapBodyH, pick]
    · rename_i t
      cases hy : yield (log ++ [(some t, GoErr.nil)]) <;> simp [filterMapBodyH, pick, hy]
  · cases hy : yield (log ++ [(none, GoErr.eof)]) <;> simp [filterMapBodyH, pick, hy]
  · cases hy : yield (log ++ [(none, GoErr.other)]) <;> simp [filterMapBodyH, pick, hy]

/-- for ARBITRARY library functions, fuel and consumer: the translated `Reader` runs the translated
`ReaderHeader` with the loop body as its consumer, panics if the inner history shows a call after the
body answered `false`, and else returns the replayed outer log -/
theorem sam_Reader_spec (hRd : GoSrc.sam_Reader_Found = true)
    (h : Bytes → Bytes × GoErr) (f : Bytes → Int × GoErr) (g : Bytes → Int → Bytes × GoErr)
    (fuel : Nat) (r : BufRd) (yield : List OItem → Bool) :
    GoSrc.sam_Reader h f g fuel r yield
      = (GoSrc.sam_ReaderHeader h f g fuel r (fun l => (runG (filterMapBodyH pick yield) l).2)).bind
          (fun inner => if (runG (filterMapBodyH pick yield) inner.dropLast).2 = true
            then some (runG (filterMapBodyH pick yield) inner).1 else none) := by
  first
  | exact absurd hRd (by decide)
  | (unfold GoSrc.sam_Reader
     simp only [step_eq]
     show Option.bind _ _ = Option.bind _ _
     congr 1
     funext inner
     show (if (!(runG (filterMapBodyH pick yield) inner.dropLast).2) = true then _ else _) = _
     cases (runG (filterMapBodyH pick yield) inner.dropLast).2 <;> rfl)

/-! ## `ReaderHeader` for ANY fuel: every answer but the last was `true` -/

/-- whatever the fuel: if the loop returns, the consumer answered `true` on every history but the last -/
theorem rhSpec_go_on (P : List Bytes → Option SamT × GoErr) (y : List GoItem → Bool) :
    ∀ (fuel : Nat) (log : List GoItem) (br : BufRd) (L : List GoItem), rhSpec P y fuel log br = some L →
      ∃ t, L = log ++ t ∧ ∀ j, j + 1 < t.length → y (log ++ t.take (j + 1)) = true := by
  intro fuel
  induction fuel with
  | zero => intro log br L h; cases h
  | succ fuel ih =>
    intro log br L h
    dsimp only [rhSpec] at h
    split at h
    · cases h; exact ⟨[_], rfl, by simp⟩
    · split at h
      · split at h
        · rename_i hy
          split at h
          · cases h; exact ⟨[_], rfl, by simp⟩
          · obtain ⟨t, rfl, ht⟩ := ih _ _ _ h
            refine ⟨_ :: t, List.append_assoc _ [_] t, ?_⟩
            intro j hj
            cases j with
            | zero => simpa using hy
            | succ j =>
              have := ht j (by simpa using hj)
              simpa using this
        · cases h; exact ⟨[_], rfl, by simp⟩
      · split at h
        · cases h; exact ⟨[], by simp, by simp⟩
        · exact ih _ _ _ h

/-- The Go runtime panic "range function continued iteration after function for loop body returned
false" is NEVER taken, whatever the library functions, the reader, the fuel and the consumer: whenever the
translated `ReaderHeader` returns, so does the translated `Reader`. -/
theorem sam_Reader_some (hRd : GoSrc.sam_Reader_Found = true) (hR : GoSrc.sam_ReaderHeader_Found = true)
    (hF : GoSrc.sam_parseLine_Found = true) (hI : GoSrc.parseInts_Found = true)
    (hT : GoSrc.parseTags_Found = true) (hS : GoSrc.splitTag_Found = true)
    (h : Bytes → Bytes × GoErr) (f : Bytes → Int × GoErr) (g : Bytes → Int → Bytes × GoErr)
    (fuel : Nat) (r : BufRd) (yield : List OItem → Bool) (inner : List GoItem)
    (hin : GoSrc.sam_ReaderHeader h f g fuel r (fun l => (runG (filterMapBodyH pick yield) l).2) = some inner) :
    (runG (filterMapBodyH pick yield) inner.dropLast).2 = true
    ∧ GoSrc.sam_Reader h f g fuel r yield = some (runG (filterMapBodyH pick yield) inner).1 := by
  have h1 : (runG (filterMapBodyH pick yield) inner.dropLast).2 = true := by
    rw [sam_ReaderHeader_spec hR hF hI hT hS] at hin
    obtain ⟨t, rfl, ht⟩ := rhSpec_go_on _ _ _ _ _ _ hin
    apply runG_dropLast_of_go_on
    intro j hj
    have := ht j (by simpa using hj)
    simpa using this
  refine ⟨h1, ?_⟩
  rw [sam_Reader_spec hRd, hin, Option.bind_some, if_pos h1]

theorem sam_Reader_none_iff (hRd : GoSrc.sam_Reader_Found = true) (hR : GoSrc.sam_ReaderHeader_Found = true)
    (hF : GoSrc.sam_parseLine_Found = true) (hI : GoSrc.parseInts_Found = true)
    (hT : GoSrc.parseTags_Found = true) (hS : GoSrc.splitTag_Found = true)
    (h : Bytes → Bytes × GoErr) (f : Bytes → Int × GoErr) (g : Bytes → Int → Bytes × GoErr)
    (fuel : Nat) (r : BufRd) (yield : List OItem → Bool) :
    GoSrc.sam_Reader h f g fuel r yield = none
      ↔ GoSrc.sam_ReaderHeader h f g fuel r (fun l => (runG (filterMapBodyH pick yield) l).2) = none := by
  cases hin : GoSrc.sam_ReaderHeader h f g fuel r (fun l => (runG (filterMapBodyH pick yield) l).2) with
  | none => rw [sam_Reader_spec hRd, hin]; simp
  | some inner => rw [(sam_Reader_some hRd hR hF hI hT hS h f g fuel r yield inner hin).2]; simp

/-! ## The log -/

/-- the translated closure, ARBITRARY library functions and ARBITRARY consumer: the outer items of the
uninterrupted run, cut by the consumer -/
theorem sam_Reader_raw (hRd : GoSrc.sam_Reader_Found = true) (hR : GoSrc.sam_ReaderHeader_Found = true)
    (hF : GoSrc.sam_parseLine_Found = true) (hI : GoSrc.parseInts_Found = true)
    (hT : GoSrc.parseTags_Found = true) (hS : GoSrc.splitTag_Found = true)
    (h : Bytes → Bytes × GoErr) (f : Bytes → Int × GoErr) (g : Bytes → Int → Bytes × GoErr)
    (fuel : Nat) (x : Bytes) (e : Ending) (y : List OItem → Bool)
    (hfuel : (textLines e x).length + 1 ≤ fuel) :
    GoSrc.sam_Reader h f g fuel ⟨x, e⟩ y = some (takeThroughH y [] (outItems (lineSpec h f g) e x)) := by
  rw [sam_Reader_spec hRd, sam_ReaderHeader_raw hR hF hI hT hS h f g fuel x e _ hfuel, Option.bind_some,
    if_pos (runG_dropLast _ _), runG_takeThroughH]
  rfl

/-! ## The two layers -/

/-- as long as the body answered `true` on everything but the last item, the outer log is what `pick`
keeps of the inner history -/
theorem runG_fst {α β : Type} (g : α → Option β) (y : List β → Bool) (l : List α) :
    ((runG (filterMapBodyH g y) l).2 = true → (runG (filterMapBodyH g y) l).1 = l.filterMap g)
    ∧ ((runG (filterMapBodyH g y) l.dropLast).2 = true → (runG (filterMapBodyH g y) l).1 = l.filterMap g) := by
  rw [← List.reverse_reverse l]
  generalize l.reverse = r
  induction r with
  | nil => exact ⟨fun _ => rfl, fun _ => rfl⟩
  | cons x r ih =>
    rw [List.reverse_cons]
    generalize r.reverse = l at ih ⊢
    have key : (runG (filterMapBodyH g y) l).2 = true →
        (runG (filterMapBodyH g y) (l ++ [x])).1 = (l ++ [x]).filterMap g := by
      intro hl
      rw [runG_concat, if_pos hl, ih.1 hl, List.filterMap_append]
      cases hg : g x <;> simp [filterMapBodyH, hg]
    refine ⟨fun h2 => ?_, fun h2 => key (by simpa using h2)⟩
    by_cases hl : (runG (filterMapBodyH g y) l).2 = true
    · exact key hl
    · rw [runG_concat, if_neg hl] at h2; exact absurd h2 hl

/-- the body's answer on an inner history on whose proper prefixes it answered `true`: `true` for an
item passed over by `continue`, else the outer consumer's answer on the outer history -/
theorem runG_answer {α β : Type} (g : α → Option β) (y : List β → Bool) (l : List α) (x : α)
    (hl : (runG (filterMapBodyH g y) l).2 = true) :
    (runG (filterMapBodyH g y) (l ++ [x])).2
      = match g x with
        | none => true
        | some o => y (l.filterMap g ++ [o]) := by
  rw [runG_concat, if_pos hl, (runG_fst g y l).1 hl]
  cases hg : g x <;> simp [filterMapBodyH, hg]

/-- the inner history, when the inner iterator obeys the take-through law: the outer log is what `pick`
keeps of it -/
theorem runG_inner_fst {α β : Type} (g : α → Option β) (y : List β → Bool) (xs : List α) :
    (runG (filterMapBodyH g y) (takeThroughH (fun l => (runG (filterMapBodyH g y) l).2) [] xs)).1
      = (takeThroughH (fun l => (runG (filterMapBodyH g y) l).2) [] xs).filterMap g :=
  (runG_fst g y _).2 (runG_dropLast _ xs)

/-- BOTH layers: once the outer consumer declines the item made of the `i`-th inner item, the inner
iterator hands over nothing more (no further line is read, not even a header line) -/
theorem inner_stop {α β : Type} (g : α → Option β) (y : List β → Bool) (xs : List α) (i : Nat)
    (hi : i < (takeThroughH (fun l => (runG (filterMapBodyH g y) l).2) [] xs).length) (o : β)
    (ho : g (takeThroughH (fun l => (runG (filterMapBodyH g y) l).2) [] xs)[i] = some o)
    (hy : y (((takeThroughH (fun l => (runG (filterMapBodyH g y) l).2) [] xs).take i).filterMap g ++ [o]) = false) :
    i + 1 = (takeThroughH (fun l => (runG (filterMapBodyH g y) l).2) [] xs).length := by
  apply takeThroughH_stop _ xs i hi
  generalize hL : takeThroughH (fun l => (runG (filterMapBodyH g y) l).2) [] xs = L at hi ho hy ⊢
  have hpre : (runG (filterMapBodyH g y) (L.take i)).2 = true := by
    cases i with
    | zero => rfl
    | succ j =>
      have := takeThroughH_go_on (fun l => (runG (filterMapBodyH g y) l).2) xs j (by rw [hL]; exact hi)
      rw [hL] at this
      exact this
  show (runG (filterMapBodyH g y) (L.take (i + 1))).2 = false
  rw [List.take_succ_eq_append_getElem hi, runG_answer g y _ _ hpre, ho]
  exact hy

/-! ## Shapes; normalised outer items -/

/-- no header reaches the consumer: an outer item is a record without error, or an error without record -/
theorem pick_shape (it : GoItem) (o : OItem) (h : pick it = some o) :
    (∃ s, o = (some s, GoErr.nil)) ∨ (∃ e, e ≠ GoErr.nil ∧ o = (none, e)) := by
  obtain ⟨⟨H, S⟩, err⟩ := it
  cases err
  · cases S
    · cases h
    · simp only [pick, Option.some.injEq] at h; exact .inl ⟨_, h.symm⟩
  · simp only [pick, Option.some.injEq] at h; exact .inr ⟨_, by decide, h.symm⟩
  · simp only [pick, Option.some.injEq] at h; exact .inr ⟨_, by decide, h.symm⟩

theorem pick_header (t : Bytes) : pick ((some t, none), GoErr.nil) = none := rfl

/-- an outer item as a model item: a record with its tags normalised, or an error -/
def normO : OItem → Item Sam.Sam
  | (some t, GoErr.nil) => .ok (samOfT t)
  | _ => .err

/-- on the item of a text line, under the three hypotheses, `pick` is the model's `samPick` -/
theorem pick_lineItemGo {h f g pf} (hf : AtoiModel f) (hg : PFModel g pf) (hh : HexModel h) (text : Bytes) :
    (pick (lineItemGo (lineSpec h f g) text)).map normO
      = samPick (normItem (lineItemGo (lineSpec h f g) text)) := by
  unfold lineItemGo
  by_cases c : List.isPrefixOf [64] text = true
  · rw [if_pos c]; rfl
  · rw [if_neg c]
    have hl := lineSpec_model hf hg hh (splitOn 9 text)
    cases hp : Sam.parseLine pf (splitOn 9 text) with
    | none =>
      rw [hp] at hl
      obtain ⟨e, he, hq⟩ := hl
      rw [hq]
      cases e with
      | nil => exact absurd rfl he
      | eof => rfl
      | other => rfl
    | some s =>
      rw [hp] at hl
      obtain ⟨r, hq, _, _⟩ := hl
      rw [hq]
      rfl

theorem pick_endItem (e : Ending) : ∀ it ∈ endItemsGo e, (pick it).map normO = samPick (normItem it) := by
  cases e with
  | eof => intro it hit; cases hit
  | fail => intro it hit; simp only [endItemsGo, List.mem_singleton] at hit; subst hit; rfl

theorem filterMap_congr' {α β : Type} (f g : α → Option β) (l : List α) (h : ∀ x ∈ l, f x = g x) :
    l.filterMap f = l.filterMap g := by
  induction l with
  | nil => rfl
  | cons a l ih =>
    have ha := h a (by simp)
    have ih' := ih (fun x hx => h x (by simp [hx]))
    cases hf : f a with
    | none => rw [List.filterMap_cons_none hf, List.filterMap_cons_none (ha ▸ hf), ih']
    | some b => rw [List.filterMap_cons_some hf, List.filterMap_cons_some (ha ▸ hf), ih']

/-- the normalised outer items of an uninterrupted run are the model's `Sam.decodeSrc` -/
theorem outItems_norm {h f g pf} (hf : AtoiModel f) (hg : PFModel g pf) (hh : HexModel h) (e : Ending) (x : Bytes) :
    (outItems (lineSpec h f g) e x).map normO = Sam.decodeSrc pf e x := by
  unfold outItems Sam.decodeSrc
  rw [← goItems_norm hf hg hh e x, dropHeaders_eq, List.map_filterMap, List.filterMap_map]
  apply filterMap_congr'
  intro it hit
  unfold goItems at hit
  rcases List.mem_append.1 hit with hit | hit
  · obtain ⟨l, _, rfl⟩ := List.mem_map.1 hit
    exact pick_lineItemGo hf hg hh l
  · exact pick_endItem e it hit

/-- after a failed read the last outer item is the read error -/
theorem outItems_fail (P : List Bytes → Option SamT × GoErr) (x : Bytes) :
    outItems P .fail x
      = (((textLines .fail x).filter (· ≠ [])).map (lineItemGo P)).filterMap pick ++ [(none, GoErr.other)] := by
  unfold outItems goItems
  rw [List.filterMap_append]
  rfl

theorem outItems_eof (P : List Bytes → Option SamT × GoErr) (x : Bytes) :
    outItems P .eof x = (((textLines .eof x).filter (· ≠ [])).map (lineItemGo P)).filterMap pick := by
  unfold outItems goItems
  rw [List.filterMap_append]
  simp [endItemsGo]

end SamRd
end Bio.GoSrcLemmas

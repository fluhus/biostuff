/-
  Helper lemmas for C19 / C18: the explicit-stack machine `trav` of
  formats/newick/traverse.go equals the recursive pre/post-order, cut by
  `takeThrough` at the consumer's first `false`.
-/
import Bio.Model.Traverse
import Bio.Model.GoRtNewick
import Bio.Lemmas.TakeThrough
namespace Bio.Newick

/-! ## Dropping siblings -/

/-- The sibling list without its first `i` trees. -/
def Forest.drop : Nat → Forest → Forest
  | 0, k => k
  | _ + 1, .nil => .nil
  | i + 1, .cons _ _ _ r => Forest.drop i r

@[simp] theorem Forest.drop_zero (k : Forest) : Forest.drop 0 k = k := by
  cases k <;> rfl

theorem Forest.drop_eq_nil_iff (k : Forest) (i : Nat) (h : i ≤ k.length) :
    Forest.drop i k = .nil ↔ i = k.length := by
  induction k generalizing i with
  | nil => cases i <;> simp_all [Forest.drop, Forest.length]
  | cons n d kk r _ ih =>
    cases i with
    | zero => simp [Forest.drop, Forest.length]; omega
    | succ i =>
      simp only [Forest.drop, Forest.length] at h ⊢
      rw [ih i (by omega)]; omega

theorem Forest.drop_eq_cons (k : Forest) (i : Nat) {a d kk r}
    (h : Forest.drop i k = .cons a d kk r) :
    k.get? i = some ⟨a, d, kk⟩ ∧ Forest.drop (i + 1) k = r ∧ i < k.length := by
  induction k generalizing i with
  | nil => cases i <;> simp [Forest.drop] at h
  | cons n d' kk' r' _ ih =>
    cases i with
    | zero =>
      simp only [Forest.drop_zero] at h
      cases h
      simp [Forest.get?, Forest.drop, Forest.length]; omega
    | succ i =>
      simp only [Forest.drop] at h
      obtain ⟨h1, h2, h3⟩ := ih i h
      refine ⟨by simpa [Forest.get?] using h1, by simpa [Forest.drop] using h2, ?_⟩
      simp only [Forest.length]; omega

/-! ## Specification of a machine state -/

/-- Recursive order over a sibling list, selected by `pre`. -/
def recF (pre : Bool) (k : Forest) : List Tree := if pre then preRecF k else postRecF k

/-- The uninterrupted output still to come from a stack (top frame first):
for the frame `(n, i)`: `n` itself when in pre-order and not yet started, the
subtrees of `n` from child `i` on, `n` itself when in post-order; then the rest
of the stack. -/
def pending (pre : Bool) : List (Tree × Nat) → List Tree
  | [] => []
  | (n, i) :: s =>
    (if pre && i == 0 then [n] else []) ++ recF pre (Forest.drop i n.kids)
      ++ (if pre then [] else [n]) ++ pending pre s

/-- Number of machine steps still needed by a stack. -/
def work : List (Tree × Nat) → Nat
  | [] => 0
  | (n, i) :: s => 2 * (Forest.drop i n.kids).size + 1 + work s

/-- Every frame's child index is within range. -/
def WF (s : List (Tree × Nat)) : Prop := ∀ x ∈ s, x.2 ≤ x.1.kids.length

theorem WF.single (t : Tree) : WF [(t, 0)] := by
  intro x hx; cases List.mem_singleton.1 hx; exact Nat.zero_le _

/-- The top frame `(n, i)` of a well-formed stack: the children of `n` are exhausted and the frame is
popped, or the next child `c` is pushed; either way one machine step is spent, and what is still to
come is regrouped accordingly. -/
theorem frame_cases (pre : Bool) {n : Tree} {i : Nat} {s : List (Tree × Nat)} (hwf : WF ((n, i) :: s)) :
    ((i == n.kids.length) = true ∧ WF s ∧ work ((n, i) :: s) = work s + 1 ∧
      pending pre ((n, i) :: s)
        = (if pre && i == 0 then [n] else []) ++ ((if pre then [] else [n]) ++ pending pre s)) ∨
    ∃ c, n.kids.get? i = some c ∧ (i == n.kids.length) = false ∧ WF ((c, 0) :: (n, i + 1) :: s) ∧
      work ((n, i) :: s) = work ((c, 0) :: (n, i + 1) :: s) + 1 ∧
      pending pre ((n, i) :: s)
        = (if pre && i == 0 then [n] else []) ++ pending pre ((c, 0) :: (n, i + 1) :: s) := by
  have hi : i ≤ n.kids.length := hwf (n, i) (by simp)
  have hwfs : WF s := fun y hy => hwf y (by simp [hy])
  cases hd : Forest.drop i n.kids with
  | nil =>
    refine Or.inl ⟨by simpa using (Forest.drop_eq_nil_iff _ _ hi).1 hd, hwfs, ?_, ?_⟩
    · simp [work, hd, Forest.size]; omega
    · cases pre <;> simp [pending, hd, recF, preRecF, postRecF]
  | cons a d kk r =>
    obtain ⟨hget, hdrop, hlt⟩ := Forest.drop_eq_cons _ _ hd
    refine Or.inr ⟨⟨a, d, kk⟩, hget, by simp; omega, ?_, ?_, ?_⟩
    · intro y hy
      simp only [List.mem_cons] at hy
      rcases hy with rfl | rfl | hy
      · exact Nat.zero_le _
      · exact hlt
      · exact hwfs y hy
    · simp only [work, hd, Forest.size, Forest.drop_zero, hdrop]; omega
    · cases pre <;> simp [pending, hd, hdrop, recF, preRecF, postRecF]

theorem trav_eq_pending (pre : Bool) (f : Tree → Bool) (fuel : Nat) (s : List (Tree × Nat))
    (hwf : WF s) (hfuel : work s ≤ fuel) :
    trav pre f fuel s = takeThrough (fun x => !f x) (pending pre s) := by
  induction fuel generalizing s with
  | zero =>
    cases s with
    | nil => rfl
    | cons x s => simp [work] at hfuel
  | succ fuel ih =>
    cases s with
    | nil => rfl
    | cons x s =>
      obtain ⟨n, i⟩ := x
      rcases frame_cases pre hwf with ⟨hil, hwfs, hw, hp⟩ | ⟨c, hget, hne, hwf', hw, hp⟩
      · have ih' := ih s hwfs (by omega)
        rw [hp]
        cases pre <;> cases h0 : (i == 0) <;> cases hfn : f n <;>
          simp [trav, takeThrough_cons, hil, h0, hfn, ih']
      · have ih' := ih _ hwf' (by omega)
        rw [hp]
        cases pre <;> cases h0 : (i == 0) <;> cases hfn : f n <;>
          simp [trav, takeThrough_cons, hne, h0, hfn, hget, ih']

/-! ## The machine started on a single tree -/

/-- `2 * size - 1` steps: every node is entered and left, the root is not pushed.  The Go loop needs one
more iteration to see the empty stack (`2 * size`); the hand model `traverse` is given `2 * size + 1`. -/
theorem work_single (t : Tree) : work [(t, 0)] = 2 * t.size - 1 := by
  simp only [work, Forest.drop_zero, Tree.size]; omega

theorem trav_start (pre : Bool) (f : Tree → Bool) (t : Tree) (fuel : Nat)
    (h : 2 * t.size ≤ fuel + 1) :
    trav pre f fuel [(t, 0)]
      = takeThrough (fun x => !f x) (if pre then preRec t else postRec t) := by
  rw [trav_eq_pending pre f fuel [(t, 0)] (WF.single t)]
  · cases pre <;> simp [pending, recF, preRec, postRec]
  · rw [work_single]; omega

/-! ## Sizes and the recursive orders -/

theorem preRecF_length (k : Forest) : (preRecF k).length = k.size := by
  induction k with
  | nil => rfl
  | cons n d kk r ih1 ih2 => simp [preRecF, Forest.size, ih1, ih2]; omega

theorem postRecF_length (k : Forest) : (postRecF k).length = k.size := by
  induction k with
  | nil => rfl
  | cons n d kk r ih1 ih2 => simp [postRecF, Forest.size, ih1, ih2]; omega

open Bio.GoRt

theorem preRec_length (t : Tree) : (preRec t).length = t.size := by
  simp [preRec, preRecF_length, Tree.size]; omega

theorem postRec_length (t : Tree) : (postRec t).length = t.size := by
  simp [postRec, postRecF_length, Tree.size]; omega

theorem preRecF_forestList (k : Forest) : preRecF k = (forestList k).flatMap preRec := by
  induction k with
  | nil => rfl
  | cons n d kk r _ ih => simp [preRecF, forestList, preRec, ih]

theorem postRecF_forestList (k : Forest) : postRecF k = (forestList k).flatMap postRec := by
  induction k with
  | nil => rfl
  | cons n d kk r _ ih => simp [postRecF, forestList, postRec, ih]

theorem preRec_kidsOf (t : Tree) : preRec t = t :: (kidsOf t).flatMap preRec := by
  rw [preRec, preRecF_forestList, kidsOf]

theorem postRec_kidsOf (t : Tree) : postRec t = (kidsOf t).flatMap postRec ++ [t] := by
  rw [postRec, postRecF_forestList, kidsOf]

theorem size_of_mem_forestList (k : Forest) (c : Tree) (hc : c ∈ forestList k) : c.size ≤ k.size := by
  induction k with
  | nil => simp [forestList] at hc
  | cons n d kk r _ ih =>
    simp only [forestList, List.mem_cons] at hc
    rcases hc with rfl | hc
    · simp [Tree.size, Forest.size]
    · have := ih hc; simp only [Forest.size]; omega

theorem size_of_mem_kidsOf (t c : Tree) (hc : c ∈ kidsOf t) : c.size < t.size := by
  have := size_of_mem_forestList t.kids c hc
  simp only [Tree.size] at this ⊢; omega

theorem preRecF_perm_postRecF (k : Forest) : (preRecF k).Perm (postRecF k) := by
  induction k with
  | nil => exact .refl _
  | cons n d kk r ih1 ih2 =>
    simp only [preRecF, postRecF]
    exact ((ih1.append ih2).cons _).trans List.perm_middle.symm

theorem preRec_perm_postRec (t : Tree) : (preRec t).Perm (postRec t) := by
  rw [preRec, postRec]
  exact ((preRecF_perm_postRecF t.kids).cons t).trans
    (List.perm_append_singleton t (postRecF t.kids)).symm

end Bio.Newick

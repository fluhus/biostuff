/-
  `(*reader).read` of formats/newick/newick.go (`Bio.Generated.GoSrc.newick_read`) against the
  hand-written parser `Newick.readLoop`.  Part 2: the loop.

  * `NwkRd.goStep` / `NwkRd.stepTok` (one definition per token: `goOpen`, `goClose`, …) / `NwkRd.fin`:
    the translated loop body and what follows the loop, verbatim (`newick_read_unfold`).
  * `NwkRd.Sim`: the simulation relation between the model state `(cur, stack)` — a stack of PARTIAL
    trees, a finished child being closed into its parent at `)` / `,` — and the Go state
    `(heap, stack of pointers)` — a child's pointer being appended to its parent's `Children` when the
    child is created.
  * `sim_open` … `sim_other`, `nwk_tok_sim`: one Go loop iteration after a token = the model's
    `Newick.step` on that token (`NwkRd.StepSim`).
  * `nwk_read_loop`: the loop; `newick_read_post`: the whole function.
  * `NwkRd.goDecodeLoop` / `NwkRd.goNewickDecode`: `Reader` of newick.go; `nwk_decode_loop`.

  Guarded by the translator's `<f>_Found` flags as in `Bio.Lemmas.GoSrc`.
-/
import Bio.Lemmas.GoSrcNewickRead1
import Bio.Lemmas.GoSrcNewickTok
import Bio.Lemmas.GoSrcNewick
import Bio.Lemmas.Newick
set_option linter.unusedVariables false
namespace Bio.GoSrcLemmas
open Bio Bio.GoRt Bio.Generated Bio.Newick

namespace NwkRd

abbrev Res := Int × GoErr × Heap × ByteRd × Bytes
abbrev St := Option Res × ByteRd × Bytes × Heap × List Int × Int × Bool × Bool
abbrev PF := Bytes → Int → Newick.Dist × GoErr

/-- `return nil, err` inside the loop -/
def ret (heap : Heap) (r : ByteRd) (rb : Bytes) (stack : List Int) (state : Int) (ra d : Bool)
    (err : GoErr) : Option (ForInStep St) :=
  some (.done (some (-1, err, heap, r, rb), r, rb, heap, stack, state, ra, d))

/-! The loop body after `token, err := r.nextToken()`, one definition per branch of the `if token == …`
chain, each verbatim (`r`, `rb` = the receiver's fields after the call). -/

/-- `(`: allocate a node, append its pointer to the current node's `Children`, push it -/
def goOpen (heap : Heap) (stack : List Int) (state : Int) (d : Bool) (r : ByteRd) (rb : Bytes) :
    Option (ForInStep St) :=
  if (state != 0) = true then ret heap r rb stack state true d GoErr.other
  else (idx stack (len stack - 1)).bind fun cur =>
    (idx (heap ++ [zero]) cur).bind fun c1 =>
    (idx (heap ++ [zero]) cur).bind fun c2 =>
    (setIdx (heap ++ [zero]) cur
        (c2.1, c2.2.1, c1.2.2 ++ [len (heap ++ [zero]) - 1])).bind fun heap' =>
      some (.yield (none, r, rb, heap', stack ++ [len (heap ++ [zero]) - 1], state, true, d))

/-- `)`: pop the stack (the closed node's pointer is already in its parent's `Children`) -/
def goClose (heap : Heap) (stack : List Int) (state : Int) (d : Bool) (r : ByteRd) (rb : Bytes) :
    Option (ForInStep St) :=
  if (state == 2) = true then ret heap r rb stack state true d GoErr.other
  else if (len stack == 1) = true then ret heap r rb stack state true d GoErr.other
  else (slice stack 0 (len stack - 1)).bind fun stack' =>
    some (.yield (none, r, rb, heap, stack', 4, true, d))

/-- `,`: allocate the next sibling, append it to the parent (`stack[len-2]`), replace the stack top -/
def goComma (heap : Heap) (stack : List Int) (state : Int) (d : Bool) (r : ByteRd) (rb : Bytes) :
    Option (ForInStep St) :=
  if (state == 2) = true then ret heap r rb stack state true d GoErr.other
  else if (len stack == 1) = true then ret heap r rb stack state true d GoErr.other
  else (idx stack (len stack - 2)).bind fun parent =>
    (idx (heap ++ [zero]) parent).bind fun c1 =>
    (idx (heap ++ [zero]) parent).bind fun c2 =>
    (setIdx (heap ++ [zero]) parent
        (c2.1, c2.2.1, c1.2.2 ++ [len (heap ++ [zero]) - 1])).bind fun heap' =>
    (setIdx stack (len stack - 1) (len (heap ++ [zero]) - 1)).bind fun stack' =>
      some (.yield (none, r, rb, heap', stack', 0, true, d))

/-- `:`: only the state changes -/
def goColon (heap : Heap) (stack : List Int) (state : Int) (d : Bool) (r : ByteRd) (rb : Bytes) :
    Option (ForInStep St) :=
  if (state == 2 || state == 3) = true then ret heap r rb stack state true d GoErr.other
  else some (.yield (none, r, rb, heap, stack, 2, true, d))

/-- `;`: the tree is complete if only the root is open; `break loop` -/
def goSemi (heap : Heap) (stack : List Int) (state : Int) (d : Bool) (r : ByteRd) (rb : Bytes) :
    Option (ForInStep St) :=
  if (len stack != 1) = true then ret heap r rb stack state true d GoErr.other
  else if (state == 2) = true then ret heap r rb stack state true d GoErr.other
  else some (.done (none, r, rb, heap, stack, state, true, true))

/-- a distance token -/
def goDist (pf : PF) (heap : Heap) (stack : List Int) (state : Int) (d : Bool)
    (token : Bytes) (r : ByteRd) (rb : Bytes) (cur_1 : Int) : Option (ForInStep St) :=
  if ((pf token 64).2 != GoErr.nil) = true then ret heap r rb stack state true d (pf token 64).2
  else (idx heap cur_1).bind fun tmp_16 =>
    (setIdx heap cur_1 (tmp_16.1, (pf token 64).1, tmp_16.2.2)).bind fun heap' =>
      some (.yield (none, r, rb, heap', stack, 3, true, d))

/-- any other token: a name or a distance; `(none : Option Unit).bind` is Go's
`panic("unexpected state")` (unreachable: the state is then 2) -/
def goOther (pf : PF) (heap : Heap) (stack : List Int) (state : Int) (d : Bool)
    (token : Bytes) (r : ByteRd) (rb : Bytes) : Option (ForInStep St) :=
  if (state == 1 || state == 3) = true then ret heap r rb stack state true d GoErr.other
  else (idx stack (len stack - 1)).bind fun cur_1 =>
    if (state == 0 || state == 4) = true then
      (GoSrc.nameFromText token).bind fun nm =>
      (idx heap cur_1).bind fun tmp_12 =>
      (setIdx heap cur_1 (nm, tmp_12.2.1, tmp_12.2.2)).bind fun heap' =>
        some (.yield (none, r, rb, heap', stack, 1, true, d))
    else if (state != 2) = true then
      (none : Option Unit).bind fun _ => goDist pf heap stack state d token r rb cur_1
    else goDist pf heap stack state d token r rb cur_1

/-- the loop body after `token, err := r.nextToken()` -/
def stepTok (pf : PF) (heap : Heap) (stack : List Int) (state : Int) (ra d : Bool)
    (tk : Bytes × GoErr × ByteRd × Bytes) : Option (ForInStep St) :=
  if (tk.2.1 != GoErr.nil) = true then
    if (tk.2.1 == GoErr.eof && ra) = true then ret heap tk.2.2.1 tk.2.2.2 stack state ra d GoErr.other
    else ret heap tk.2.2.1 tk.2.2.2 stack state ra d tk.2.1
  else if (tk.1 == [40]) = true then goOpen heap stack state d tk.2.2.1 tk.2.2.2
  else if (tk.1 == [41]) = true then goClose heap stack state d tk.2.2.1 tk.2.2.2
  else if (tk.1 == [44]) = true then goComma heap stack state d tk.2.2.1 tk.2.2.2
  else if (tk.1 == [58]) = true then goColon heap stack state d tk.2.2.1 tk.2.2.2
  else if (tk.1 == [59]) = true then goSemi heap stack state d tk.2.2.1 tk.2.2.2
  else goOther pf heap stack state d tk.1 tk.2.2.1 tk.2.2.2

/-- one iteration of the translated loop (the body of `GoSrc.newick_read`) -/
def goStep (pf : PF) (fuel : Nat) (s : St) : Option (ForInStep St) :=
  (GoSrc.newick_nextToken fuel s.2.1 s.2.2.1).bind
    (stepTok pf s.2.2.2.1 s.2.2.2.2.1 s.2.2.2.2.2.1 s.2.2.2.2.2.2.1 s.2.2.2.2.2.2.2)

/-- after the loop: a pending `return`, or `return stack[0], nil` after `break loop` -/
def fin (s : St) : Option Res :=
  match s.1 with
  | some r => some r
  | none =>
    if s.2.2.2.2.2.2.2 = true then
      (idx s.2.2.2.2.1 0).bind fun p => some (p, GoErr.nil, s.2.2.2.1, s.2.1, s.2.2.1)
    else none


/-! ## The simulation relation -/

/-- parser states as the translated code numbers them (`iota`) -/
def stI : PState → Int
  | .beforeNode => 0
  | .afterName => 1
  | .afterColon => 2
  | .afterDist => 3
  | .afterChildren => 4

/-- what is assumed about the parameter standing for `strconv.ParseFloat(·, 64)`: where the model's
distance parser `pd` accepts, no error and the model's value; where it rejects, an error -/
def PFModel (pf : PF) (pd : Bytes → Option Dist) : Prop :=
  ∀ s, (∀ d, pd s = some d → pf s 64 = (d, GoErr.nil)) ∧ (pd s = none → (pf s 64).2 ≠ GoErr.nil)

/-- the distance parser a given `ParseFloat` induces (so that `PFModel pf (pdOf pf)` always holds) -/
def pdOf (pf : PF) : Bytes → Option Dist :=
  fun s => if (pf s 64).2 = GoErr.nil then some (pf s 64).1 else none

/-- Model state `(cur, stack)` (current partial tree, its unfinished ancestors nearest first) against
Go state `(heap, gstack)`: the Go stack is the model's reversed (root first, current node `p` last);
`p`'s cell represents `cur`; each ancestor's cell holds its partial tree's name/distance, and its
`Children` are its closed children followed by the next stack entry (`Anc`); the root is the first
cell allocated by this call (`len h0`); `heap` extends the initial heap `h0`. -/
def Sim (h0 heap : Heap) (gstack : List Int) (cur : Tree) (stack : List Tree) : Prop :=
  ∃ p ps, gstack = ps.reverse ++ [p] ∧ RepT heap p cur ∧ Anc heap (len h0) p ps stack ∧ Ext h0 heap

/-- what `read()` returns (`r`), against the model's outcome: `heapIn`, `ra` = the heap and `readAny`
at the point considered (the model reports `.eof` only before any token) -/
def Post (pf : PF) (pd : Bytes → Option Dist) (h0 : Heap) (e : Ending) (heapIn : Heap) (ra : Bool) :
    ReadRes → Option Res → Prop
  | .tree t rest, r => ∃ heap' last' rb',
      r = some (len h0, GoErr.nil, heap', ⟨last', rest, e⟩, rb') ∧ RepT heap' (len h0) t ∧ Ext h0 heap'
  | .eof, r => ra = false ∧ r = some (-1, GoErr.eof, heapIn, ⟨none, [], e⟩, [])
  | .err, r => ∃ err heap' r' rb', r = some (-1, err, heap', r', rb') ∧ err ≠ GoErr.nil ∧
      (err = GoErr.other ∨ ∃ s, pd s = none ∧ err = (pf s 64).2) ∧ Ext h0 heap' ∧ r'.ending = e

/-- the iteration ends the loop, with the model's outcome `R` -/
def Done (pf : PF) (pd : Bytes → Option Dist) (h0 : Heap) (e : Ending) (heapIn : Heap) (ra : Bool)
    (o : Option (ForInStep St)) (R : ReadRes) : Prop :=
  ∃ s', o = some (.done s') ∧ Post pf pd h0 e heapIn ra R (fin s')

/-- the iteration `o`, made after a token that left the reader `r` and the buffer `rb`, does what the
model's step outcome says: it ends the loop with the model's result, or it continues in a state that
simulates the model's next state -/
def StepSim (pf : PF) (pd : Bytes → Option Dist) (h0 : Heap) (e : Ending) (heap : Heap) (ra : Bool)
    (r : ByteRd) (rb : Bytes) (o : Option (ForInStep St)) : Newick.Step → Prop
  | .cont c s st' => ∃ heap' gstack',
      o = some (.yield (none, r, rb, heap', gstack', stI st', true, false)) ∧ Sim h0 heap' gstack' c s
  | sr => Done pf pd h0 e heap ra o (afterStep pd e r.rest sr)

/-! ## `Reader` -/

/-- `Reader` of newick.go on one receiver: `read()` called again and again (at most `calls` times, each
with `fuel` loop iterations; heap, reader and buffer carried from call to call), stopping silently at
`io.EOF`; any other error is yielded and ends the stream; a tree is read back from the heap as it is
when yielded (`none` = a call panicked / ran out of fuel, or `calls` calls did not reach the end) -/
def goDecodeLoop (pf : PF) (fuel : Nat) : Nat → Heap → ByteRd → Bytes → Option (List (Item Tree))
  | 0, _, _, _ => none
  | calls + 1, heap, r, rb =>
    match GoSrc.newick_read pf fuel heap r rb with
    | none => none
    | some (p, err, heap', r', rb') =>
      if err = GoErr.eof then some []
      else if err ≠ GoErr.nil then some [Item.err]
      else (goDecodeLoop pf fuel calls heap' r' rb').map
        fun items => Item.ok (absT heap' heap'.length p) :: items

/-- … on a fresh reader (`newReader`) over the input `x` of a source ending with `e`, an empty heap -/
def goNewickDecode (pf : PF) (fuel : Nat) (x : Bytes) (e : Ending) : Option (List (Item Tree)) :=
  goDecodeLoop pf fuel fuel [] ⟨none, x, e⟩ []

end NwkRd
open NwkRd

theorem pfModel_pdOf (pf : PF) : PFModel pf (pdOf pf) := by
  intro s
  unfold pdOf
  constructor
  · intro d h
    split at h
    · rename_i h1
      injection h with h
      subst h
      exact Prod.ext rfl h1
    · cases h
  · intro h
    split at h
    · cases h
    · assumption

/-- the translated function is the loop `goStep` followed by `fin` -/
theorem newick_read_unfold (hF : GoSrc.newick_read_Found = true) (pf : PF) (fuel : Nat) (heap : Heap)
    (r : ByteRd) (rb : Bytes) :
    GoSrc.newick_read pf fuel heap r rb =
      (forIn (List.range fuel)
        ((none, r, rb, heap ++ [zero], [len (heap ++ [zero]) - 1], 0, false, false) : St)
        (fun _ s => goStep pf fuel s)).bind fin := by
  first
  | exact absurd hF (by decide)
  | (unfold GoSrc.newick_read
     simp only [Option.pure_def, Option.bind_eq_bind]
     congr 1
     funext s
     rcases s with ⟨_ | r, rr, buf, hp, stk, st, ra, _ | _⟩ <;> rfl)

/-! ## Parser states as the code numbers them -/

theorem stI_0 (st : PState) : (stI st == 0) = (st == .beforeNode) := by cases st <;> rfl
theorem stI_1 (st : PState) : (stI st == 1) = (st == .afterName) := by cases st <;> rfl
theorem stI_2 (st : PState) : (stI st == 2) = (st == .afterColon) := by cases st <;> rfl
theorem stI_3 (st : PState) : (stI st == 3) = (st == .afterDist) := by cases st <;> rfl
theorem stI_4 (st : PState) : (stI st == 4) = (st == .afterChildren) := by cases st <;> rfl

/-! ## The Go stack: the model's stack reversed, the current node last -/

section tokens
variable {pf : PF} {pd : Bytes → Option Dist} {h0 heap : Heap} {e : Ending} {gstack : List Int}
  {cur : Tree} {stack : List Tree}

/-- with no open ancestor the Go stack is the root alone -/
theorem NwkRd.Sim.nil (h : Sim h0 heap gstack cur []) :
    gstack = [len h0] ∧ RepT heap (len h0) cur ∧ Ext h0 heap := by
  obtain ⟨p, ps, hg, hrep, hanc, hext⟩ := h
  cases ps with
  | cons _ _ => exact hanc.elim
  | nil => cases (show p = len h0 from hanc); exact ⟨hg, hrep, hext⟩

/-- with an open ancestor the Go stack ends with the parent and the current node -/
theorem NwkRd.Sim.cons {t : Tree} {stack' : List Tree} (h : Sim h0 heap gstack cur (t :: stack')) :
    ∃ p p' ps', gstack = ps'.reverse ++ [p'] ++ [p] ∧ RepT heap p cur ∧
      Anc heap (len h0) p (p' :: ps') (t :: stack') ∧ Ext h0 heap := by
  obtain ⟨p, ps, hg, hrep, hanc, hext⟩ := h
  cases ps with
  | nil => exact hanc.elim
  | cons p' ps' => exact ⟨p, p', ps', by simp [hg], hrep, hanc, hext⟩

theorem NwkRd.Sim.ext (h : Sim h0 heap gstack cur stack) : Ext h0 heap := h.choose_spec.choose_spec.2.2.2

theorem nwk_done_err {heapIn : Heap} {r : ByteRd} (rb : Bytes) (gstack : List Int) (state : Int)
    (ra ra' : Bool) (hext : Ext h0 heap) (hr : r.ending = e) :
    Done pf pd h0 e heapIn ra (ret heap r rb gstack state ra' false GoErr.other) .err :=
  ⟨_, rfl, GoErr.other, heap, r, rb, rfl, by decide, Or.inl rfl, hext, hr⟩

/-- a new child `len heap` of the node `p` (for `(`, and after closing at `,`) -/
theorem nwk_alloc {p : Int} {ps : List Int} {ks : List Int}
    (hc : idx heap p = some (cur.name, cur.dist, ks))
    (hk : RepF heap (p + 1) (len heap) ks cur.kids) (ha : Anc heap (len h0) p ps stack)
    (hext : Ext h0 heap) :
    idx (heap ++ [zero]) p = some (cur.name, cur.dist, ks) ∧ len (heap ++ [zero]) - 1 = len heap ∧
    (∀ v, setIdx (heap ++ [zero]) p v = some (upd (heap ++ [zero]) p v)) ∧
    Sim h0 (upd (heap ++ [zero]) p (cur.name, cur.dist, ks ++ [len heap]))
      (ps.reverse ++ [p] ++ [len heap]) emptyNode (cur :: stack) := by
  have hb := idx_some hc
  have hs := nwk_sim_open hc hk ha
  refine ⟨idx_append _ hc, by rw [len_append_one]; omega,
    fun v => nwk_setIdx_upd _ _ _ hb.1 (by rw [len_append_one]; omega),
    len heap, p :: ps, by simp, hs.1, hs.2, Ext.upd (Ext.append hext [zero]) p _ (ha.root_le)⟩

theorem sim_open (hsim : Sim h0 heap gstack cur stack) (st : PState) (ra : Bool)
    (last : Option UInt8) (rest rb : Bytes) :
    StepSim pf pd h0 e heap ra ⟨last, rest, e⟩ rb
      (goOpen heap gstack (stI st) false ⟨last, rest, e⟩ rb) (step pd [40] cur stack st) := by
  simp only [goOpen, step, bne, stI_0]
  by_cases hst : (!(st == PState.beforeNode)) = true
  · rw [if_pos hst, if_pos hst]
    exact nwk_done_err rb gstack _ ra true hsim.ext rfl
  · obtain ⟨p, ps, rfl, ⟨ks, hc, hk⟩, hanc, hext⟩ := hsim
    obtain ⟨e2, e3, e4, hs⟩ := nwk_alloc hc hk hanc hext
    rw [if_neg hst, if_neg hst]
    simp only [len_snoc_sub, idx_snoc_last, e2, e3, e4, Option.bind_some]
    have : st = .beforeNode := by simpa using hst
    exact ⟨_, _, this ▸ rfl, hs⟩

theorem sim_close (hsim : Sim h0 heap gstack cur stack) (st : PState) (ra : Bool)
    (last : Option UInt8) (rest rb : Bytes) :
    StepSim pf pd h0 e heap ra ⟨last, rest, e⟩ rb
      (goClose heap gstack (stI st) false ⟨last, rest, e⟩ rb) (step pd [41] cur stack st) := by
  simp only [goClose, step, stI_2]
  by_cases hst : (st == PState.afterColon) = true
  · rw [if_pos hst, if_pos hst]
    exact nwk_done_err rb gstack _ ra true hsim.ext rfl
  · rw [if_neg hst, if_neg hst]
    cases stack with
    | nil =>
      obtain ⟨rfl, _, hext⟩ := hsim.nil
      exact nwk_done_err rb _ _ ra true hext rfl
    | cons t stack' =>
      obtain ⟨p, p', ps', rfl, hrep, hanc, hext⟩ := hsim.cons
      obtain ⟨ks', hc', hk', ha'⟩ := nwk_sim_close hrep hanc
      simp only [len_snoc2_ne_one, len_snoc_sub, slice_snoc, Option.bind_some, Bool.false_eq_true, if_false]
      exact ⟨_, _, rfl, p', ps', rfl, ⟨ks', hc', hk'⟩, ha', hext⟩

/-- `,` : the model closes the current node and opens its next sibling -/
theorem sim_comma (hsim : Sim h0 heap gstack cur stack) (st : PState) (ra : Bool)
    (last : Option UInt8) (rest rb : Bytes) :
    StepSim pf pd h0 e heap ra ⟨last, rest, e⟩ rb
      (goComma heap gstack (stI st) false ⟨last, rest, e⟩ rb) (step pd [44] cur stack st) := by
  simp only [goComma, step, stI_2]
  by_cases hst : (st == PState.afterColon) = true
  · rw [if_pos hst, if_pos hst]
    exact nwk_done_err rb gstack _ ra true hsim.ext rfl
  · rw [if_neg hst, if_neg hst]
    cases stack with
    | nil =>
      obtain ⟨rfl, _, hext⟩ := hsim.nil
      exact nwk_done_err rb _ _ ra true hext rfl
    | cons t stack' =>
      obtain ⟨p, p', ps', rfl, hrep, hanc, hext⟩ := hsim.cons
      obtain ⟨ks', hc', hk', ha'⟩ := nwk_sim_close hrep hanc
      obtain ⟨e2, e3, e4, hs⟩ := nwk_alloc hc' hk' ha' hext
      simp only [len_snoc2_ne_one, len_snoc2_sub, idx_snoc2, len_snoc_sub, setIdx_snoc_last, e2, e3, e4,
        Option.bind_some,
        Bool.false_eq_true, if_false]
      exact ⟨_, _, rfl, hs⟩

theorem sim_colon (hsim : Sim h0 heap gstack cur stack) (st : PState) (ra : Bool)
    (last : Option UInt8) (rest rb : Bytes) :
    StepSim pf pd h0 e heap ra ⟨last, rest, e⟩ rb
      (goColon heap gstack (stI st) false ⟨last, rest, e⟩ rb) (step pd [58] cur stack st) := by
  simp only [goColon, step, stI_2, stI_3]
  by_cases hst : (st == PState.afterColon || st == PState.afterDist) = true
  · rw [if_pos hst, if_pos hst]
    exact nwk_done_err rb gstack _ ra true hsim.ext rfl
  · rw [if_neg hst, if_neg hst]
    exact ⟨_, _, rfl, hsim⟩

theorem sim_semi (hsim : Sim h0 heap gstack cur stack) (st : PState) (ra : Bool)
    (last : Option UInt8) (rest rb : Bytes) :
    StepSim pf pd h0 e heap ra ⟨last, rest, e⟩ rb
      (goSemi heap gstack (stI st) false ⟨last, rest, e⟩ rb) (step pd [59] cur stack st) := by
  simp only [goSemi, step, stI_2, bne]
  cases stack with
  | cons t stack' =>
    obtain ⟨p, p', ps', rfl, _, _, hext⟩ := hsim.cons
    simp only [len_snoc2_ne_one, Bool.not_false, if_true, List.isEmpty_cons]
    exact nwk_done_err rb _ _ ra true hext rfl
  | nil =>
    obtain ⟨rfl, hrep, hext⟩ := hsim.nil
    by_cases hst : (st == PState.afterColon) = true
    · simp only [hst, if_true]
      exact nwk_done_err rb _ _ ra true hext rfl
    · simp only [hst]
      exact ⟨_, rfl, heap, last, rb, rfl, hrep, hext⟩

/-- any other token: a name, or a distance -/
theorem sim_other (hN : GoSrc.nameFromText_Found = true) (hQ : GoSrc.quoted_Found = true)
    (hpf : PFModel pf pd) (hsim : Sim h0 heap gstack cur stack) (st : PState) (ra : Bool)
    (last : Option UInt8) (rest rb : Bytes) (t : Bytes) (ht : NotStructTok t) :
    StepSim pf pd h0 e heap ra ⟨last, rest, e⟩ rb
      (goOther pf heap gstack (stI st) false t ⟨last, rest, e⟩ rb) (step pd t cur stack st) := by
  rw [step_other pd ht]
  simp only [goOther, stI_0, stI_1, stI_2, stI_3, stI_4, bne]
  by_cases h1 : (st == PState.afterName || st == PState.afterDist) = true
  · rw [if_pos h1, if_pos h1]
    exact nwk_done_err rb gstack _ ra true hsim.ext rfl
  · obtain ⟨p, ps, rfl, ⟨ks, hc, hk⟩, hanc, hext⟩ := hsim
    have hb := idx_some hc
    have e4 : ∀ v, setIdx heap p v = some (upd heap p v) := fun v => nwk_setIdx_upd _ _ _ hb.1 hb.2
    rw [if_neg h1, if_neg h1]
    simp only [len_snoc_sub, idx_snoc_last, Option.bind_some]
    by_cases h2 : (st == PState.beforeNode || st == PState.afterChildren) = true
    · have hs := nwk_sim_set (Newick.nameFromText t) cur.dist hc hk hanc
      rw [if_pos h2, if_pos h2]
      simp only [nameFromText_eq hN hQ, hc, e4, Option.bind_some]
      exact ⟨_, _, rfl, p, ps, rfl, ⟨ks, hs.1, hs.2.1⟩, hs.2.2, Ext.upd hext p _ (hanc.root_le)⟩
    · have h3 : st = .afterColon := by cases st <;> simp_all
      subst h3
      rw [if_neg h2, if_neg h2]
      simp only [BEq.rfl, Bool.not_true, Bool.false_eq_true, if_false, goDist]
      cases hp : pd t with
      | none =>
        have hne := (hpf t).2 hp
        rw [if_pos (by simpa using hne)]
        exact ⟨_, rfl, (pf t 64).2, heap, ⟨last, rest, e⟩, rb, rfl, hne, Or.inr ⟨t, hp, rfl⟩, hext, rfl⟩
      | some d =>
        have hs := nwk_sim_set cur.name d hc hk hanc
        simp only [(hpf t).1 d hp, hc, e4, Option.bind_some, bne_self_eq_false, Bool.false_eq_true,
          if_false]
        exact ⟨_, _, rfl, p, ps, rfl, ⟨ks, hs.1, hs.2.1⟩, hs.2.2, Ext.upd hext p _ (hanc.root_le)⟩

end tokens

/-! ## One iteration = one unfolding of `readLoop` -/

section loop
variable {pf : PF} {pd : Bytes → Option Dist} {h0 : Heap} {e : Ending}

/-- the loop body after a token, against the model's `step` on that token -/
theorem nwk_tok_sim (hN : GoSrc.nameFromText_Found = true) (hQ : GoSrc.quoted_Found = true)
    (hpf : PFModel pf pd) {heap : Heap} {gstack : List Int} {cur : Tree} {stack : List Tree}
    (hsim : Sim h0 heap gstack cur stack) (st : PState) (ra : Bool)
    (last : Option UInt8) (rest rb : Bytes) (t : Bytes) :
    StepSim pf pd h0 e heap ra ⟨last, rest, e⟩ rb
      (stepTok pf heap gstack (stI st) ra false (t, GoErr.nil, ⟨last, rest, e⟩, rb))
      (step pd t cur stack st) := by
  by_cases h40 : t = [40]
  · subst h40; exact sim_open hsim st ra last rest rb
  by_cases h41 : t = [41]
  · subst h41; exact sim_close hsim st ra last rest rb
  by_cases h44 : t = [44]
  · subst h44; exact sim_comma hsim st ra last rest rb
  by_cases h58 : t = [58]
  · subst h58; exact sim_colon hsim st ra last rest rb
  by_cases h59 : t = [59]
  · subst h59; exact sim_semi hsim st ra last rest rb
  have := sim_other (e := e) hN hQ hpf hsim st ra last rest rb t ⟨h40, h41, h44, h58, h59⟩
  simpa only [stepTok, bne_self_eq_false, Bool.false_eq_true, if_false, beq_iff_eq, h40, h41, h44, h58,
    h59] using this

/-- One iteration of the translated loop from a state that simulates the model's: out of fuel in the
tokenizer; or the loop ends with the model's outcome; or the model's tokenizer found a token and the
loop continues in a state that simulates the model's next state. -/
theorem nwk_step_sim (hT : GoSrc.newick_nextToken_Found = true) (hN : GoSrc.nameFromText_Found = true)
    (hQ : GoSrc.quoted_Found = true) (hpf : PFModel pf pd) (fuel : Nat)
    {heap : Heap} {gstack : List Int} {cur : Tree} {stack : List Tree}
    (hsim : Sim h0 heap gstack cur stack) (st : PState) (ra : Bool) (last : Option UInt8) (x rb : Bytes) :
    (fuel < NwkTok.sCost x ∧
      goStep pf fuel (none, ⟨last, x, e⟩, rb, heap, gstack, stI st, ra, false) = none) ∨
    Done pf pd h0 e heap ra (goStep pf fuel (none, ⟨last, x, e⟩, rb, heap, gstack, stI st, ra, false))
      (readLoop pd e x cur stack st ra) ∨
    ∃ t rest c s st' heap' gstack' last' rb', nextToken e x = .tok t rest ∧
      step pd t cur stack st = .cont c s st' ∧
      goStep pf fuel (none, ⟨last, x, e⟩, rb, heap, gstack, stI st, ra, false)
        = some (.yield (none, ⟨last', rest, e⟩, rb', heap', gstack', stI st', true, false)) ∧
      Sim h0 heap' gstack' c s := by
  by_cases hf : NwkTok.sCost x ≤ fuel
  · right
    have hm := newick_nextToken_model hT x e last rb fuel hf
    rw [readLoop_cases]
    cases hn : nextToken e x with
    | eof =>
      left
      simp only [hn] at hm
      simp only [goStep, hm, Option.bind_some]
      cases ra with
      | false => exact ⟨_, rfl, rfl, rfl⟩
      | true => exact nwk_done_err [] gstack _ true true hsim.ext rfl
    | err =>
      left
      simp only [hn] at hm
      obtain ⟨l', r', rb', hm⟩ := hm
      simp only [goStep, hm, Option.bind_some]
      exact nwk_done_err rb' gstack _ ra ra hsim.ext rfl
    | tok t rest =>
      simp only [hn] at hm
      obtain ⟨l', rb', hm⟩ := hm
      simp only [goStep, hm, Option.bind_some]
      have := nwk_tok_sim (e := e) hN hQ hpf hsim st ra l' rest rb' t
      cases hs : step pd t cur stack st with
      | err => rw [hs] at this; exact Or.inl this
      | done u => rw [hs] at this; exact Or.inl this
      | cont c s st' =>
        rw [hs] at this
        obtain ⟨heap', gstack', h1, h2⟩ := this
        exact Or.inr ⟨t, rest, c, s, st', heap', gstack', l', rb', rfl, hs, h1, h2⟩
  · left
    refine ⟨by omega, ?_⟩
    simp only [goStep]
    rw [newick_nextToken_short hT fuel last x e rb (by omega)]
    rfl

theorem NwkRd.Post.weaken {heap heap' : Heap} {ra : Bool} {R : ReadRes} {r : Option Res}
    (h : Post pf pd h0 e heap' true R r) : Post pf pd h0 e heap ra R r := by
  cases R with
  | tree t rest => exact h
  | err => exact h
  | eof => exact absurd h.1 (by decide)

/-- The translated loop from a state that simulates the model's: whatever the fuel, it reports `none`
(no claim) or the model's outcome; and with `x.length + 1` iterations (and as much fuel for the
tokenizer) it does not report `none`.  (`body` is a parameter equal to `goStep` so that the translated
lambda, a large term, is matched once, in `newick_read_post`, and not carried through the induction.) -/
theorem nwk_read_loop (hT : GoSrc.newick_nextToken_Found = true) (hN : GoSrc.nameFromText_Found = true)
    (hQ : GoSrc.quoted_Found = true) (hpf : PFModel pf pd) (fuel : Nat)
    (body : Nat → St → Option (ForInStep St)) (hbody : ∀ k s, body k s = goStep pf fuel s) :
    ∀ (l : List Nat) (x : Bytes) (last : Option UInt8) (rb : Bytes) (heap : Heap) (gstack : List Int)
      (cur : Tree) (stack : List Tree) (st : PState) (ra : Bool), Sim h0 heap gstack cur stack →
      (((forIn l ((none, ⟨last, x, e⟩, rb, heap, gstack, stI st, ra, false) : St) body).bind fin = none ∨
        Post pf pd h0 e heap ra (readLoop pd e x cur stack st ra)
          ((forIn l ((none, ⟨last, x, e⟩, rb, heap, gstack, stI st, ra, false) : St) body).bind fin)) ∧
       (x.length + 1 ≤ l.length → x.length + 1 ≤ fuel →
        Post pf pd h0 e heap ra (readLoop pd e x cur stack st ra)
          ((forIn l ((none, ⟨last, x, e⟩, rb, heap, gstack, stI st, ra, false) : St) body).bind fin))) := by
  intro l
  induction l with
  | nil =>
    intro x last rb heap gstack cur stack st ra hsim
    exact ⟨Or.inl rfl, fun h _ => by simp at h⟩
  | cons k l ih =>
    intro x last rb heap gstack cur stack st ra hsim
    simp only [List.forIn_cons, hbody]
    rcases nwk_step_sim hT hN hQ hpf fuel hsim st ra last x rb with ⟨hf, hs⟩ | ⟨s', hs, hp⟩ |
      ⟨t, rest, c, s, st', heap', gstack', last', rb', hn, hstep, hs, hsim'⟩
    · rw [hs]
      refine ⟨Or.inl rfl, fun _ h2 => ?_⟩
      have := sCost_le x
      omega
    · rw [hs]
      exact ⟨Or.inr hp, fun _ _ => hp⟩
    · rw [hs, readLoop_tok pd hn, hstep]
      have hlt := nextToken_lt e x t rest hn
      have := ih rest last' rb' heap' gstack' c s st' true hsim'
      simp only [List.length_cons]
      refine ⟨?_, fun h1 h2 => Post.weaken (this.2 (by omega) (by omega))⟩
      rcases this.1 with h | h
      · exact Or.inl h
      · exact Or.inr (Post.weaken h)

/-- The translated `read()` on the remaining input `x` (any heap, any reader history): whatever the
fuel, `none` (no claim) or the model's `readTree`; and not `none` with `x.length + 1` fuel. -/
theorem newick_read_post (hR : GoSrc.newick_read_Found = true)
    (hT : GoSrc.newick_nextToken_Found = true) (hN : GoSrc.nameFromText_Found = true)
    (hQ : GoSrc.quoted_Found = true) (hpf : PFModel pf pd) (x : Bytes) (last : Option UInt8)
    (rb : Bytes) (fuel : Nat) :
    (GoSrc.newick_read pf fuel h0 ⟨last, x, e⟩ rb = none ∨
      Post pf pd h0 e (h0 ++ [zero]) false (readTree pd e x)
        (GoSrc.newick_read pf fuel h0 ⟨last, x, e⟩ rb)) ∧
    (x.length + 1 ≤ fuel → Post pf pd h0 e (h0 ++ [zero]) false (readTree pd e x)
        (GoSrc.newick_read pf fuel h0 ⟨last, x, e⟩ rb)) := by
  rw [newick_read_unfold hR]
  have e3 : len (h0 ++ [zero]) - 1 = len h0 := by rw [len_append_one]; omega
  have hsim : Sim h0 (h0 ++ [zero]) [len (h0 ++ [zero]) - 1] emptyNode [] := by
    refine ⟨len h0, [], by simp [e3], ⟨[], ?_, ?_⟩, ?_, Ext.append (Ext.refl h0) _⟩
    · exact idx_snoc_last h0 zero
    · simp [emptyNode, RepF]
    · simp [Anc]
  have := nwk_read_loop (h0 := h0) (e := e) hT hN hQ hpf fuel (fun _ s => goStep pf fuel s)
    (fun _ _ => rfl) (List.range fuel) x last rb (h0 ++ [zero]) [len (h0 ++ [zero]) - 1] emptyNode []
    .beforeNode false hsim
  rw [List.length_range] at this
  exact ⟨this.1, fun h => this.2 h h⟩

/-- a represented tree is read back as itself -/
theorem NwkRd.RepT.absT {heap : Heap} {p : Int} {t : Tree} (h : RepT heap p t) :
    absT heap heap.length p = t := by
  have hb := idx_some h.choose_spec.1
  unfold len at hb
  exact absT_of_RepT h _ (by omega)

/-! ## `Reader` -/

/-- `Reader` stops silently at `io.EOF`.  If `ParseFloat` answered `io.EOF` on a token the model's `pd`
rejects, the Go stream would end where the model's has its error item: hence the hypothesis that this
does not happen, or that the model's stream has no error item at all. -/
theorem nwk_decode_loop (hR : GoSrc.newick_read_Found = true)
    (hT : GoSrc.newick_nextToken_Found = true) (hN : GoSrc.nameFromText_Found = true)
    (hQ : GoSrc.quoted_Found = true) (hpf : PFModel pf pd) (fuel : Nat) :
    ∀ (calls : Nat) (x : Bytes) (heap : Heap) (last : Option UInt8) (rb : Bytes),
      x.length + 1 ≤ calls → x.length + 1 ≤ fuel →
      ((∀ s, pd s = none → (pf s 64).2 ≠ GoErr.eof) ∨ Item.err ∉ decodeSrc pd e x) →
      goDecodeLoop pf fuel calls heap ⟨last, x, e⟩ rb = some (decodeSrc pd e x) := by
  intro calls
  induction calls with
  | zero => intro x heap last rb h; omega
  | succ n ih =>
    intro x heap last rb hc hf hH
    have hp := (newick_read_post (h0 := heap) (e := e) hR hT hN hQ hpf x last rb fuel).2 hf
    cases hr : readTree pd e x with
    | eof =>
      simp only [hr, Post] at hp
      simp [goDecodeLoop, hp.2, decodeSrc_eof _ _ _ hr]
    | err =>
      simp only [hr, Post] at hp
      obtain ⟨err, heap', r', rb', h1, h2, h3, _, _⟩ := hp
      rw [decodeSrc_err _ _ _ hr] at hH ⊢
      have h4 : err ≠ GoErr.eof := by
        rcases hH with hH | hH
        · rcases h3 with h3 | ⟨s, hs, h3⟩
          · subst h3; decide
          · subst h3; exact hH s hs
        · simp at hH
      simp [goDecodeLoop, h1, h2, h4]
    | tree t rest =>
      simp only [hr, Post] at hp
      obtain ⟨heap', last', rb', h1, h2, _⟩ := hp
      have hlt := readTree_rest_lt pd e x t rest hr
      rw [decodeSrc_tree _ _ _ _ _ hr] at hH ⊢
      have := ih rest heap' last' rb' (by omega) (by omega)
        (hH.imp id (fun h hh => h (List.mem_cons_of_mem _ hh)))
      simp [goDecodeLoop, h1, this, h2.absT]

end loop

end Bio.GoSrcLemmas

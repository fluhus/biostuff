/-
  The translated `(*BED).Write` of formats/bed/bed.go over the abstract failing writer `Bio.GoRt.Wr` (one
  `fmt.Fprintf` = one `wrWrite`): for `3 ≤ N ≤ 12` it performs the calls `bedWriteCalls b` in order,
  stopping at the first failing one, otherwise it returns an error and writes nothing; the calls
  concatenate to `Bed.encode b`; it never panics (the `[3]byte` array has its three elements).
  Guarded by the translator's `bed_Write_Found` flag as in `Bio.Lemmas.GoSrc`.
-/
import Bio.Lemmas.GoSrcRegions
import Bio.Lemmas.Bed
set_option linter.unusedVariables false
namespace Bio.GoSrcLemmas
open Bio Bio.GoRt Bio.Generated

/-! ## The calls -/

/-- the text of one element of a block list: `fmt.Fprintf(w, "%v", x)` for the first element,
`fmt.Fprintf(w, ",%v", x)` for the others -/
def listCall (i : Nat) (x : Int) : Bytes := if i > 0 then 44 :: itoa x else itoa x

/-- one call per list element, `k` = index of the first one -/
def listCalls : Nat → List Int → List Bytes
  | _, [] => []
  | k, x :: xs => listCall k x :: listCalls (k + 1) xs

/-- The exact sequence of `Write` calls `(*BED).Write` performs for `3 ≤ b.n ≤ 12`: the first three
fields together, one call per optional field with its leading TAB, the TAB alone before each block
list and one call per list element (with its leading comma from the second on), the newline. -/
def bedWriteCalls (b : Bed.Bed) : List Bytes :=
  [b.chrom ++ [9] ++ itoa b.chromStart ++ [9] ++ itoa b.chromEnd]
  ++ (if b.n > 3 then [[9] ++ b.name] else [])
  ++ (if b.n > 4 then [[9] ++ itoa b.score] else [])
  ++ (if b.n > 5 then [[9] ++ b.strand] else [])
  ++ (if b.n > 6 then [[9] ++ itoa b.thickStart] else [])
  ++ (if b.n > 7 then [[9] ++ itoa b.thickEnd] else [])
  ++ (if b.n > 8 then [[9] ++ itoa (b.rgb.1.toNat : Int) ++ [44] ++ itoa (b.rgb.2.1.toNat : Int) ++ [44]
        ++ itoa (b.rgb.2.2.toNat : Int)] else [])
  ++ (if b.n > 9 then [[9] ++ itoa b.blockCount] else [])
  ++ (if b.n > 10 then [9] :: listCalls 0 b.blockSizes else [])
  ++ (if b.n > 11 then [9] :: listCalls 0 b.blockStarts else [])
  ++ [[10]]

/-- the translated `Write` on the fields of a model record (`ItemRGB [3]byte` as the 3-element list) -/
abbrev goBedWrite (b : Bed.Bed) (w : Wr) : Option (GoErr × Wr) :=
  GoSrc.bed_Write b.n b.chrom b.chromStart b.chromEnd b.name b.score b.strand b.thickStart b.thickEnd
    [b.rgb.1, b.rgb.2.1, b.rgb.2.2] b.blockCount b.blockSizes b.blockStarts w

/-! ## The translated `Write` is the sequence of calls -/

theorem sprintf1_v (t : Bytes) : sprintf1 [37, 118] t = some t := by
  simp [sprintf1]

theorem sprintf1_comma_v (t : Bytes) : sprintf1 [44, 37, 118] t = some (44 :: t) := by
  simp [sprintf1]

theorem idx3_0 {α : Type} (a b c : α) : idx [a, b, c] 0 = some a := rfl
theorem idx3_1 {α : Type} (a b c : α) : idx [a, b, c] 1 = some b := rfl
theorem idx3_2 {α : Type} (a b c : α) : idx [a, b, c] 2 = some c := rfl

theorem listCalls_eq_map (l : List Int) (k : Nat) :
    listCalls k l = ((l.zipIdx k).map fun p => ((p.2 : Int), p.1)).map fun x => listCall x.1.toNat x.2 := by
  induction l generalizing k with
  | nil => rfl
  | cons x xs ih => simp [listCalls, ih]

/-- the body of a block-list loop (`txt := "%v"; if i > 0 { txt = ",%v" }; Fprintf(w, txt, x)`) is one
call of `listCall` -/
theorem listCall_body (x : Int × Int) (w : Wr) :
    (have call := fun txt => (sprintf1 txt (itoa x.2)).bind fun p =>
        match wrWrite w p with
        | (w', err) =>
          if (err != GoErr.nil) = true then pure (ForInStep.done (some (err, w'), w'))
          else pure (ForInStep.yield ((none : Option (GoErr × Wr)), w'))
      if x.1 > 0 then call [44, 37, 118] else call [37, 118])
      = some (wrStep (wrWrite w (listCall x.1.toNat x.2))) := by
  by_cases hi : x.1 > 0
  · have hi' : x.1.toNat > 0 := by omega
    simp only [hi, hi', if_true, sprintf1_comma_v, Option.bind_some, listCall, wrStep]
    by_cases hw : (wrWrite w (44 :: itoa x.2)).2 = GoErr.nil <;> simp [hw]
  · have hi' : ¬ x.1.toNat > 0 := by omega
    simp only [hi, hi', if_false, sprintf1_v, Option.bind_some, listCall, wrStep]
    by_cases hw : (wrWrite w (itoa x.2)).2 = GoErr.nil <;> simp [hw]

/-- `if c { Fprintf(w, "\t"); for i, x := range l { … } }`, then `K` -/
theorem Runs.guardList {K : WrK} {calls : List Bytes} (c : Prop) [Decidable c] (l : List Int)
    (body : Int × Int → WrSt → Option (ForInStep WrSt))
    (hbody : ∀ x o w, body x (o, w) = some (wrStep (wrWrite w (listCall x.1.toNat x.2)))) (h : Runs K calls) :
    Runs (fun w => if c then (match wrWrite w [9] with
      | (w', err) => if (err != GoErr.nil) = true then pure (err, w') else
        (forIn (enum l) ((none, w') : WrSt) body).bind fun s => orElse s K) else K w)
      ((if c then [9] :: listCalls 0 l else []) ++ calls) :=
  .when c (.cons [9] ((Runs.loop (enum l) _ body (fun x _ => hbody x) h).of_eq
    (by rw [listCalls_eq_map]; rfl))) h

/-- `(*BED).Write` with `3 ≤ N ≤ 12` performs `bedWriteCalls b` in order, stopping at the first error -/
theorem bed_Write_eq (hF : GoSrc.bed_Write_Found = true) (b : Bed.Bed) (w : Wr)
    (h3 : 3 ≤ b.n) (h12 : b.n ≤ 12) :
    goBedWrite b w = some ((wrWriteAll w (bedWriteCalls b)).2, (wrWriteAll w (bedWriteCalls b)).1) := by
  first
  | exact absurd hF (by decide)
  | (have hn : ¬ ((decide (b.n < 3) || decide (b.n > 12)) = true) := by simp; omega
     unfold goBedWrite GoSrc.bed_Write
     -- the continuations of the twelve statements, last statement first
     extract_lets +descend w' kNl _ _ kStarts kSizes kCount kRgb kThickEnd kThickStart kStrand kScore
     have hNl : Runs (kNl ()) _ := .cons _ .nil
     have hStarts : Runs (kStarts ()) _ := .guardList _ _ _ (fun x _ w => listCall_body x w) hNl
     have hSizes : Runs (kSizes ()) _ := .guardList _ _ _ (fun x _ w => listCall_body x w) hStarts
     have hCount : Runs (kCount ()) _ := .guard _ _ hSizes
     -- the three `b.ItemRGB[i]` are evaluated here: otherwise the unifier has to unfold `idx` on the 3-element list
     -- inside every later step
     have hRgb : Runs (kRgb ()) _ :=
       (Runs.guard (b.n > 8) ([9] ++ itoa (b.rgb.1.toNat : Int) ++ [44] ++ itoa (b.rgb.2.1.toNat : Int) ++ [44]
         ++ itoa (b.rgb.2.2.toNat : Int)) hCount).congr fun w => by
           simp only [kRgb, idx3_0, idx3_1, idx3_2, Option.bind_some, Option.bind_eq_bind]
     have hThickEnd : Runs (kThickEnd ()) _ := .guard _ _ hRgb
     have hThickStart : Runs (kThickStart ()) _ := .guard _ _ hThickEnd
     have hStrand : Runs (kStrand ()) _ := .guard _ _ hThickStart
     have hScore : Runs (kScore ()) _ := .guard _ _ hStrand
     rw [if_neg hn]
     refine ((Runs.cons _ (.guard _ _ hScore)).of_eq ?_) w'
     simp only [bedWriteCalls, List.append_assoc (α := Bytes), List.cons_append (α := Bytes),
       List.nil_append (α := Bytes)])

/-- one straight-line `if _, err := fmt.Fprintf(…); err != nil { return err }` on both sides -/
macro "wr_step" : tactic => `(tactic| (
  generalize wrWrite _ _ = r
  by_cases h0 : r.2 = GoErr.nil
  rotate_left
  · simp [h0]
  simp only [h0, bne_self_eq_false, Bool.false_eq_true, if_false, if_true]))

/-- the straight-line part for a literal field count: decide the `if b.N > k`, then step through the calls -/
macro "bed_case" h:ident b:ident : tactic => `(tactic| (
  obtain ⟨n, chrom, cs, ce, name, score, strand, ts, te, ⟨r0, r1, r2⟩, bc, sizes, starts⟩ := $b
  simp only at $h:ident
  subst $h
  unfold goBedWrite GoSrc.bed_Write bedWriteCalls
  simp only [Option.pure_def, Option.bind_eq_bind, Int.reduceLT, Int.reduceGT, decide_false, decide_true,
    Bool.or_false, Bool.false_eq_true, if_false, if_true, idx3_0, idx3_1, idx3_2, Option.bind_some,
    List.append_nil, List.nil_append, List.cons_append, List.append_assoc, wrWriteAll]
  repeat wr_step))

/-- `N` outside `3…12`: an error, and the writer untouched -/
theorem bed_Write_bad_n (hF : GoSrc.bed_Write_Found = true) (b : Bed.Bed) (w : Wr)
    (h : b.n < 3 ∨ b.n > 12) : goBedWrite b w = some (GoErr.other, w) := by
  first
  | exact absurd hF (by decide)
  | (unfold goBedWrite GoSrc.bed_Write
     simp [h])

/-! ## The calls, concatenated, are the model's text -/

theorem itoa_natCast (n : Nat) : itoa (n : Int) = natDigits n := rfl

theorem listCalls_succ_flatten (l : List Int) : ∀ (k : Nat),
    (listCalls (k + 1) l).flatten = ((l.map itoa).map (44 :: ·)).flatten := by
  induction l with
  | nil => intro k; rfl
  | cons x xs ih => intro k; simp [listCalls, listCall, ih]

theorem listCalls_zero_flatten (l : List Int) : (listCalls 0 l).flatten = Bed.intList l := by
  cases l with
  | nil => rfl
  | cons x xs =>
    simp [listCalls, listCall, listCalls_succ_flatten, Bed.intList, joinWith_cons, Bed.COMMA]

/-- of the pieces from the `k`-th field on, a line of `n` fields has those below `n` -/
theorem flatten_take_field (n : Int) (k : Nat) (p : Bytes) (ps : List Bytes) :
    ((p :: ps).take (n.toNat - k)).flatten
      = (if n > k then p else []) ++ (ps.take (n.toNat - (k + 1))).flatten := by
  by_cases h : n > k
  · rw [if_pos h, show n.toNat - k = (n.toNat - (k + 1)) + 1 by omega, List.take_succ_cons, List.flatten_cons]
  · rw [if_neg h, show n.toNat - k = 0 by omega, show n.toNat - (k + 1) = 0 by omega]
    rfl

/-- Both sides are the first three fields, then every further field below `b.n` with its leading TAB,
then LF: the model cuts the joined list of fields, `Write` guards each field. -/
theorem bedWriteCalls_flatten_eq (b : Bed.Bed) (h3 : 3 ≤ b.n) (h12 : b.n ≤ 12) :
    Bed.encode b = some (bedWriteCalls b).flatten := by
  have hN : b.n.toNat = (b.n.toNat - 3) + 3 := by omega
  unfold Bed.encode Bed.encodeLine
  rw [if_neg (by omega), hN]
  simp only [Bed.allFields, List.take_succ_cons, joinWith_cons, List.map_cons, List.map_nil, List.map_take,
    List.flatten_cons, flatten_take_field, Nat.reduceAdd, List.take_nil, List.flatten_nil, Option.map_some]
  simp only [bedWriteCalls, List.flatten_append, List.flatten_cons, List.flatten_nil, apply_ite List.flatten,
    listCalls_zero_flatten, itoa_natCast, TAB, LF, Bed.COMMA, List.append_assoc, List.cons_append,
    List.nil_append, List.append_nil]
  rfl

theorem bed_encode_none (b : Bed.Bed) (h : b.n < 3 ∨ b.n > 12) : Bed.encode b = none := by
  simp [Bed.encode, Bed.encodeLine, h]

/-! ## On a writer that accepts `k` more bytes -/

/-- an error iff the text is longer than `k`; the bytes accepted are the first `k` bytes of the text -/
theorem bed_Write_fault (hF : GoSrc.bed_Write_Found = true) (b : Bed.Bed) (enc : Bytes)
    (he : Bed.encode b = some enc) (k : Nat) (o : Bytes) :
    goBedWrite b ⟨k, o⟩
      = some (if enc.length ≤ k then GoErr.nil else GoErr.other,
          ⟨k - (enc.take k).length, o ++ enc.take k⟩) := by
  by_cases h : b.n < 3 ∨ b.n > 12
  · rw [bed_encode_none b h] at he; cases he
  · have h3 : 3 ≤ b.n := by omega
    have h12 : b.n ≤ 12 := by omega
    rw [bedWriteCalls_flatten_eq b h3 h12] at he
    cases he
    rw [bed_Write_eq hF b _ h3 h12, wrWriteAll_take]

/-- `for _, b := range bs { if err := b.Write(w); err != nil { return err } }` over the translated
BED `Write` -/
def bedWriteAll : List Bed.Bed → Wr → Option (GoErr × Wr)
  | [], w => some (GoErr.nil, w)
  | b :: bs, w =>
    match goBedWrite b w with
    | none => none
    | some (GoErr.nil, w') => bedWriteAll bs w'
    | some (err, w') => some (err, w')

/-- the text `Write` produces for the records one after the other (`[]` for a refused record) -/
def bedEncodeAll (bs : List Bed.Bed) : Bytes := (bs.map fun b => (Bed.encode b).getD []).flatten

theorem bedWriteAll_ok (hF : GoSrc.bed_Write_Found = true) (bs : List Bed.Bed)
    (hn : ∀ b ∈ bs, 3 ≤ b.n ∧ b.n ≤ 12) (k : Nat) (o : Bytes) (h : (bedEncodeAll bs).length ≤ k) :
    bedWriteAll bs ⟨k, o⟩ = some (GoErr.nil, ⟨k - (bedEncodeAll bs).length, o ++ bedEncodeAll bs⟩) := by
  induction bs generalizing k o with
  | nil => simp [bedWriteAll, bedEncodeAll]
  | cons b bs ih =>
    obtain ⟨enc, he⟩ : ∃ enc, Bed.encode b = some enc :=
      ⟨_, bedWriteCalls_flatten_eq b (hn b (by simp)).1 (hn b (by simp)).2⟩
    have hall : bedEncodeAll (b :: bs) = enc ++ bedEncodeAll bs := by simp [bedEncodeAll, he]
    rw [hall, List.length_append] at h
    have h1 : enc.length ≤ k := by omega
    rw [hall, bedWriteAll, bed_Write_fault hF b enc he k o, if_pos h1, List.take_of_length_le h1]
    simp only []
    rw [ih (fun b' hb' => hn b' (by simp [hb'])) _ _ (by omega), List.length_append, List.append_assoc,
      Nat.sub_sub]

end Bio.GoSrcLemmas

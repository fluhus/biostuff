/-
  `SubstitutionMatrix.Symmetrical` (align/align.go), the `init` of align/levenshtein.go and
  `SubstitutionMatrix.Get`, translated from the Go SOURCE TEXT on every run into
  `Bio.Generated.GoSrc.Matrix_Symmetrical` / `init_3` / `Matrix_Get`.  A Go
  `map[[2]byte]float64` is an association list keyed by two-element lists; `range` visits it in
  list order, so everything here is proved for EVERY well-formed list (`WF`: keys of length 2,
  pairwise distinct), and results are compared extensionally (`look` = `mapHas` + `mapGet`).

  The translated loop of `Symmetrical` is "panic iff some entry conflicts with its mirror image
  in `m`, else fold `result[k] = v; result[flip k] = v`" (`Matrix_Symmetrical_eq`), and what that
  fold holds is `Assoc.symFold_get` at (`look`, `mapSet`).  `Rep gm m`: the Go map and the model
  matrix are the same map.  `init_3` is proved from its two nested loops with the invariant `LevInv`.

  Proofs about `GoSrc.*` open with `first | exact absurd hF (by decide) | (…)`: see `Bio.Lemmas.GoSrc`.
-/
import Bio.Generated.GoSrc
import Bio.Lemmas.GoRt
import Bio.Lemmas.Matrix
set_option linter.unusedVariables false
namespace Bio.GoSrcLemmas
namespace MxGo
open Bio Bio.GoRt Bio.Generated

abbrev GM := List (List UInt8 × Int)
def keyOf (k : Matrix.Key) : List UInt8 := [k.1, k.2]
def ofM (m : Matrix.M) : GM := m.map fun e => (keyOf e.1, e.2)
def WF (gm : GM) : Prop := (∀ e ∈ gm, e.1.length = 2) ∧ (gm.map (·.1)).Nodup
instance (gm : GM) : Decidable (WF gm) := by unfold WF; infer_instance

def look (g : GM) (k : List UInt8) : Option Int := (g.find? fun e => e.1 == k).map (·.2)

/-! `look` is `Assoc.get` at this key type. -/

theorem mapHas_eq (g : GM) (k : List UInt8) : mapHas g k = (look g k).isSome := Assoc.mapHas_eq g k
theorem mapGet_eq (g : GM) (k : List UInt8) : mapGet g k 0 = (look g k).getD 0 := Assoc.mapGet_eq g k 0

theorem look_nil (k : List UInt8) : look [] k = none := rfl

theorem look_cons (e : List UInt8 × Int) (g : GM) (k : List UInt8) :
    look (e :: g) k = if e.1 = k then some e.2 else look g k := Assoc.get_cons e g k

theorem look_mapSet (g : GM) (k : List UInt8) (v : Int) (k' : List UInt8) :
    look (mapSet g k v) k' = if k' = k then some v else look g k' := Assoc.get_mapSet g k v k'

theorem look_len {g : GM} (hu : WF g) {k : List UInt8} {v : Int} (h : look g k = some v) :
    k.length = 2 := hu.1 _ (Assoc.mem_of_get h)

theorem look_none_of_len {g : GM} (h : WF g) {k : List UInt8} (hk : k.length ≠ 2) :
    look g k = none :=
  Option.eq_none_iff_forall_ne_some.2 fun v hl => hk (look_len h hl)

theorem look_eq_has_get (g : GM) (k : List UInt8) :
    (if mapHas g k = true then some (mapGet g k 0) else none) = look g k := by
  rw [mapHas_eq, mapGet_eq]
  cases look g k <;> rfl

theorem has_get_ext {g g' : GM} {k : List UInt8} (h : look g k = look g' k) :
    mapHas g k = mapHas g' k ∧ mapGet g k 0 = mapGet g' k 0 := by
  rw [mapHas_eq, mapHas_eq, mapGet_eq, mapGet_eq, h]
  exact ⟨rfl, rfl⟩

theorem WF_nil : WF [] := by decide

theorem ofM_len2 (m : Matrix.M) : ∀ e ∈ ofM m, e.1.length = 2 := by
  intro e he
  obtain ⟨e', _, rfl⟩ := List.mem_map.1 he
  rfl

theorem WF_mapSet {g : GM} (h : WF g) {k : List UInt8} (hk : k.length = 2) (v : Int) :
    WF (mapSet g k v) := by
  have hkeys : ∀ k' ∈ (mapSet g k v).map (·.1), k' = k ∨ k' ∈ g.map (·.1) := by
    intro k' hk'
    rw [Assoc.keys_mapSet] at hk'
    split at hk'
    · exact Or.inr hk'
    · exact (List.mem_append.1 hk').symm.imp_left List.mem_singleton.1
  constructor
  · intro e he
    rcases hkeys e.1 (List.mem_map.2 ⟨e, he, rfl⟩) with h' | h'
    · rw [h']; exact hk
    · obtain ⟨e', he', h'⟩ := List.mem_map.1 h'
      rw [← h']; exact h.1 e' he'
  · rw [Assoc.keys_mapSet]
    split
    · exact h.2
    · rename_i hn
      exact List.nodup_append.2 ⟨h.2, List.pairwise_singleton _ _,
        fun a ha b hb => by rw [List.mem_singleton.1 hb]; rintro rfl; exact hn ha⟩

theorem WF_perm {gm gm' : GM} (hp : gm.Perm gm') (h : WF gm) : WF gm' :=
  ⟨fun e he => h.1 e (hp.mem_iff.2 he), (hp.map (·.1)).nodup_iff.1 h.2⟩

/-- `[2]byte{k[1], k[0]}` -/
def flipL : List UInt8 → List UInt8
  | [a, b] => [b, a]
  | k => k

theorem flipL_flipL : ∀ k : List UInt8, flipL (flipL k) = k
  | [] | [_] | [_, _] | _ :: _ :: _ :: _ => rfl

/-- the `panic` condition of one iteration: `k[0] != k[1]` and `m[flip]` present with another score -/
def gconf (m : GM) (e : List UInt8 × Int) : Bool :=
  match e.1 with
  | [a, b] => a != b && (mapHas m [b, a] && mapGet m [b, a] 0 != e.2)
  | _ => false

/-- `result[k] = v; result[flip] = v` -/
def gstep : GM → List UInt8 × Int → GM := Assoc.symStep mapSet flipL

theorem len2 {k : List UInt8} (h : k.length = 2) : ∃ a b, k = [a, b] := by
  match k, h with
  | [a, b], _ => exact ⟨a, b, rfl⟩

theorem gconf_iff (gm : GM) (a b : UInt8) (v : Int) : gconf gm ([a, b], v) = true ↔
    a ≠ b ∧ ∃ v2, look gm [b, a] = some v2 ∧ v2 ≠ v := by
  simp only [gconf, mapHas_eq, mapGet_eq]
  cases look gm [b, a] <;> simp

/-- `m`, the map the conflicts are looked up in, stays fixed while the induction consumes `l`. -/
theorem forIn_sym (m : GM) (body : List UInt8 × Int → GM → Option (ForInStep GM))
    (hbody : ∀ e s, e.1.length = 2 →
      body e s = if gconf m e = true then none else some (ForInStep.yield (gstep s e)))
    (l : GM) (hl : ∀ e ∈ l, e.1.length = 2) (s : GM) :
    forIn l s body = if l.any (gconf m) = true then none else some (l.foldl gstep s) := by
  induction l generalizing s with
  | nil => simp
  | cons e l ih =>
    rw [List.forIn_cons, hbody e s (hl e (by simp)), List.any_cons, List.foldl_cons]
    by_cases hc : gconf m e = true
    · simp [hc]
    · simp only [hc, Bool.false_or]
      exact ih (fun e' he' => hl e' (List.mem_cons_of_mem _ he')) _

theorem Matrix_Symmetrical_eq (hF : GoSrc.Matrix_Symmetrical_Found = true) (gm : GM)
    (hl : ∀ e ∈ gm, e.1.length = 2) :
    GoSrc.Matrix_Symmetrical gm
      = if gm.any (gconf gm) = true then none else some (gm.foldl gstep []) := by
  first
  | exact absurd hF (by decide)
  | (unfold GoSrc.Matrix_Symmetrical
     simp only [Option.pure_def, Option.bind_eq_bind]
     rw [forIn_sym gm _ _ gm hl]
     · split <;> rfl
     · intro e s he
       obtain ⟨a, b, hk⟩ := len2 he
       obtain ⟨k, v⟩ := e
       simp only at hk
       subst hk
       have h0 : idx [a, b] 0 = some a := rfl
       have h1 : idx [a, b] 1 = some b := rfl
       simp only [h0, h1, Option.bind_some, gconf, gstep, Assoc.symStep, flipL]
       by_cases hab : a = b
       · subst hab; simp
       · by_cases hh : mapHas gm [b, a] = true <;> by_cases hv : mapGet gm [b, a] 0 = v <;> simp [hab, hh, hv])

theorem flipL_len {k : List UInt8} (h : k.length = 2) : (flipL k).length = 2 := by
  obtain ⟨a, b, rfl⟩ := len2 h; rfl

theorem WF_fold (l : GM) (hl : ∀ e ∈ l, e.1.length = 2) {s : GM} (h : WF s) : WF (l.foldl gstep s) := by
  induction l generalizing s with
  | nil => exact h
  | cons e l ih =>
    have he := hl e (by simp)
    exact ih (fun e' he' => hl e' (List.mem_cons_of_mem _ he'))
      (WF_mapSet (WF_mapSet h he _) (flipL_len he) _)

theorem sym_look (hF : GoSrc.Matrix_Symmetrical_Found = true) {gm : GM} (h : WF gm) {r : GM}
    (hr : GoSrc.Matrix_Symmetrical gm = some r) :
    WF r ∧ ∀ (a b : UInt8) (v : Int),
      look r [a, b] = some v ↔ (look gm [a, b] = some v ∨ look gm [b, a] = some v) := by
  rw [Matrix_Symmetrical_eq hF _ h.1] at hr
  split at hr
  · cases hr
  · rename_i hany
    cases hr
    refine ⟨WF_fold gm h.1 WF_nil, fun a b v =>
      Assoc.symFold_get look mapSet flipL look_mapSet flipL_flipL h.2 ?_ (fun _ => rfl) [a, b] v⟩
    -- no `gconf`: an entry off the diagonal agrees with its mirror image
    rintro ⟨k, v⟩ he hd v2 hl
    obtain ⟨a, b, rfl⟩ := len2 (h.1 _ he)
    apply Classical.byContradiction
    intro hv
    refine hany (List.any_eq_true.2 ⟨_, he, (gconf_iff gm a b v).2 ⟨?_, v2, hl, hv⟩⟩)
    rintro rfl
    exact hd rfl

theorem sym_none_iff (hF : GoSrc.Matrix_Symmetrical_Found = true) {gm : GM} (h : WF gm) :
    GoSrc.Matrix_Symmetrical gm = none ↔
      ∃ (a b : UInt8) (v v2 : Int), a ≠ b ∧ ([a, b], v) ∈ gm ∧ ([b, a], v2) ∈ gm ∧ v2 ≠ v := by
  rw [Matrix_Symmetrical_eq hF _ h.1]
  simp only [ite_eq_left_iff, reduceCtorEq, imp_false, Classical.not_not, List.any_eq_true]
  constructor
  · rintro ⟨⟨k, v⟩, he, hc⟩
    obtain ⟨a, b, rfl⟩ := len2 (h.1 _ he)
    obtain ⟨hne, v2, hl, hv⟩ := (gconf_iff gm a b v).1 hc
    exact ⟨a, b, v, v2, hne, he, Assoc.mem_of_get hl, hv⟩
  · rintro ⟨a, b, v, v2, hne, h1, h2, hv⟩
    exact ⟨_, h1, (gconf_iff gm a b v).2 ⟨hne, v2, Assoc.get_of_mem h.2 h2, hv⟩⟩

theorem sym_perm_look (hF : GoSrc.Matrix_Symmetrical_Found = true) {gm gm' : GM} (h : WF gm)
    (hp : gm.Perm gm') {r r' : GM} (hr : GoSrc.Matrix_Symmetrical gm = some r)
    (hr' : GoSrc.Matrix_Symmetrical gm' = some r') (k : List UInt8) : look r k = look r' k := by
  obtain ⟨hw, hl⟩ := sym_look hF h hr
  obtain ⟨hw', hl'⟩ := sym_look hF (WF_perm hp h) hr'
  have hgm : ∀ k, look gm k = look gm' k := Assoc.get_perm h.2 hp
  by_cases hk : k.length = 2
  · obtain ⟨a, b, rfl⟩ := len2 hk
    apply Option.ext
    intro v
    rw [hl, hl', hgm, hgm]
  · rw [look_none_of_len hw hk, look_none_of_len hw' hk]

/-- The Go map `gm` and the model matrix `m` are the same map. -/
def Rep (gm : GM) (m : Matrix.M) : Prop := ∀ k, look gm (keyOf k) = Matrix.get m k

theorem Rep.get_eq {gm : GM} {m : Matrix.M} (h : Rep gm m) (k : Matrix.Key) :
    Matrix.get m k = if mapHas gm (keyOf k) = true then some (mapGet gm (keyOf k) 0) else none := by
  rw [look_eq_has_get, h k]

theorem keyOf_inj {k k' : Matrix.Key} : keyOf k = keyOf k' ↔ k = k' := by
  rcases k with ⟨a, b⟩; rcases k' with ⟨c, d⟩
  simp [keyOf]

theorem flipL_keyOf (k : Matrix.Key) : flipL (keyOf k) = keyOf (Matrix.flip k) := rfl

theorem Rep_ofM (m : Matrix.M) : Rep (ofM m) m := by
  intro k
  induction m with
  | nil => rfl
  | cons e m ih =>
    show look ((keyOf e.1, e.2) :: ofM m) (keyOf k) = _
    rw [Matrix.get_cons, look_cons, ih]
    simp only [keyOf_inj]

theorem Rep_mapSet {gm : GM} {m : Matrix.M} (h : Rep gm m) (k : Matrix.Key) (v : Int) :
    Rep (mapSet gm (keyOf k) v) (Matrix.insert k v m) := by
  intro k'
  rw [look_mapSet, Matrix.get_insert, h k']
  simp only [keyOf_inj]

theorem Rep_fold (l : Matrix.M) {acc : Matrix.M} {acc' : GM} (h : Rep acc' acc) :
    Rep ((ofM l).foldl gstep acc') (l.foldl Matrix.symStep acc) := by
  induction l generalizing acc acc' with
  | nil => exact h
  | cons e l ih =>
    refine ih (?_ : Rep (mapSet (mapSet acc' (keyOf e.1) e.2) (flipL (keyOf e.1)) e.2) _)
    rw [flipL_keyOf]
    exact Rep_mapSet (Rep_mapSet h e.1 e.2) (Matrix.flip e.1) e.2

theorem gconf_ofM (m : Matrix.M) (e : Matrix.Key × Int) :
    gconf (ofM m) (keyOf e.1, e.2) = Matrix.conflicts m e := by
  rw [Bool.eq_iff_iff, Matrix.conflicts_iff, keyOf, gconf_iff, ← Rep_ofM m (Matrix.flip e.1)]
  rfl

theorem sym_model (hF : GoSrc.Matrix_Symmetrical_Found = true) (m : Matrix.M) :
    (GoSrc.Matrix_Symmetrical (ofM m) = none ↔ Matrix.symmetrical m = none) ∧
    ∀ r r', GoSrc.Matrix_Symmetrical (ofM m) = some r → Matrix.symmetrical m = some r' → Rep r r' := by
  have hany : (ofM m).any (gconf (ofM m)) = m.any (Matrix.conflicts m) := by
    rw [ofM, List.any_map]
    exact congrArg m.any (funext (gconf_ofM m))
  rw [Matrix_Symmetrical_eq hF _ (ofM_len2 m), Matrix.symmetrical_eq, hany]
  by_cases hc : m.any (Matrix.conflicts m) = true
  · simp [hc]
  · simp only [hc]
    refine ⟨by simp, ?_⟩
    intro r r' hr hr'
    cases hr; cases hr'
    exact Rep_fold m (fun _ => rfl)

theorem u8_ofNat (j : Nat) (h : j < 256) : u8 (Int.ofNat j) = UInt8.ofNat j := by
  unfold u8
  congr 1
  show ((j : Int) % 256).toNat = j
  omega

/-- After `n` steps of the two nested loops (`n = 256 * i + j`): the `n` keys `[x, y]` with
`256 * x + y < n`, each with the Levenshtein score. -/
def LevInv (n : Nat) (g : GM) : Prop :=
  WF g ∧ g.length = n ∧
  ∀ x y : UInt8, look g [x, y]
    = if 256 * x.toNat + y.toNat < n then some (if x = y then 0 else -1) else none

theorem levInv_zero : LevInv 0 [] := ⟨WF_nil, rfl, fun x y => by simp [look_nil]⟩

theorem levInv_step (i j : Nat) (hi : i < 256) (hj : j < 256) (g : GM) (h : LevInv (256 * i + j) g) :
    LevInv (256 * i + j + 1) (mapSet g [UInt8.ofNat i, UInt8.ofNat j] (if i = j then 0 else -1)) := by
  obtain ⟨hw, hlen, hlook⟩ := h
  have ti := UInt8.toNat_ofNat_of_lt' hi
  have tj := UInt8.toNat_ofNat_of_lt' hj
  refine ⟨WF_mapSet hw rfl _, ?_, ?_⟩
  · have hnew : look g [UInt8.ofNat i, UInt8.ofNat j] = none := by
      rw [hlook, ti, tj, if_neg (Nat.lt_irrefl _)]
    rw [Assoc.length_mapSet_fresh _ _ _ hnew, hlen]
  · intro x y
    rw [look_mapSet, hlook]
    have hx := UInt8.toNat_lt x
    have hy := UInt8.toNat_lt y
    by_cases hk : [x, y] = [UInt8.ofNat i, UInt8.ofNat j]
    · simp only [List.cons.injEq, and_true] at hk
      obtain ⟨rfl, rfl⟩ := hk
      rw [ti, tj]
      have : (UInt8.ofNat i = UInt8.ofNat j) ↔ i = j := by
        rw [← UInt8.toNat_inj, ti, tj]
      simp [this]
    · rw [if_neg hk]
      have hne : ¬ (x.toNat = i ∧ y.toNat = j) := by
        rintro ⟨h1, h2⟩
        apply hk
        rw [← h1, ← h2, UInt8.ofNat_toNat, UInt8.ofNat_toNat]
      have : (256 * x.toNat + y.toNat < 256 * i + j + 1) ↔ (256 * x.toNat + y.toNat < 256 * i + j) := by
        omega
      simp only [this]

theorem init_3_inv (hF : GoSrc.init_3_Found = true) :
    ∃ L, GoSrc.init_3 = some L ∧ LevInv 65536 L := by
  first
  | exact absurd hF (by decide)
  | (unfold GoSrc.init_3
     simp only [Option.pure_def, Option.bind_eq_bind]
     -- The two `fun` bodies handed to `forIn_upTo_inv` are the loop bodies of the goal as it stands
     -- here, copied: they have to agree with it syntactically for `hL` to rewrite the goal below.
     have houter := forIn_upTo_inv (fun i g => LevInv (256 * i) g)
       (fun i __s =>
          (forIn (upTo 256) __s fun j __s =>
                if (i != j) = true then some (ForInStep.yield (mapSet __s [u8 i, u8 j] (-1)))
                else some (ForInStep.yield (mapSet __s [u8 i, u8 j] 0))).bind
            fun __s => some (ForInStep.yield __s)) 256
       (by
         intro i g hi hinv
         have hinner := forIn_upTo_inv (fun j g => LevInv (256 * i + j) g)
           (fun j __s =>
                if (Int.ofNat i != j) = true then some (ForInStep.yield (mapSet __s [u8 (Int.ofNat i), u8 j] (-1)))
                else some (ForInStep.yield (mapSet __s [u8 (Int.ofNat i), u8 j] 0))) 256
           (by
             intro j g' hj hinv'
             refine ⟨_, ?_, levInv_step i j hi hj g' hinv'⟩
             simp only [u8_ofNat i hi, u8_ofNat j hj]
             by_cases hij : i = j
             · subst hij; simp
             · have hij' : ¬ ((i : Int) = (j : Int)) := by omega
               simp [hij, hij'])
           g hinv
         obtain ⟨g', hg', hinv'⟩ := hinner
         refine ⟨g', ?_, ?_⟩
         · rw [show ((256 : Nat) : Int) = 256 from rfl] at hg'
           simp only [hg', Option.bind_some]
         · have : 256 * (i + 1) = 256 * i + 256 := by omega
           rw [this]; exact hinv')
       [] levInv_zero
     obtain ⟨L, hL, hinv⟩ := houter
     refine ⟨L, ?_, hinv⟩
     rw [show ((256 : Nat) : Int) = 256 from rfl] at hL
     rw [hL]; rfl)

theorem LevInv.look_full {L : GM} (h : LevInv 65536 L) (x y : UInt8) :
    look L [x, y] = some (if x = y then 0 else -1) := by
  have hx := UInt8.toNat_lt x
  have hy := UInt8.toNat_lt y
  rw [h.2.2, if_pos (by omega)]

theorem Matrix_Get_look (hF : GoSrc.Matrix_Get_Found = true) (L : GM) (x y : UInt8) :
    GoSrc.Matrix_Get L x y = look L [x, y] := by
  first
  | exact absurd hF (by decide)
  | (unfold GoSrc.Matrix_Get
     rw [← look_eq_has_get]
     cases h : mapHas L [x, y] <;> simp [h])

end MxGo
end Bio.GoSrcLemmas

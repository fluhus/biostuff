/-
  The Go functions of sequtil/sequtil.go and sequtil/amino.go, translated from
  the SOURCE TEXT of /repo on every run into `Bio.Generated.GoSrc` (Lean `do`
  blocks over the `Bio.GoRt` vocabulary), ARE the hand-written models of
  `Bio.Model.Sequtil`: one equivalence theorem per function, for all arguments
  (the table-driven ones under hypotheses on the tables: `h256`, `hrange`, `hT`,
  `hnz`, `hok`, …, discharged for the regenerated tables in the `…Go` modules).
  Every theorem is guarded by the translator's `<f>_Found` flag: when the source
  is no longer in a shape the translator understands the flag is `false`, the
  generated definition is a placeholder and the theorem says nothing.
-/
import Bio.Model.Sequtil
import Bio.Generated.GoSrc
import Bio.Lemmas.GoRt
import Bio.Lemmas.Sequtil
-- `hF` is used only in the branch `exact absurd hF (by decide)`, which `first` takes when the flag is `false`
set_option linter.unusedVariables false
namespace Bio.GoSrcLemmas
open Bio Bio.GoRt Bio.Generated

/-- `GoRt.forIn_upTo_inv` (a counted loop that never exits early carries an invariant `inv k s`, "after `k`
rounds") followed by a continuation `post`, which is only asked about states satisfying `inv n`. -/
theorem forIn_upTo_then {σ β : Type} (n : Nat) (inv : Nat → σ → Prop) {body : Int → σ → Option (ForInStep σ)}
    {post : σ → Option β} {s : σ} {r : β} (h0 : inv 0 s)
    (hstep : ∀ k s, k < n → inv k s → ∃ s', body k s = some (.yield s') ∧ inv (k + 1) s')
    (hpost : ∀ s', inv n s' → post s' = some r) : (forIn (upTo n) s body).bind post = some r := by
  obtain ⟨s', hs, hi⟩ := GoRt.forIn_upTo_inv inv body n hstep s h0
  rw [hs]; exact hpost s' hi

/-- the same when the invariant determines the final state -/
theorem forIn_upTo_eq {σ : Type} (n : Nat) (inv : Nat → σ → Prop) {body : Int → σ → Option (ForInStep σ)}
    {s r : σ} (h0 : inv 0 s)
    (hstep : ∀ k s, k < n → inv k s → ∃ s', body k s = some (.yield s') ∧ inv (k + 1) s')
    (hpost : ∀ s', inv n s' → s' = r) : forIn (upTo n) s body = some r := by
  obtain ⟨s', hs, hi⟩ := GoRt.forIn_upTo_inv inv body n hstep s h0
  rw [hs, hpost s' hi]

/-- `for i := range l { l[i] = v }` -/
theorem forIn_fill {α : Type} (l : List α) (v : α) :
    forIn (upTo (len l)) l (fun i s => do let s ← setIdx s i v; pure (ForInStep.yield s))
      = some (List.replicate l.length v) := by
  apply forIn_upTo_eq l.length (fun k s => s = List.replicate k v ++ l.drop k)
  · simp
  · rintro k s hk rfl
    refine ⟨_, by rw [setIdx_ofNat, if_pos (by simp; omega)]; rfl, ?_⟩
    rw [List.set_append_right _ _ (by simp), List.drop_eq_getElem_cons hk, List.length_replicate,
      Nat.sub_self, List.set_cons_zero, List.replicate_succ', List.append_assoc]
    rfl
  · rintro _ rfl; simp

theorem andInt_three (a : Nat) : andInt (a : Int) 3 = ((a % 4 : Nat) : Int) :=
  congrArg Nat.cast (Nat.and_two_pow_sub_one_eq_mod a 2)

theorem complementByte_eq (hF : GoSrc.complementByte_Found = true) (tbl : List UInt8) (b : UInt8) :
    GoSrc.complementByte tbl b = Sequtil.comp tbl b := by
  first
  | exact absurd hF (by decide)
  | (unfold GoSrc.complementByte Sequtil.comp
     rw [idx_ofNat]
     cases h : tbl[b.toNat]? with
     | none => simp
     | some c => by_cases hc : c = 0 <;> simp [hc])

theorem appendLoop_eq {α : Type} (g : α → Option UInt8) (L : List α) (dst : Bytes) :
    forIn L dst (fun x s => (g x).bind fun y => some (ForInStep.yield (s ++ [y])))
      = (L.mapM g).map (dst ++ ·) := by
  induction L generalizing dst with
  | nil => simp
  | cons a L ih =>
    simp only [List.forIn_cons, List.mapM_cons]
    cases h : g a with
    | none => simp
    | some y =>
      simp [ih]
      cases L.mapM g <;> simp

/-- `for i := len(s)-1; i >= 0; i-- { dst = append(dst, g(s[i])) }` -/
theorem revAppendLoop_eq {α : Type} (g : α → Option UInt8) (s : List α) (dst : Bytes) :
    (forIn (downFrom (len s - 1)) dst fun i st =>
        (idx s i).bind fun x => (g x).bind fun y => some (ForInStep.yield (st ++ [y])))
      = (s.reverse.mapM g).map (dst ++ ·) := by
  rw [forIn_downFrom_idx s dst (fun x st => (g x).bind fun y => some (ForInStep.yield (st ++ [y])))]
  exact appendLoop_eq g s.reverse dst

/-- the loop of `ReverseComplement` and of `ReverseComplementString` (the latter with `dst = nil`) -/
theorem revCompLoop_eq (hC : GoSrc.complementByte_Found = true) (tbl : List UInt8) (dst s : Bytes) :
    ((forIn (downFrom (len s - 1)) dst fun i st =>
        (idx s i).bind fun x => (GoSrc.complementByte tbl x).bind fun y => some (ForInStep.yield (st ++ [y]))).bind
      fun st => some st) = Sequtil.revComp tbl dst s := by
  simp only [complementByte_eq hC, revAppendLoop_eq, Sequtil.revComp]
  cases s.reverse.mapM (Sequtil.comp tbl) <;> rfl

theorem ReverseComplement_eq (hF : GoSrc.ReverseComplement_Found = true) (hC : GoSrc.complementByte_Found = true)
    (tbl : List UInt8) (dst src : Bytes) :
    GoSrc.ReverseComplement tbl dst src = Sequtil.revComp tbl dst src := by
  first
  | exact absurd hF (by decide)
  | (unfold GoSrc.ReverseComplement
     simp only [Option.pure_def, Option.bind_eq_bind]
     exact revCompLoop_eq hC tbl dst src)

/-- one iteration of the model's `to2bitAux` -/
def to2bitStep (tbl : List Int) (dn i : Nat) (dst : Bytes) (b : UInt8) : Option Bytes :=
  let di := dn + i / 4
  let shift := 6 - i % 4 * 2
  let dst := if shift == 6 then dst ++ [0] else dst
  let v := Sequtil.ntoi tbl b
  if v < 0 then none
  else some (dst.set di ((dst[di]?).getD 0 ||| ((UInt8.ofNat v.toNat) <<< (UInt8.ofNat shift))))

theorem to2bitAux_cons (tbl : List Int) (dn i : Nat) (dst : Bytes) (b : UInt8) (rest : Bytes) :
    Sequtil.to2bitAux tbl dn i dst (b :: rest) =
      (to2bitStep tbl dn i dst b).bind fun d => Sequtil.to2bitAux tbl dn (i + 1) d rest := by
  simp only [Sequtil.to2bitAux, to2bitStep]
  split <;> simp

theorem Ntoi_eq (hF : GoSrc.Ntoi_Found = true) (tbl : List Int) (h256 : tbl.length = 256) (b : UInt8) :
    GoSrc.Ntoi tbl b = some (Sequtil.ntoi tbl b) := by
  first
  | exact absurd hF (by decide)
  | (unfold GoSrc.Ntoi Sequtil.ntoi
     simp only [idx_ofNat]
     have : b.toNat < tbl.length := by rw [h256]; exact UInt8.toNat_lt b
     simp [List.getElem?_eq_getElem this])

/-- the index arithmetic of the translated `DNATo2Bit` (Go `int`) read on `Nat` -/
theorem to2bit_casts (i : Nat) (dst : Bytes) :
    (i : Int).tmod 4 = ((i % 4 : Nat) : Int) ∧ (i : Int).tdiv 4 = ((i / 4 : Nat) : Int)
      ∧ (6 : Int) - ((i % 4 : Nat) : Int) * 2 = ((6 - i % 4 * 2 : Nat) : Int)
      ∧ len dst + ((i / 4 : Nat) : Int) = ((dst.length + i / 4 : Nat) : Int)
      ∧ ((((6 - i % 4 * 2 : Nat) : Int)) == 6) = (6 - i % 4 * 2 == 6) := by
  refine ⟨by rw [Int.tmod_eq_emod_of_nonneg (by omega)]; omega, by rw [Int.natCast_tdiv_eq_ediv]; omega,
    by omega, by unfold len; omega, ?_⟩
  rw [Bool.eq_iff_iff]; simp only [beq_iff_eq]; omega

/-- Loop invariant: after `i` bases the output has `⌈i/4⌉` bytes more than `dst`.  `hrange`: Go tests `== -1` and
then truncates to a byte, the model tests `< 0`; they agree for table entries in `-1 … 255`. -/
theorem DNATo2Bit_eq (hF : GoSrc.DNATo2Bit_Found = true) (hN : GoSrc.Ntoi_Found = true) (tbl : List Int) (h256 : tbl.length = 256)
    (hrange : ∀ v ∈ tbl, -1 ≤ v ∧ v ≤ 255) (dst src : Bytes) :
    GoSrc.DNATo2Bit tbl dst src = Sequtil.to2bit tbl dst src := by
  first
  | exact absurd hF (by decide)
  | (unfold GoSrc.DNATo2Bit Sequtil.to2bit
     simp only [Option.pure_def, Option.bind_eq_bind]
     have key := forIn_enum_step src (fun i (s : Bytes) => s.length = dst.length + (i + 3) / 4)
       (to2bitStep tbl dst.length) (Sequtil.to2bitAux tbl dst.length)
       (by intro i s; simp [Sequtil.to2bitAux]) (to2bitAux_cons tbl dst.length)
       (by
         intro i s a d hi hs
         unfold to2bitStep at hs
         simp only at hs
         split at hs
         · exact absurd hs (by simp)
         · simp only [Option.some.injEq] at hs
           subst hs
           simp only [List.length_set]
           split
           · rename_i h6; simp only [List.length_append, List.length_singleton]
             have : i % 4 = 0 := by
               have := (beq_iff_eq).mp h6; omega
             omega
           · rename_i h6
             have : i % 4 ≠ 0 := by
               intro h0; apply h6; simp [h0]
             omega)
     unfold enum
     rw [key]
     · cases Sequtil.to2bitAux tbl dst.length 0 dst src <;> rfl
     · intro i s a hi
       obtain ⟨htm, htd, hsh, hdi, h6⟩ := to2bit_casts i dst
       have hv := Ntoi_eq hN tbl h256 a
       have hvr : -1 ≤ Sequtil.ntoi tbl a ∧ Sequtil.ntoi tbl a ≤ 255 := by
         unfold Sequtil.ntoi
         cases hg : tbl[a.toNat]? with
         | none => simp
         | some v => simpa using hrange v (List.mem_of_getElem? hg)
       simp only [htm, htd, hv, Option.bind_some, Option.bind_none, to2bitStep]
       generalize Sequtil.ntoi tbl a = v at hvr
       by_cases hneg : v < 0
       · have : v = -1 := by omega
         subst this; simp
       · have hne : (v == -1) = false := by simp; omega
         simp only [hne, hneg, if_false, Bool.false_eq_true]
         have hu : u8 v = UInt8.ofNat v.toNat := by
           unfold u8; rw [Int.emod_eq_of_lt (by omega) (by omega)]
         rw [hsh, hdi, hu, shl8_ofNat _ _ (by omega)]
         rw [h6]
         by_cases hz : (6 - i % 4 * 2 == 6) = true
         · have hlt : dst.length + i / 4 < (s ++ [0]).length := by
             have := (beq_iff_eq).mp hz
             simp only [List.length_append, List.length_singleton]; omega
           simp only [hz, if_true, Option.bind_some, idx_ofNat, setIdx_ofNat, hlt,
             List.getElem?_eq_getElem hlt, Option.getD_some, Option.map_some, if_true]
         · have hlt : dst.length + i / 4 < s.length := by
             have : i % 4 ≠ 0 := by
               intro h0; apply hz; simp [h0]
             omega
           simp only [hz, if_false, Option.bind_some, idx_ofNat, setIdx_ofNat, hlt,
             List.getElem?_eq_getElem hlt, Option.getD_some, Option.map_some, Bool.false_eq_true, if_true]
     · simp)

theorem Iton_eq (hF : GoSrc.Iton_Found = true) (n : Int) : GoSrc.Iton n = some (Sequtil.iton n) := by
  first
  | exact absurd hF (by decide)
  | (unfold GoSrc.Iton Sequtil.iton
     simp only [Option.pure_def, beq_iff_eq]
     repeat' split
     all_goals rfl)

/-- the inner loop of `init` #1: `val[3-j] = Iton((i >> 2j) & 3)` for `j = 0..3` -/
theorem init_1_inner (hI : GoSrc.Iton_Found = true) (k : Nat) (val : Bytes) (hv : val.length = 4) :
    forIn (upTo 4) val (fun j v => do
        let a ← shrInt (k : Int) (2 * j)
        let c ← GoSrc.Iton (andInt a 3)
        let v ← setIdx v (3 - j) c
        pure (ForInStep.yield v)) = some (Sequtil.expand k) := by
  match val, hv with
  | [a, b, c, d], _ =>
    rw [show upTo 4 = [0, 1, 2, 3] from rfl]
    simp [shrInt, Iton_eq hI, setIdx]
    show [Sequtil.iton (andInt ((k / 64 : Nat) : Int) 3), Sequtil.iton (andInt ((k / 16 : Nat) : Int) 3),
      Sequtil.iton (andInt ((k / 4 : Nat) : Int) 3), Sequtil.iton (andInt (k : Int) 3)] = _
    simp only [andInt_three]
    rfl

/-- `init` #1 tabulates `expand`: after `k` rounds the table is `expand 0 … expand (k-1)` followed by the untouched
zero entries. -/
theorem init_1_eq (hF : GoSrc.init_1_Found = true) (hI : GoSrc.Iton_Found = true) :
    GoSrc.init_1 = some ((List.range 256).map Sequtil.expand) := by
  first
  | exact absurd hF (by decide)
  | (unfold GoSrc.init_1
     extract_lets g0 v0
     apply forIn_upTo_then 256 (fun k (s : List Bytes × Bytes) =>
       s.1 = (List.range k).map Sequtil.expand ++ List.replicate (256 - k) (List.replicate 4 0) ∧ s.2.length = 4)
     · exact ⟨rfl, rfl⟩
     · rintro k ⟨g, val⟩ hk ⟨rfl, hv⟩
       obtain ⟨m, hm⟩ : ∃ m, 256 - k = m + 1 := ⟨255 - k, by omega⟩
       have hl : ((List.range k).map Sequtil.expand).length = k := by simp
       have hi : idx ((List.range k).map Sequtil.expand ++ List.replicate (m + 1) (List.replicate 4 (0 : UInt8))) (k : Int)
           = some (List.replicate 4 0) := by
         rw [idx_ofNat, List.getElem?_append_right (by omega), hl, Nat.sub_self]; rfl
       refine ⟨((List.range k).map Sequtil.expand ++ Sequtil.expand k :: List.replicate m (List.replicate 4 0),
         Sequtil.expand k), ?_, ?_, rfl⟩
       · simp only [init_1_inner hI k val hv, hm, hi]
         simp only [Option.bind_eq_bind, Option.bind_some, setIdx_ofNat]
         rw [if_pos (by simp), List.set_append_right _ _ (by omega), hl, Nat.sub_self]
         rfl
       · rw [show 256 - (k + 1) = m by omega, List.range_succ, List.map_append, List.append_assoc]
         rfl
     · rintro ⟨g, val⟩ ⟨rfl, _⟩
       simp)

theorem from2bitLoop (tbl : List (List UInt8)) (h256 : tbl.length = 256) (src : Bytes) : ∀ dst : Bytes,
    forIn src dst (fun x s => (idx tbl (x.toNat : Int)).bind fun y => some (ForInStep.yield (s ++ y)))
      = some (dst ++ src.flatMap fun b => (tbl[b.toNat]?).getD []) := by
  induction src with
  | nil => intro dst; simp
  | cons a L ih =>
    intro dst
    have hlt : a.toNat < tbl.length := by rw [h256]; exact UInt8.toNat_lt a
    have h1 : idx tbl (a.toNat : Int) = some tbl[a.toNat] := by
      rw [idx_ofNat, List.getElem?_eq_getElem hlt]
    simp only [List.forIn_cons, h1, Option.bind_eq_bind, Option.bind_some, ih,
      List.flatMap_cons, List.getElem?_eq_getElem hlt, Option.getD_some, List.append_assoc]

theorem DNAFrom2Bit_eq (hF : GoSrc.DNAFrom2Bit_Found = true) (tbl : List (List UInt8)) (h256 : tbl.length = 256)
    (dst src : Bytes) : GoSrc.DNAFrom2Bit tbl dst src = some (Sequtil.from2bit tbl dst src) := by
  first
  | exact absurd hF (by decide)
  | (unfold GoSrc.DNAFrom2Bit Sequtil.from2bit
     simp only [Option.pure_def, Option.bind_eq_bind]
     have := forIn_upTo_idx src dst (fun x s => (idx tbl (x.toNat : Int)).bind fun y => some (ForInStep.yield (s ++ y)))
     simp at this ⊢
     rw [this]
     exact from2bitLoop tbl h256 src dst)

theorem cmp_eq_one (a b : Bytes) : (cmp a b == 1) = bytesLt b a := by
  unfold cmp
  cases h1 : bytesLt a b <;> cases h2 : bytesLt b a <;> simp
  have := bytesLt_asymm h1
  rw [h2] at this; cases this

/-- A loop that computes one item per round, appends it to a log and returns early when the consumer `h`
declines: the log is `takeThroughH`.  The first component of the state carries the early result. -/
theorem forIn_logH {α ι : Type} (h : List α → Bool) (item : ι → Option α)
    {body : ι → Option (List α) × List α → Option (ForInStep (Option (List α) × List α))}
    (hbody : ∀ i s, body i s = (item i).bind fun x =>
      if (!h (s.2 ++ [x])) = true then some (.done (some (s.2 ++ [x]), s.2 ++ [x]))
      else some (.yield (none, s.2 ++ [x])))
    {post : Option (List α) × List α → Option (List α)}
    (hp1 : ∀ r l, post (some r, l) = some r) (hp2 : ∀ l, post (none, l) = some l) :
    ∀ {is : List ι} {xs : List α}, is.mapM item = some xs → ∀ log,
      (forIn is ((none : Option (List α)), log) body).bind post = some (takeThroughH h log xs)
  | [], xs, hx, log => by
    obtain rfl : xs = [] := by simpa using hx.symm
    exact hp2 log
  | i :: is, xs, hx, log => by
    rw [List.mapM_cons] at hx
    cases hi : item i with
    | none => simp [hi] at hx
    | some x =>
      cases hr : is.mapM item with
      | none => simp [hi, hr] at hx
      | some xs' =>
        obtain rfl : x :: xs' = xs := by simpa [hi, hr] using hx
        rw [List.forIn_cons, hbody, hi, takeThroughH]
        cases hh : h (log ++ [x])
        · simp [hh, hp1]
        · simpa [hh] using forIn_logH h item hbody hp1 hp2 hr (log ++ [x])

theorem canonItem_slices (seq rc : Bytes) (k i : Nat) (hl : rc.length = seq.length) (hi : i + k ≤ seq.length) :
    ((slice seq (i : Int) ((i : Int) + k)).bind fun kmer =>
      (slice rc (len rc - (i : Int) - k) (len rc - (i : Int))).bind fun krc =>
        some (if bytesLt krc kmer = true then krc else kmer)) = some (Sequtil.canonItem seq rc k i) := by
  have e1 : (i : Int) + (k : Int) = ((i + k : Nat) : Int) := by omega
  have e2 : len rc - (i : Int) - (k : Int) = ((rc.length - i - k : Nat) : Int) := by unfold len; omega
  have e3 : len rc - (i : Int) = ((rc.length - i : Nat) : Int) := by unfold len; omega
  rw [e1, e2, e3, slice_ofNat seq i (i + k) (by omega) (by omega),
    slice_ofNat rc (rc.length - i - k) (rc.length - i) (by omega) (by omega),
    show i + k - i = k by omega, show rc.length - i - (rc.length - i - k) = k by omega]
  rfl

theorem CanonicalSubsequences_hist (hF : GoSrc.CanonicalSubsequences_Found = true)
    (hR : GoSrc.ReverseComplement_Found = true) (hC : GoSrc.complementByte_Found = true)
    (tbl : List UInt8) (h : List Bytes → Bool) (seq : Bytes) (k : Nat) :
    GoSrc.CanonicalSubsequences tbl seq (k : Int) h
      = (Sequtil.canonical tbl seq k).map (takeThroughH h []) := by
  first
  | exact absurd hF (by decide)
  | (unfold GoSrc.CanonicalSubsequences
     simp only [Option.pure_def, Option.bind_eq_bind, ReverseComplement_eq hR hC, Sequtil.canonical_eq_map,
       cmp_eq_one]
     cases hrc : Sequtil.revComp tbl [] seq with
     | none => rfl
     | some rc =>
       have hl := Sequtil.revComp_length hrc
       simp only [Option.bind_some, Option.map_some]
       refine forIn_logH h (fun i => (slice seq i (i + k)).bind fun kmer =>
           (slice rc (len rc - i - k) (len rc - i)).bind fun krc =>
             some (if bytesLt krc kmer = true then krc else kmer)) ?_ (fun _ _ => rfl) (fun _ => rfl) ?_ []
       · intro i s
         cases slice seq i (i + k) with
         | none => rfl
         | some kmer =>
           cases slice rc (len rc - i - k) (len rc - i) with
           | none => rfl
           | some krc => simp only [Option.bind_some]; split <;> rfl
       · have hn : upTo (len seq - (k : Int) + 1) = (List.range (seq.length + 1 - k)).map Int.ofNat := by
           unfold upTo len; congr 2; omega
         rw [hn, List.mapM_map, mapM_eq_some_iff, List.map_map]
         apply List.map_congr_left
         intro i hi
         exact canonItem_slices seq rc k i hl (by have := List.mem_range.mp hi; omega))

theorem CanonicalSubsequences_eq (hF : GoSrc.CanonicalSubsequences_Found = true)
    (hR : GoSrc.ReverseComplement_Found = true) (hC : GoSrc.complementByte_Found = true)
    (tbl : List UInt8) (f : Bytes → Bool) (seq : Bytes) (k : Nat) :
    GoSrc.CanonicalSubsequences tbl seq (k : Int)
        (fun l => match l.getLast? with | some x => f x | none => true)
      = Sequtil.canonicalLog tbl f seq k := by
  refine (congrArg (GoSrc.CanonicalSubsequences tbl seq k) (funext fun l => ?_ : _ = lastH f)).trans ?_
  · unfold lastH; cases l.getLast? <;> rfl
  rw [CanonicalSubsequences_hist hF hR hC, Sequtil.canonical_eq_map, Sequtil.canonicalLog_eq_map, Option.map_map]
  congr 1; funext rc
  simp only [Function.comp, takeThroughH_lastH, Sequtil.canonLoop_eq_takeThrough, List.range_eq_range']

/-- Go's `if b >= 'a' { b -= 'a' - 'A' }` -/
def up (b : UInt8) : UInt8 := if b ≥ 97 then b - 32 else b

/-- The body of the `for i := 0; i < len(src); i += 3` loop of the generated `Translate`, exactly as
`unfold GoSrc.Translate; simp only [Option.pure_def, Option.bind_eq_bind]` leaves it: `Translate_eq` closes that goal
with `trLoop` by definitional equality, so this text follows the translator's output. -/
def trBody (src : List (List UInt8 × UInt8)) (s : Bytes) :
    Int → Bytes × Bytes → Option (ForInStep (Bytes × Bytes)) :=
  fun i __s =>
    (slice s i (i + 3)).bind fun __do_lift =>
      (forIn (upTo (len (copyInto __s.snd __do_lift))) (copyInto __s.snd __do_lift) fun j __s =>
            (idx __s j).bind fun __do_lift =>
              if __do_lift ≥ 97 then
                (idx __s j).bind fun __do_lift =>
                  (setIdx __s j (__do_lift - 32)).bind fun buf => some (ForInStep.yield buf)
              else some (ForInStep.yield __s)).bind
        fun __s_1 =>
        if (mapGet src __s_1 0 == 0) = true then
          (none : Option Unit).bind fun __r => some (ForInStep.yield (__s.fst ++ [mapGet src __s_1 0], __s_1))
        else some (ForInStep.yield (__s.fst ++ [mapGet src __s_1 0], __s_1))

/-- `for j := range buf { if buf[j] >= 'a' { buf[j] -= 32 } }` -/
theorem upcase_loop (buf : Bytes) :
    (forIn (upTo (len buf)) buf fun j (__s : Bytes) =>
            (idx __s j).bind fun __do_lift =>
              if __do_lift ≥ 97 then
                (idx __s j).bind fun __do_lift =>
                  (setIdx __s j (__do_lift - 32)).bind fun buf => some (ForInStep.yield buf)
              else some (ForInStep.yield __s)) = some (buf.map up) := by
  apply forIn_upTo_eq buf.length (fun k s => s = (buf.take k).map up ++ buf.drop k)
  · simp
  · rintro k s hk rfl
    have hl : ((buf.take k).map up).length = k := by simp; omega
    have hi : idx ((buf.take k).map up ++ buf.drop k) (k : Int) = some buf[k] := by
      rw [idx_ofNat, List.getElem?_append_right (by omega), hl, Nat.sub_self, List.drop_eq_getElem_cons hk]; rfl
    refine ⟨(buf.take (k + 1)).map up ++ buf.drop (k + 1), ?_, rfl⟩
    rw [List.take_succ_eq_append_getElem hk, List.map_append, List.append_assoc]
    simp only [hi, Option.bind_some, setIdx_ofNat]
    have hu : [buf[k]].map up = [if buf[k] ≥ 97 then buf[k] - 32 else buf[k]] := rfl
    by_cases h97 : buf[k] ≥ 97
    · rw [if_pos h97, if_pos (by rw [List.length_append, hl, List.length_drop]; omega),
        List.set_append_right _ _ (by omega), hl, Nat.sub_self, List.drop_eq_getElem_cons hk, hu, if_pos h97]
      rfl
    · rw [if_neg h97, List.drop_eq_getElem_cons hk, hu, if_neg h97]
      rfl
  · rintro _ rfl; simp

theorem slice_cons3 (a b c : UInt8) (rest : Bytes) (k : Nat) :
    slice (a :: b :: c :: rest) (((k + 1 : Nat) : Int) * 3) (((k + 1 : Nat) : Int) * 3 + 3)
      = slice rest ((k : Int) * 3) ((k : Int) * 3 + 3) := by
  unfold slice
  have e1 : (((k + 1 : Nat) : Int) * 3).toNat = k * 3 + 3 := by omega
  have e2 : ((k : Int) * 3).toNat = k * 3 := by omega
  have e3 : (((k + 1 : Nat) : Int) * 3 + 3 - ((k + 1 : Nat) : Int) * 3).toNat = 3 := by omega
  have e4 : ((k : Int) * 3 + 3 - (k : Int) * 3).toNat = 3 := by omega
  rw [e1, e2, e3, e4]
  simp only [List.length_cons]
  by_cases h : k * 3 + 3 ≤ rest.length
  · rw [if_pos (by omega), if_pos (by omega)]
    rfl
  · rw [if_neg (by omega), if_neg (by omega)]

theorem trBody_shift (src : List (List UInt8 × UInt8)) (a b c : UInt8) (rest : Bytes) (k : Nat) :
    trBody src (a :: b :: c :: rest) (((k + 1 : Nat) : Int) * 3) = trBody src rest ((k : Int) * 3) := by
  unfold trBody
  rw [slice_cons3]

theorem trBody_zero (src : List (List UInt8 × UInt8)) (obs : Sequtil.CodonTable)
    (hT : ∀ a b c : UInt8, mapGet src [up a, up b, up c] 0 = ((Sequtil.codon obs a b c).getD 0))
    (hnz : ∀ a b c v, Sequtil.codon obs a b c = some v → v ≠ 0)
    (a b c : UInt8) (rest dst buf : Bytes) (hb : buf.length = 3) :
    trBody src (a :: b :: c :: rest) 0 (dst, buf) =
      (Sequtil.codon obs a b c).map fun v => ForInStep.yield (dst ++ [v], [up a, up b, up c]) := by
  unfold trBody
  have hs : slice (a :: b :: c :: rest) 0 (0 + 3) = some [a, b, c] := by
    unfold slice; simp; omega
  have hc : copyInto buf [a, b, c] = [a, b, c] := by
    unfold copyInto; simp [hb]
  simp only [hs, Option.bind_some, hc, upcase_loop, List.map_cons, List.map_nil, hT]
  cases h : Sequtil.codon obs a b c with
  | none => simp
  | some v =>
    have := hnz a b c v h
    simp [this]

theorem trLoop (src : List (List UInt8 × UInt8)) (obs : Sequtil.CodonTable)
    (hT : ∀ a b c : UInt8, mapGet src [up a, up b, up c] 0 = ((Sequtil.codon obs a b c).getD 0))
    (hnz : ∀ a b c v, Sequtil.codon obs a b c = some v → v ≠ 0) :
    ∀ (n : Nat) (s dst buf : Bytes), s.length = 3 * n → buf.length = 3 →
      (forIn ((List.range n).map fun (k : Nat) => (k : Int) * 3) (dst, buf) (trBody src s)).bind
          (fun __s => some __s.fst) = Sequtil.translate obs dst s := by
  intro n
  induction n with
  | zero =>
    intro s dst buf hs hb
    have : s = [] := List.length_eq_zero_iff.mp (by omega)
    subst this
    simp [Sequtil.translate]
  | succ n ih =>
    intro s dst buf hs hb
    match s, hs with
    | a :: b :: c :: rest, hs =>
      have hr : rest.length = 3 * n := by simp only [List.length_cons] at hs; omega
      rw [List.range_succ_eq_map, List.map_cons, List.map_map, List.forIn_cons]
      have h0 : ((0 : Nat) : Int) * 3 = 0 := by omega
      rw [h0, trBody_zero src obs hT hnz a b c rest dst buf hb]
      simp only [Sequtil.translate]
      cases h : Sequtil.codon obs a b c with
      | none => rfl
      | some v =>
        simp only [Option.map_some, Option.bind_eq_bind, Option.bind_some]
        rw [← ih rest (dst ++ [v]) [up a, up b, up c] hr rfl]
        congr 1
        rw [List.forIn_map, List.forIn_map]
        apply forIn_congr_mem
        intro k _ st
        exact congrFun (trBody_shift src a b c rest k) st

/-- `src` is the source's map literal (upper-case codons), `obs` a table of all accepted raw triples; `hT`: they agree
after upper-casing (0 = absent), `hnz`: no accepted triple maps to 0, Go's "absent".  C14Go discharges both. -/
theorem Translate_eq (hF : GoSrc.Translate_Found = true)
    (src : List (List UInt8 × UInt8)) (obs : Sequtil.CodonTable)
    (hT : ∀ a b c : UInt8, mapGet src [up a, up b, up c] 0 = ((Sequtil.codon obs a b c).getD 0))
    (hnz : ∀ a b c v, Sequtil.codon obs a b c = some v → v ≠ 0) (dst s : Bytes) :
    GoSrc.Translate src dst s = Sequtil.translate obs dst s := by
  first
  | exact absurd hF (by decide)
  | (unfold GoSrc.Translate
     simp only [Option.pure_def, Option.bind_eq_bind]
     have hm : (len s).tmod 3 = ((s.length % 3 : Nat) : Int) := by
       unfold len; rw [Int.tmod_eq_emod_of_nonneg (by omega)]; omega
     by_cases h3 : s.length % 3 = 0
     · have hne : ((len s).tmod 3 != 0) = false := by rw [hm, h3]; rfl
       rw [hne]
       simp only [Bool.false_eq_true, if_false]
       have hu : upToStep (len s) 3 = (List.range (s.length / 3)).map fun (k : Nat) => (k : Int) * 3 := by
         unfold upToStep len
         have : ((s.length : Int).toNat + (3 : Int).toNat - 1) / (3 : Int).toNat = s.length / 3 := by
           simp only [Int.toNat_natCast, show (3 : Int).toNat = 3 from rfl]; omega
         rw [this]
       rw [hu]
       exact trLoop src obs hT hnz (s.length / 3) s dst (List.replicate 3 0) (by omega) rfl
     · have hne : ((len s).tmod 3 != 0) = true := by
         rw [hm]; simp only [bne_iff_ne, ne_eq]; omega
       rw [hne, Sequtil.translate_eq, if_neg h3]
       rfl)

theorem TranslateReadingFrames_eq (hF : GoSrc.TranslateReadingFrames_Found = true)
    (hTr : GoSrc.Translate_Found = true)
    (src : List (List UInt8 × UInt8)) (obs : Sequtil.CodonTable)
    (hT : ∀ a b c : UInt8, mapGet src [up a, up b, up c] 0 = ((Sequtil.codon obs a b c).getD 0))
    (hnz : ∀ a b c v, Sequtil.codon obs a b c = some v → v ≠ 0) (seq : Bytes) :
    GoSrc.TranslateReadingFrames src seq = Sequtil.frames obs seq := by
  first
  | exact absurd hF (by decide)
  | (unfold GoSrc.TranslateReadingFrames Sequtil.frames
     simp only [Option.pure_def, Option.bind_eq_bind]
     have h : upTo 3 = [((0 : Nat) : Int), ((1 : Nat) : Int), ((2 : Nat) : Int)] := rfl
     rw [h]
     simp only [List.forIn_cons, List.forIn_nil, slice_from, slice_upto3, Option.bind_some,
       Translate_eq hTr src obs hT hnz, List.drop_zero, List.mapM_cons, List.mapM_nil]
     have hf : ∀ x : Bytes, Sequtil.translate obs [] (x.take (x.length / 3 * 3)) = Sequtil.frame obs x :=
       fun _ => rfl
     simp only [hf]
     cases Sequtil.frame obs seq with
     | none => rfl
     | some r0 =>
       cases Sequtil.frame obs (seq.drop 1) with
       | none => rfl
       | some r1 =>
         cases Sequtil.frame obs (seq.drop 2) with
         | none => rfl
         | some r2 => rfl)

/-! ## The 64-entry source map `codonToAmino` is the standard genetic code on the upper-case codons
(a finite check on the map), hence agrees, after upper-casing, with any observed table of all accepted raw
triples that is the standard code as well. -/

def isUp4 (b : UInt8) : Bool := b == 65 || b == 67 || b == 71 || b == 84

/-- the 64 upper-case codons, as keys of the source map -/
def upperCodons : List (List UInt8) :=
  [65, 67, 71, 84].flatMap fun a => [65, 67, 71, 84].flatMap fun b => [65, 67, 71, 84].map fun c => [a, b, c]

/-- every entry of the source map is an upper-case codon with its standard letter, and all 64 are keys -/
def srcCodonsOK (src : List (List UInt8 × UInt8)) : Bool :=
  (src.all fun e => match e.1 with
    | [a, b, c] => isUp4 a && isUp4 b && isUp4 c && Sequtil.stdCodon a b c == some e.2
    | _ => false)
  && upperCodons.all fun t => src.any (·.1 == t)

theorem isDNA_of_up : ∀ b : UInt8, isUp4 (up b) = true → Sequtil.isDNA b = true := by
  apply Sequtil.forall_uint8; decide +kernel

theorem up_of_isDNA : ∀ b : UInt8, Sequtil.isDNA b = true →
    up b ∈ [65, 67, 71, 84] ∧ Sequtil.baseIdx (up b) = Sequtil.baseIdx b :=
  Sequtil.forall_isDNA (by decide +kernel)

theorem mapGet_src_std {src : List (List UInt8 × UInt8)} (hsrc : srcCodonsOK src = true) (a b c : UInt8) :
    mapGet src [up a, up b, up c] 0 = (Sequtil.stdCodon a b c).getD 0 := by
  simp only [srcCodonsOK, Bool.and_eq_true, List.all_eq_true] at hsrc
  unfold mapGet
  cases hf : src.find? (fun e => e.1 == [up a, up b, up c]) with
  | some e =>
    -- the entry found is standard for the upper-cased triple, whose bases then are `ACGTacgt`
    have he : e.1 = [up a, up b, up c] := by simpa using List.find?_some hf
    have h1 := hsrc.1 e (List.mem_of_find?_eq_some hf)
    rw [he] at h1
    simp only [Bool.and_eq_true, beq_iff_eq] at h1
    obtain ⟨⟨⟨ha, hb⟩, hc⟩, hv⟩ := h1
    have ha := up_of_isDNA a (isDNA_of_up a ha)
    have hb := up_of_isDNA b (isDNA_of_up b hb)
    have hc := up_of_isDNA c (isDNA_of_up c hc)
    have : Sequtil.stdCodon a b c = some e.2 := by
      rw [← hv]; unfold Sequtil.stdCodon; rw [ha.2, hb.2, hc.2]
    rw [this]; rfl
  | none =>
    -- nothing found: were `a b c` all bases, the upper-cased triple would be one of the 64 keys
    have : Sequtil.stdCodon a b c = none := by
      cases hd : Sequtil.isDNA a && Sequtil.isDNA b && Sequtil.isDNA c
      · exact Sequtil.stdCodon_eq_none hd
      · exfalso
        simp only [Bool.and_eq_true] at hd
        have hm : [up a, up b, up c] ∈ upperCodons := by
          simp only [upperCodons, List.mem_flatMap, List.mem_map]
          exact ⟨_, (up_of_isDNA a hd.1.1).1, _, (up_of_isDNA b hd.1.2).1, _, (up_of_isDNA c hd.2).1, rfl⟩
        obtain ⟨e, he, hk⟩ := List.any_eq_true.mp (hsrc.2 _ hm)
        exact absurd hk (by simpa using List.find?_eq_none.mp hf e he)
    rw [this]; rfl

theorem AminoName_none (hF : GoSrc.AminoName_Found = true) (g : List (UInt8 × List (List UInt8))) (b : UInt8)
    (h : mapHas g (Sequtil.upperAZ b) = false) : GoSrc.AminoName g b = none := by
  first
  | exact absurd hF (by decide)
  | (unfold GoSrc.AminoName
     unfold Sequtil.upperAZ at h
     by_cases hc : 97 ≤ b ∧ b ≤ 122 <;> simp [hc] at h <;> simp [hc, h])

theorem AminoName_eq (hF : GoSrc.AminoName_Found = true) (g : List (UInt8 × List (List UInt8)))
    {tbl : List (UInt8 × Bytes × Bytes)} {aa : Bytes} (hok : Sequtil.aminoTableOK tbl aa = true)
    (hent : (tbl.all fun e => GoSrc.AminoName g e.1 == some e.2) = true)
    (hkeys : (g.all fun e => aa.contains e.1) = true) (b : UInt8) :
    GoSrc.AminoName g b = Sequtil.aminoName tbl b := by
  cases hn : Sequtil.aminoName tbl b with
  | some v => simpa using List.all_eq_true.mp hent _ (Sequtil.aminoName_some_mem hn)
  | none =>
    apply AminoName_none hF
    rw [Bool.eq_false_iff]
    intro hm
    obtain ⟨e, he, hk⟩ := List.find?_isSome.mp hm
    have : aa.contains (Sequtil.upperAZ b) = true := by
      rw [← beq_iff_eq.mp hk]; exact List.all_eq_true.mp hkeys e he
    rw [← (Sequtil.aminoTableOK_byte hok b).1, hn] at this
    cases this

end Bio.GoSrcLemmas

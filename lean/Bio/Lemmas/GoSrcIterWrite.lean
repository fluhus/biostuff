/-
  The iterator closures `(*reader).iter` of formats/fasta/iter.go and formats/fastq/iter.go and the
  `Write` methods of formats/fasta/fasta.go and formats/fastq/fastq.go as translated from the Go
  source text (`GoSrc.fasta_iter`, `fastq_iter` with a fuel bound on the `for {}` loop and the log of
  the items handed to the consumer; `fasta_Write`, `fastq_Write` over the failing writer `GoRt.Wr`).
  An iterator obeys the history law `LawO` for the model decode; `Write` performs the model's `Write`
  calls (`Fasta.writeCalls 80`, `[Fastq.encode r]`), stopping at the first error.

  Guarded by the translator's `<f>_Found` flags as in `Bio.Lemmas.GoSrc`.
-/
import Bio.Lemmas.GoSrcReaders
import Bio.Lemmas.TakeThrough
import Bio.Lemmas.Writer
set_option linter.unusedVariables false -- the `hF` of the flag idiom (Lemmas/GoSrc.lean)
set_option linter.unusedSimpArgs false
namespace Bio.GoSrcLemmas
open Bio Bio.GoRt Bio.Generated

/-! ## Iterators: the generic `for { x, err := r.read(); … }` loop -/

/-- what the `for { x, err := r.read(); … }` loop of an `iter()` closure computes, by recursion on the
fuel; `acc` = the items handed over so far, `h` = the consumer, asked about the whole history -/
def iterSpec {ρ σ : Type} (read : σ → Option ((Option ρ × GoErr) × σ)) (h : List (Option ρ × GoErr) → Bool) :
    Nat → List (Option ρ × GoErr) → σ → Option (List (Option ρ × GoErr))
  | 0, _, _ => none
  | fuel + 1, acc, s =>
    match read s with
    | none => none
    | some ((x, err), s') =>
      if err != GoErr.nil then
        (if err != GoErr.eof then some (acc ++ [(none, err)]) else some acc)
      else if h (acc ++ [(x, GoErr.nil)]) then iterSpec read h fuel (acc ++ [(x, GoErr.nil)]) s'
      else some (acc ++ [(x, GoErr.nil)])

/-- the state of the translated loop: the value returned from inside the loop, the log, the reader
state, `outOfFuel` -/
abbrev IterSt (ρ σ : Type) := Option (List (Option ρ × GoErr)) × List (Option ρ × GoErr) × σ × Bool

/-- The body of the translated loop after `x, err := r.read()`, and `iterFin`, what follows the
loop, are written in the very shape the `do` translation produces, so that a translated closure is
an instance of `iter_loop` by unfolding alone. -/
def iterStep {ρ σ : Type} (h : List (Option ρ × GoErr) → Bool) (st : IterSt ρ σ) (r : (Option ρ × GoErr) × σ) :
    Option (ForInStep (IterSt ρ σ)) :=
  if r.1.2 != GoErr.nil then
    (if r.1.2 != GoErr.eof then some (.done (none, st.2.1 ++ [(none, r.1.2)], r.2, false))
     else some (.done (none, st.2.1, r.2, false)))
  else if !h (st.2.1 ++ [(r.1.1, GoErr.nil)]) then
    some (.done (some (st.2.1 ++ [(r.1.1, GoErr.nil)]), st.2.1 ++ [(r.1.1, GoErr.nil)], r.2, st.2.2.2))
  else some (.yield (none, st.2.1 ++ [(r.1.1, GoErr.nil)], r.2, st.2.2.2))

def iterFin {ρ σ : Type} (st : IterSt ρ σ) : Option (List (Option ρ × GoErr)) :=
  orElse st fun s => if s.2.2 = true then none else some s.1

theorem iter_loop {ρ σ : Type} (read : σ → Option ((Option ρ × GoErr) × σ)) (h : List (Option ρ × GoErr) → Bool)
    (l : List Nat) : ∀ (log : List (Option ρ × GoErr)) (s : σ),
    (forIn l ((none, log, s, true) : IterSt ρ σ) fun _ st => (read st.2.2.1).bind (iterStep h st)).bind iterFin
      = iterSpec read h l.length log s := by
  induction l with
  | nil => intro log s; rfl
  | cons a l ih =>
    intro log s
    simp only [List.forIn_cons, List.length_cons, iterSpec]
    cases hr : read s with
    | none => rfl
    | some r =>
      obtain ⟨⟨x, err⟩, s'⟩ := r
      simp only [Option.bind_some, Option.bind_eq_bind, iterStep]
      by_cases h1 : (err != GoErr.nil) = true
      · by_cases h2 : (err != GoErr.eof) = true <;> simp [h1, h2, iterFin, orElse]
      · by_cases h3 : h (log ++ [(x, GoErr.nil)]) = true
        · simp only [h1, h3, if_false, Bool.false_eq_true, if_true, Bool.not_true]
          exact ih (log ++ [(x, GoErr.nil)]) s'
        · simp [h1, h3, iterFin, orElse]

theorem fasta_iter_spec (hF : GoSrc.fasta_iter_Found = true) (fuel : Nat) (src : Bytes) (e : Ending)
    (h : List (Option (Bytes × Bytes) × GoErr) → Bool) :
    GoSrc.fasta_iter fuel src e h = iterSpec (fun s => GoSrc.fasta_read s e) h fuel [] src := by
  first
  | exact absurd hF (by decide)
  | exact (iter_loop (fun s => GoSrc.fasta_read s e) h (List.range fuel) [] src).trans
      (by rw [List.length_range])

theorem fastq_iter_spec (hF : GoSrc.fastq_iter_Found = true) (fuel : Nat) (ls : List Bytes) (e : Ending)
    (h : List (Option (Bytes × Bytes × Bytes) × GoErr) → Bool) :
    GoSrc.fastq_iter fuel ls e h = iterSpec (fun s => GoSrc.fastq_read s e) h fuel [] ls := by
  first
  | exact absurd hF (by decide)
  | exact (iter_loop (fun s => GoSrc.fastq_read s e) h (List.range fuel) [] ls).trans
      (by rw [List.length_range])

/-- the loop asks the consumer only about histories that end in a record `(x, nil)`: its verdict on
the error item is ignored -/
theorem iterSpec_congr {ρ σ : Type} (read : σ → Option ((Option ρ × GoErr) × σ))
    (h g : List (Option ρ × GoErr) → Bool) (hg : ∀ l x, h (l ++ [(x, GoErr.nil)]) = g (l ++ [(x, GoErr.nil)])) :
    ∀ (fuel : Nat) (acc : List (Option ρ × GoErr)) (s : σ), iterSpec read h fuel acc s = iterSpec read g fuel acc s := by
  intro fuel
  induction fuel with
  | zero => intro acc s; rfl
  | succ fuel ih =>
    intro acc s
    simp only [iterSpec, hg, ih]

/-- The loop over a `read` whose every call is a `ReadStep` for `items` logs, given more fuel than
the reader's size, `items` (as pairs, `raw`) cut by the consumer.  The error item is the last item
of `items`, so it does not matter that the loop ignores the consumer's verdict on it. -/
theorem iterSpec_law {ρ σ τ : Type} (read : σ → Option ((Option ρ × GoErr) × σ))
    (raw : Item τ → Option ρ × GoErr) (items : σ → List (Item τ)) (size : σ → Nat)
    (hraw : raw .err = (none, GoErr.other))
    (hstep : ∀ s, ∃ r err s', read s = some ((r, err), s') ∧ ReadStep raw items size s r err s')
    (h : List (Option ρ × GoErr) → Bool) :
    ∀ (fuel : Nat) (acc : List (Option ρ × GoErr)) (s : σ), size s < fuel →
      iterSpec read h fuel acc s = some (takeThroughH h acc ((items s).map raw)) := by
  intro fuel
  induction fuel with
  | zero => intro acc s hs; omega
  | succ fuel ih =>
    intro acc s hs
    obtain ⟨r, err, s', hr, hm⟩ := hstep s
    rw [iterSpec, hr]
    cases err with
    | nil =>
      obtain ⟨a, ha, hi, hlt⟩ := hm
      rw [hi, List.map_cons, ha, takeThroughH_cons]
      show (if h (acc ++ [(r, GoErr.nil)]) = true then iterSpec read h fuel (acc ++ [(r, GoErr.nil)]) s'
        else some _) = _
      rw [ih _ s' (by omega)]
      split <;> rfl
    | eof => rw [show items s = [] from hm]; rfl
    | other =>
      rw [show items s = [.err] from hm, List.map_cons, hraw]
      exact congrArg some (takeThroughH_singleton h acc _).symm

/-! ### FASTA / FASTQ: the history law -/

theorem fasta_iter_law (hI : GoSrc.fasta_iter_Found = true) (hR : GoSrc.fasta_read_Found = true)
    (fuel : Nat) (src : Bytes) (e : Ending) (hf : src.length + 1 ≤ fuel) :
    LawO (GoSrc.fasta_iter fuel src e) ((Fasta.decodeSrc e src).map faRaw) := fun h => by
  rw [fasta_iter_spec hI,
    iterSpec_law _ faRaw _ List.length rfl (fasta_read_step hR e) h fuel [] src (by omega)]

theorem fastq_iter_law (hI : GoSrc.fastq_iter_Found = true) (hR : GoSrc.fastq_read_Found = true)
    (fuel : Nat) (ls : List Bytes) (e : Ending) (hf : ls.length + 1 ≤ fuel) :
    LawO (GoSrc.fastq_iter fuel ls e) ((Fastq.fromLines e ls).map fqRaw) := fun h => by
  rw [fastq_iter_spec hI,
    iterSpec_law _ fqRaw _ List.length rfl (fastq_read_step hR e) h fuel [] ls (by omega)]

/-! ## Writers -/

theorem fastq_Write_eq (hF : GoSrc.fastq_Write_Found = true) (n s q : Bytes) (w : Wr) :
    GoSrc.fastq_Write n s q w
      = some ((wrWrite w (Fastq.encode ⟨n, s, q⟩)).2, (wrWrite w (Fastq.encode ⟨n, s, q⟩)).1) := by
  first
  | exact absurd hF (by decide)
  | (unfold GoSrc.fastq_Write
     simp [Fastq.encode])

/-- `80` is the Go constant `fastaLineLen`, a literal in the translated body. -/
theorem fasta_Write_eq (hF : GoSrc.fasta_Write_Found = true) (n s : Bytes) (w : Wr) :
    GoSrc.fasta_Write n s w
      = some (let r := wrWriteAll w (Fasta.writeCalls 80 ⟨n, s⟩); (r.2, r.1)) := by
  first
  | exact absurd hF (by decide)
  | (unfold GoSrc.fasta_Write
     have hup : upToStep (len s) 80 = (List.range ((s.length + 80 - 1) / 80)).map fun (k : Nat) => (k : Int) * 80 := rfl
     rw [hup]
     refine ((Runs.cons _ (Runs.loop _ (fun i => (s.drop i.toNat).take 80 ++ [10]) _ (fun i hi _ w => ?_)
       .nil)).of_eq ?_) w
     · obtain ⟨j, hj, rfl⟩ := List.mem_map.mp hi
       show ((slice s ((j * 80 : Nat) : Int) (min (((j * 80 : Nat) : Int) + ((80 : Nat) : Int)) (len s))).bind
         fun l => _) = _
       -- `Option.bind_some` first: left to the unifier, `(some l).bind f =?= match …` is tried by
       -- evaluating `wrWrite`, i.e. `List.take 80 …`
       rw [slice_window s (j * 80) 80 (by have := List.mem_range.mp hj; omega), Option.bind_some]
       exact wrStep_eq _
     · rw [Fasta.writeCalls, Fasta.wrap_eq_map_range 80 (by decide), List.map_map, List.map_map,
         List.append_nil]
       rfl)

/-! ### On a writer that accepts `k` more bytes -/

/-- FASTA `Write` on a writer with `k` bytes of room: an error iff the record's text is longer than
`k`; the bytes accepted are the first `k` bytes of the text -/
theorem fasta_Write_fault (hF : GoSrc.fasta_Write_Found = true) (n s : Bytes) (k : Nat) (o : Bytes) :
    GoSrc.fasta_Write n s ⟨k, o⟩
      = some (if (Fasta.encode 80 ⟨n, s⟩).length ≤ k then GoErr.nil else GoErr.other,
          ⟨k - ((Fasta.encode 80 ⟨n, s⟩).take k).length, o ++ (Fasta.encode 80 ⟨n, s⟩).take k⟩) := by
  rw [fasta_Write_eq hF, wrWriteAll_take]
  rfl

theorem fastq_Write_fault (hF : GoSrc.fastq_Write_Found = true) (n s q : Bytes) (k : Nat) (o : Bytes) :
    GoSrc.fastq_Write n s q ⟨k, o⟩
      = some (if (Fastq.encode ⟨n, s, q⟩).length ≤ k then GoErr.nil else GoErr.other,
          ⟨k - ((Fastq.encode ⟨n, s, q⟩).take k).length, o ++ (Fastq.encode ⟨n, s, q⟩).take k⟩) := by
  rw [fastq_Write_eq hF, ← wrWriteAll_singleton, wrWriteAll_take, List.flatten_singleton]

/-- `for _, r := range rs { if err := r.Write(w); err != nil { return err } }` over the translated
FASTA `Write` -/
def fastaWriteAll : List Fasta.Fa → Wr → Option (GoErr × Wr)
  | [], w => some (GoErr.nil, w)
  | r :: rs, w =>
    match GoSrc.fasta_Write r.name r.seq w with
    | none => none
    | some (GoErr.nil, w') => fastaWriteAll rs w'
    | some (err, w') => some (err, w')

def fastqWriteAll : List Fastq.Fq → Wr → Option (GoErr × Wr)
  | [], w => some (GoErr.nil, w)
  | r :: rs, w =>
    match GoSrc.fastq_Write r.name r.seq r.quals w with
    | none => none
    | some (GoErr.nil, w') => fastqWriteAll rs w'
    | some (err, w') => some (err, w')

/-- Writing records one after the other with a per-record writer `W` that, on a writer with `k` bytes
of room, accepts the first `k` bytes of `enc r`: with room for all the texts, all of them are
written.  `F` is the loop over `W` (`fastaWriteAll`, `fastqWriteAll`), given by its two equations. -/
theorem writeAll_ok {α : Type} (W : α → Wr → Option (GoErr × Wr)) (enc : α → Bytes)
    (F : List α → Wr → Option (GoErr × Wr)) (hnil : ∀ w, F [] w = some (GoErr.nil, w))
    (hcons : ∀ r rs w w', W r w = some (GoErr.nil, w') → F (r :: rs) w = F rs w')
    (hW : ∀ r k o, W r ⟨k, o⟩ = some (if (enc r).length ≤ k then GoErr.nil else GoErr.other,
      ⟨k - ((enc r).take k).length, o ++ (enc r).take k⟩)) :
    ∀ (rs : List α) (k : Nat) (o : Bytes), (rs.map enc).flatten.length ≤ k →
      F rs ⟨k, o⟩ = some (GoErr.nil, ⟨k - (rs.map enc).flatten.length, o ++ (rs.map enc).flatten⟩) := by
  intro rs
  induction rs with
  | nil => intro k o _; simp [hnil]
  | cons r rs ih =>
    intro k o h
    rw [List.map_cons, List.flatten_cons, List.length_append] at h ⊢
    have h1 : (enc r).length ≤ k := by omega
    rw [hcons r rs _ _ (by rw [hW, if_pos h1]), List.take_of_length_le h1, ih _ _ (by omega),
      List.append_assoc, Nat.sub_sub]

end Bio.GoSrcLemmas

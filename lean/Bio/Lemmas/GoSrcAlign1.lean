/-
  The part of the Go-source-level proofs about align/{align,global,local}.go (`Bio/Props/C08Go.lean`) that
  does not mention `Bio.Generated.GoSrc`: each loop is a statement about an arbitrary body that behaves as
  the translated one does, on the model's table flattened row-major into translated `block`s.
-/
import Bio.Lemmas.GoRt
import Bio.Lemmas.Align

namespace Bio.GoSrcLemmas
open Bio Bio.GoRt

/-- a model step as the translated `Step` byte -/
def encStep : Align.Step → UInt8
  | .none => 0
  | .mch => 1
  | .del => 2
  | .ins => 3

/-- a model cell as the translated `block{score, step}` -/
def encCell (c : Align.Cell) : Int × UInt8 := (c.score, encStep c.step)

/-- the translated `map[[2]byte]float64` as the model's partial matrix -/
def matOf (m : List (List UInt8 × Int)) : Align.PMat :=
  fun x y => (m.find? fun e => e.1 == [x, y]).map (·.2)

/-- a translated `Step` byte as a model step (bytes other than 1, 2, 3 are no step) -/
def decStep (x : UInt8) : Align.Step :=
  if x = 1 then .mch else if x = 2 then .del else if x = 3 then .ins else .none

@[simp] theorem decStep_encStep (s : Align.Step) : decStep (encStep s) = s := by
  cases s <;> rfl

@[simp] theorem map_decStep_encStep (l : List Align.Step) : (l.map encStep).map decStep = l := by
  induction l with
  | nil => rfl
  | cons s l ih => simp [ih]

theorem encStep_inj {s t : Align.Step} (h : encStep s = encStep t) : s = t := by
  cases s <;> cases t <;> first | rfl | exact absurd h (by decide)

@[simp] theorem encStep_eq_zero (s : Align.Step) : (encStep s == 0) = (s == .none) := by
  cases s <;> decide
@[simp] theorem encStep_ne_two (s : Align.Step) : (encStep s != 2) = (s != .del) := by
  cases s <;> decide
@[simp] theorem encStep_ne_three (s : Align.Step) : (encStep s != 3) = (s != .ins) := by
  cases s <;> decide

@[simp] theorem encCell_fst (c : Align.Cell) : (encCell c).1 = c.score := rfl
@[simp] theorem encCell_snd (c : Align.Cell) : (encCell c).2 = encStep c.step := rfl

/-- flat index of cell `(i, j)` in a table with rows of length `bn` -/
def alnPos (bn i j : Nat) : Nat := i * bn + j

theorem alnPos_div (bn i j : Nat) (hj : j < bn) : alnPos bn i j / bn = i := by
  unfold alnPos
  rw [Nat.mul_comm, Nat.mul_add_div (by omega), Nat.div_eq_of_lt hj]; rfl

theorem alnPos_mod (bn i j : Nat) (hj : j < bn) : alnPos bn i j % bn = j := by
  unfold alnPos
  rw [Nat.mul_comm, Nat.mul_add_mod, Nat.mod_eq_of_lt hj]

theorem alnPos_exists (bn k : Nat) (hbn : 0 < bn) : ∃ i j, j < bn ∧ k = alnPos bn i j :=
  ⟨k / bn, k % bn, Nat.mod_lt _ hbn, by unfold alnPos; rw [Nat.mul_comm]; exact (Nat.div_add_mod k bn).symm⟩

theorem alnPos_succ_left (bn i j : Nat) : alnPos bn (i + 1) j = alnPos bn i j + bn := by
  unfold alnPos; rw [Nat.succ_mul]; omega

theorem alnPos_succ_right (bn i j : Nat) : alnPos bn i (j + 1) = alnPos bn i j + 1 := by
  unfold alnPos; omega

theorem alnPos_zero (bn : Nat) : alnPos bn 0 0 = 0 := by simp [alnPos]

theorem alnPos_lt (bn an i j : Nat) (hi : i < an) (hj : j < bn) : alnPos bn i j < an * bn := by
  unfold alnPos
  calc i * bn + j < i * bn + bn := by omega
    _ = (i + 1) * bn := by rw [Nat.succ_mul]
    _ ≤ an * bn := Nat.mul_le_mul_right _ hi

theorem alnPos_row_lt (bn an i j : Nat) (h : alnPos bn i j < an * bn) : i < an := by
  unfold alnPos at h
  apply Nat.lt_of_not_le
  intro hle
  have : an * bn ≤ i * bn := Nat.mul_le_mul_right _ hle
  omega

theorem quo_alnPos (bn i j : Nat) (hj : j < bn) :
    quo ((alnPos bn i j : Nat) : Int) (bn : Int) = some (i : Int) := by
  unfold quo
  have h0 : ¬ ((bn : Int) = 0) := by omega
  rw [if_neg h0, Int.natCast_tdiv_eq_ediv, ← Int.natCast_ediv, alnPos_div bn i j hj]

theorem rem_alnPos (bn i j : Nat) (hj : j < bn) :
    rem ((alnPos bn i j : Nat) : Int) (bn : Int) = some (j : Int) := by
  unfold rem
  have h0 : ¬ ((bn : Int) = 0) := by omega
  rw [if_neg h0, ← Int.ofNat_tmod, alnPos_mod bn i j hj]

theorem alnPos_sub_one (bn i j : Nat) (h : 1 ≤ j) :
    ((alnPos bn i j : Nat) : Int) - 1 = ((alnPos bn i (j - 1) : Nat) : Int) := by
  obtain ⟨j, rfl⟩ : ∃ j', j = j' + 1 := ⟨j - 1, by omega⟩
  rw [alnPos_succ_right, Nat.add_sub_cancel]; omega

theorem alnPos_sub_bn (bn i j : Nat) (h : 1 ≤ i) :
    ((alnPos bn i j : Nat) : Int) - (bn : Int) = ((alnPos bn (i - 1) j : Nat) : Int) := by
  obtain ⟨i, rfl⟩ : ∃ i', i = i' + 1 := ⟨i - 1, by omega⟩
  rw [alnPos_succ_left, Nat.add_sub_cancel]; omega

/-- cell `k` of the flattened (row-major) model table, as a translated `block` -/
def alnCellF (t : List (List Align.Cell)) (bn k : Nat) : Int × UInt8 :=
  encCell (Align.cellAt t (k / bn) (k % bn))

/-- the model table, flattened, as the translated `[]block` -/
def alnFlat (t : List (List Align.Cell)) (an bn : Nat) : List (Int × UInt8) :=
  (List.range (an * bn)).map (alnCellF t bn)

theorem alnCellF_pos (t : List (List Align.Cell)) (bn i j : Nat) (hj : j < bn) :
    alnCellF t bn (alnPos bn i j) = encCell (Align.cellAt t i j) := by
  unfold alnCellF; rw [alnPos_div bn i j hj, alnPos_mod bn i j hj]

theorem alnFlat_length (t : List (List Align.Cell)) (an bn : Nat) : (alnFlat t an bn).length = an * bn := by
  simp [alnFlat]

theorem alnFlat_getElem? (t : List (List Align.Cell)) (an bn k : Nat) (hk : k < an * bn) :
    (alnFlat t an bn)[k]? = some (alnCellF t bn k) := by
  simp [alnFlat, hk]

theorem alnFlat_pos (t : List (List Align.Cell)) (an bn i j : Nat) (hi : i < an) (hj : j < bn) :
    (alnFlat t an bn)[alnPos bn i j]? = some (encCell (Align.cellAt t i j)) := by
  rw [alnFlat_getElem? t an bn _ (alnPos_lt bn an i j hi hj), alnCellF_pos t bn i j hj]

/-- a loop `for i := range blocks { … blocks[i] = F i … }` that fills cell `k` with `F k` (reading
only already filled cells) or panics when `ok k` fails: it yields the whole table, or panics when
some `ok k` fails -/
theorem aln_dp_loop (F : Nat → Int × UInt8) (ok : Nat → Bool) (N : Nat)
    (body : Int → List (Int × UInt8) → Option (ForInStep (List (Int × UInt8))))
    (hbody : ∀ (k : Nat) (blocks : List (Int × UInt8)), k < N → blocks.length = N →
      (∀ k', k' < k → ok k' = true) → (∀ k', k' < k → blocks[k']? = some (F k')) →
      (∀ k', k ≤ k' → k' < N → blocks[k']? = some (0, 0)) →
      body (Int.ofNat k) blocks = if ok k then some (.yield (blocks.set k (F k))) else none) :
    ∀ (n k : Nat) (blocks : List (Int × UInt8)), k + n = N → blocks.length = N →
      (∀ k', k' < k → ok k' = true) → (∀ k', k' < k → blocks[k']? = some (F k')) →
      (∀ k', k ≤ k' → k' < N → blocks[k']? = some (0, 0)) →
      forIn ((List.range' k n).map Int.ofNat) blocks body
        = if (List.range' k n).all ok then some ((List.range N).map F) else none := by
  intro n
  induction n with
  | zero =>
    intro k blocks hk hlen hok hprev hzero
    have : k = N := by omega
    subst this
    simp only [List.range'_zero, List.map_nil, List.forIn_nil, List.all_nil, if_true, Option.pure_def]
    congr 1
    apply List.ext_getElem?
    intro p
    by_cases hp : p < k
    · rw [hprev p hp]; simp [hp]
    · rw [List.getElem?_eq_none (by omega), List.getElem?_eq_none (by simp; omega)]
  | succ n ih =>
    intro k blocks hk hlen hok hprev hzero
    simp only [List.range'_succ, List.map_cons, List.forIn_cons, List.all_cons]
    rw [hbody k blocks (by omega) hlen hok hprev hzero]
    cases hokk : ok k with
    | false => simp
    | true =>
      simp only [if_true, Option.bind_eq_bind, Option.bind_some, Bool.true_and]
      apply ih (k + 1) _ (by omega) (by simp [hlen])
      · intro k' hk'
        by_cases h : k' = k
        · subst h; exact hokk
        · exact hok k' (by omega)
      · intro k' hk'
        by_cases h : k' = k
        · subst h; rw [List.getElem?_set_self (by omega)]
        · rw [List.getElem?_set_ne (by omega)]; exact hprev k' (by omega)
      · intro k' hk' hk'N
        rw [List.getElem?_set_ne (by omega)]; exact hzero k' (by omega) hk'N

/-- the size of the flat table, as the `int` expression of the Go code -/
theorem aln_toNat (a b : Bytes) :
    ((len a + 1) * (len b + 1)).toNat = (a.length + 1) * (b.length + 1) := by
  unfold len
  have : ((a.length : Int) + 1) * ((b.length : Int) + 1) = (((a.length + 1) * (b.length + 1) : Nat) : Int) := by
    push_cast; rfl
  rw [this]; exact Int.toNat_natCast _

theorem getD_of_lt {α : Type} (l : List α) (d : α) {n : Nat} (h : n < l.length) : l.getD n d = l[n] := by
  rw [List.getD_eq_getElem?_getD, List.getElem?_eq_getElem h, Option.getD_some]

section Dp
open Align

/-- the matrix entries read when cell `(i, j)` is filled (`x = a[i-1]`, `y = b[j-1]`) are present; the
gap-open entry is counted at every cell but the origin: it is read at flat index 1 at the latest -/
def okAt (pm : PMat) (x y : UInt8) : Nat → Nat → Bool
  | 0, 0 => true
  | 0, _ + 1 => (pm GAP GAP).isSome && (pm GAP y).isSome
  | _ + 1, 0 => (pm GAP GAP).isSome && (pm x GAP).isSome
  | _ + 1, _ + 1 => (pm GAP GAP).isSome && (pm x GAP).isSome && (pm GAP y).isSome && (pm x y).isSome

/-- `okAt` at the cell of flat index `k` -/
def alnOk (pm : PMat) (a b : Bytes) (k : Nat) : Bool :=
  okAt pm (a.getD (k / (b.length + 1) - 1) 0) (b.getD (k % (b.length + 1) - 1) 0)
    (k / (b.length + 1)) (k % (b.length + 1))

theorem alnOk_pos (pm : PMat) (a b : Bytes) (i j : Nat) (hj : j < b.length + 1) :
    alnOk pm a b (alnPos (b.length + 1) i j) = okAt pm (a.getD (i - 1) 0) (b.getD (j - 1) 0) i j := by
  unfold alnOk; rw [alnPos_div _ i j hj, alnPos_mod _ i j hj]

theorem alnOk_one (pm : PMat) (a b : Bytes) (h : alnOk pm a b 1 = true) : (pm GAP GAP).isSome := by
  unfold alnOk at h
  have hne : ¬ (1 / (b.length + 1) = 0 ∧ 1 % (b.length + 1) = 0) := fun ⟨h1, h2⟩ => by
    have := Nat.div_add_mod 1 (b.length + 1)
    rw [h1, h2] at this; omega
  generalize 1 / (b.length + 1) = i at h hne
  generalize 1 % (b.length + 1) = j at h hne
  match i, j with
  | 0, 0 => exact absurd ⟨rfl, rfl⟩ hne
  | 0, _ + 1 | _ + 1, 0 => simp only [okAt, Bool.and_eq_true] at h; exact h.1
  | _ + 1, _ + 1 => simp only [okAt, Bool.and_eq_true] at h; exact h.1.1.1

/-- `s := s₀; if c { s += Get(Gap, Gap) }`, then `K s` -/
def addOpen {β : Type} (pm : PMat) (c : Bool) (s : Int) (K : Int → Option β) : Option β :=
  if c then (pm GAP GAP).bind fun g => K (s + g) else K s

/-- What the body of the DP loop does at cell `(i, j)` with the neighbours `D` (diagonal), `U` (up),
`L` (left) and the bytes `x = a[i-1]`, `y = b[j-1]`: it computes the cell, reading the matrix entries
in this order (a missing one is a panic), and goes on with it.  The order of the `bind`s is the order in
which the Go code reads the map; it is what makes the inputs that panic come out as `needed`. -/
def dpCellK {β : Type} (pm : PMat) (x y : UInt8) (D U L : Cell) (K : Cell → Option β) :
    Nat → Nat → Option β
  | 0, 0 => K ⟨0, .none⟩
  | 0, j + 1 => (pm GAP y).bind fun v => addOpen pm (decide (j = 0)) (L.score + v) fun s => K ⟨s, .ins⟩
  | i + 1, 0 => (pm x GAP).bind fun v => addOpen pm (decide (i = 0)) (U.score + v) fun s => K ⟨s, .del⟩
  | _ + 1, _ + 1 =>
    (pm x y).bind fun v1 => (pm x GAP).bind fun v2 =>
      addOpen pm (U.step != .del) (U.score + v2) fun del =>
        (pm GAP y).bind fun v3 => addOpen pm (L.step != .ins) (L.score + v3) fun ins =>
          K (decideOnStep (D.score + v1) del ins)

theorem addOpen_of_isSome {β : Type} {pm : PMat} (h : (pm GAP GAP).isSome) (c : Bool) (s : Int)
    (K : Int → Option β) : addOpen pm c s K = K (s + if c then total pm GAP GAP else 0) := by
  obtain ⟨g, hg⟩ := Option.isSome_iff_exists.1 h
  cases c <;> simp [addOpen, total, hg]

/-- `okAt` counts gap-open at every cell; where the code does not read it, it is known to be there from
flat index 2 on (`hgg`). -/
theorem dpCellK_table {β : Type} (pm : PMat) (loc : Bool) (a b : Bytes) {i j : Nat} (hi : i ≤ a.length)
    (hj : j ≤ b.length) (hgg : 2 ≤ alnPos (b.length + 1) i j → (pm GAP GAP).isSome)
    (K : Cell → Option β) :
    dpCellK pm (a.getD (i - 1) 0) (b.getD (j - 1) 0) (cellAt (table (total pm) loc a b) (i - 1) (j - 1))
        (cellAt (table (total pm) loc a b) (i - 1) j) (cellAt (table (total pm) loc a b) i (j - 1))
        (fun c => K (clamp loc c)) i j
      = if okAt pm (a.getD (i - 1) 0) (b.getD (j - 1) 0) i j then
          K (cellAt (table (total pm) loc a b) i j) else none := by
  match i, j with
  | 0, 0 => simp [dpCellK, okAt, cellAt_zero_zero, clamp]
  | 0, j + 1 =>
    have hg : j ≠ 0 → (pm GAP GAP).isSome := fun h => hgg (by simp only [alnPos]; omega)
    rw [cellAt_zero_succ _ loc a b j hj]
    simp only [dpCellK, okAt, Nat.add_sub_cancel, getD_of_lt _ _ hj]
    rcases hv : pm GAP b[j] with _ | v
    · simp
    by_cases hj0 : j = 0
    · subst hj0
      rcases hgv : pm GAP GAP with _ | g <;> simp [addOpen, total, hv, hgv]
    · simp [addOpen_of_isSome (hg hj0), total, hv, hj0, hg hj0]
  | i + 1, 0 =>
    have hg : i ≠ 0 → (pm GAP GAP).isSome := fun h => hgg (by
      obtain ⟨i', rfl⟩ := Nat.exists_eq_succ_of_ne_zero h
      rw [alnPos_succ_left, alnPos_succ_left]; omega)
    rw [cellAt_succ_zero _ loc a b i hi]
    simp only [dpCellK, okAt, Nat.add_sub_cancel, getD_of_lt _ _ hi]
    rcases hv : pm a[i] GAP with _ | v
    · simp
    by_cases hi0 : i = 0
    · subst hi0
      rcases hgv : pm GAP GAP with _ | g <;> simp [addOpen, total, hv, hgv]
    · simp [addOpen_of_isSome (hg hi0), total, hv, hi0, hg hi0]
  | i + 1, j + 1 =>
    have hg : (pm GAP GAP).isSome := hgg (by rw [alnPos_succ_left]; omega)
    rw [cellAt_succ_succ _ loc a b i j hi hj]
    simp only [dpCellK, okAt, Nat.add_sub_cancel, getD_of_lt _ _ hi,
      getD_of_lt _ _ hj, addOpen_of_isSome hg, hg, openIf]
    rcases h1 : pm a[i] b[j] with _ | v1
    · simp
    rcases h2 : pm a[i] GAP with _ | v2
    · simp
    rcases h3 : pm GAP b[j] with _ | v3
    · simp
    simp [total, h1, h2, h3]

theorem aln_all_ok (pm : PMat) (a b : Bytes) :
    (List.range' 0 ((a.length + 1) * (b.length + 1))).all (alnOk pm a b)
      = (needed a b).all fun p => (pm p.1 p.2).isSome := by
  rw [Bool.eq_iff_iff]
  simp only [List.all_eq_true, List.mem_range'_1, Nat.zero_add, Nat.zero_le, true_and]
  constructor
  · intro h p hp
    have hcell : ∀ i j, i ≤ a.length → j ≤ b.length →
        okAt pm (a.getD (i - 1) 0) (b.getD (j - 1) 0) i j = true := fun i j hi hj => by
      rw [← alnOk_pos pm a b i j (Nat.lt_succ_of_le hj)]
      exact h _ (alnPos_lt _ _ _ _ (Nat.lt_succ_of_le hi) (Nat.lt_succ_of_le hj))
    rcases (mem_needed a b p).1 hp with ⟨rfl, ha | hb⟩ | ⟨x, hx, rfl⟩ | ⟨y, hy, rfl⟩ | ⟨x, hx, y, hy, rfl⟩
    · have := hcell 1 0 (List.length_pos_iff.2 ha) (Nat.zero_le _)
      simp only [okAt, Bool.and_eq_true] at this
      exact this.1
    · have := hcell 0 1 (Nat.zero_le _) (List.length_pos_iff.2 hb)
      simp only [okAt, Bool.and_eq_true] at this
      exact this.1
    · obtain ⟨i, hi, rfl⟩ := List.mem_iff_getElem.1 hx
      have := hcell (i + 1) 0 hi (Nat.zero_le _)
      simp only [okAt, Bool.and_eq_true, Nat.add_sub_cancel, getD_of_lt _ _ hi] at this
      exact this.2
    · obtain ⟨j, hj, rfl⟩ := List.mem_iff_getElem.1 hy
      have := hcell 0 (j + 1) (Nat.zero_le _) hj
      simp only [okAt, Bool.and_eq_true, Nat.add_sub_cancel, getD_of_lt _ _ hj] at this
      exact this.2
    · obtain ⟨i, hi, rfl⟩ := List.mem_iff_getElem.1 hx
      obtain ⟨j, hj, rfl⟩ := List.mem_iff_getElem.1 hy
      have := hcell (i + 1) (j + 1) hi hj
      simp only [okAt, Bool.and_eq_true, Nat.add_sub_cancel, getD_of_lt _ _ hi,
        getD_of_lt _ _ hj] at this
      exact this.2
  · intro h k hk
    obtain ⟨i, j, hj, rfl⟩ := alnPos_exists (b.length + 1) k (by omega)
    have hi : i < a.length + 1 := alnPos_row_lt _ _ _ _ hk
    have hm := fun p hp => h p ((mem_needed a b p).2 hp)
    rw [alnOk_pos pm a b i j hj]
    match i, j with
    | 0, 0 => rfl
    | 0, j + 1 =>
      have hjl : j < b.length := Nat.lt_of_succ_lt_succ hj
      simp only [okAt, Bool.and_eq_true, Nat.add_sub_cancel, getD_of_lt _ _ hjl]
      exact ⟨hm (GAP, GAP) (Or.inl ⟨rfl, Or.inr (List.ne_nil_of_length_pos (Nat.zero_lt_of_lt hjl))⟩),
        hm (GAP, b[j]) (Or.inr (Or.inr (Or.inl ⟨_, List.getElem_mem hjl, rfl⟩)))⟩
    | i + 1, 0 =>
      have hil : i < a.length := Nat.lt_of_succ_lt_succ hi
      simp only [okAt, Bool.and_eq_true, Nat.add_sub_cancel, getD_of_lt _ _ hil]
      exact ⟨hm (GAP, GAP) (Or.inl ⟨rfl, Or.inl (List.ne_nil_of_length_pos (Nat.zero_lt_of_lt hil))⟩),
        hm (a[i], GAP) (Or.inr (Or.inl ⟨_, List.getElem_mem hil, rfl⟩))⟩
    | i + 1, j + 1 =>
      have hil : i < a.length := Nat.lt_of_succ_lt_succ hi
      have hjl : j < b.length := Nat.lt_of_succ_lt_succ hj
      simp only [okAt, Bool.and_eq_true, Nat.add_sub_cancel, getD_of_lt _ _ hil,
        getD_of_lt _ _ hjl]
      exact ⟨⟨⟨hm (GAP, GAP) (Or.inl ⟨rfl, Or.inl (List.ne_nil_of_length_pos (Nat.zero_lt_of_lt hil))⟩),
        hm (a[i], GAP) (Or.inr (Or.inl ⟨_, List.getElem_mem hil, rfl⟩))⟩,
        hm (GAP, b[j]) (Or.inr (Or.inr (Or.inl ⟨_, List.getElem_mem hjl, rfl⟩)))⟩,
        hm (a[i], b[j]) (Or.inr (Or.inr (Or.inr ⟨_, List.getElem_mem hil, _, List.getElem_mem hjl, rfl⟩)))⟩

theorem sub_one_ne (k : Int) : k - 1 ≠ k := by omega

theorem sub_len_succ_ne {α : Type} (k : Int) (b : List α) : k - (len b + 1) ≠ k := by
  simp only [len]; omega

/-- What the body of the DP loop may rely on when it fills cell `(i, j)`, in the form in which the
translated code reads it: quotient and remainder of the flat index, the cell is still `(0, 0)`, and the
neighbours `L`, `U`, `D` and the bytes `x = a[i-1]`, `y = b[j-1]` are where it looks for them. -/
structure DpCtx (a b : Bytes) (blocks : List (Int × UInt8)) (i j : Nat) (x y : UInt8)
    (D U L : Cell) : Prop where
  hq : quo ((alnPos (b.length + 1) i j : Nat) : Int) (len b + 1) = some (i : Int)
  hr : rem ((alnPos (b.length + 1) i j : Nat) : Int) (len b + 1) = some (j : Int)
  lt : alnPos (b.length + 1) i j < blocks.length
  cur : idx blocks ((alnPos (b.length + 1) i j : Nat) : Int) = some (0, 0)
  hx : 1 ≤ i → idx a ((i : Int) - 1) = some x
  hy : 1 ≤ j → idx b ((j : Int) - 1) = some y
  left : 1 ≤ j →
    idx blocks (((alnPos (b.length + 1) i j : Nat) : Int) - 1) = some (L.score, encStep L.step)
  up : 1 ≤ i →
    idx blocks (((alnPos (b.length + 1) i j : Nat) : Int) - (len b + 1)) = some (U.score, encStep U.step)
  diag : 1 ≤ i → 1 ≤ j →
    idx blocks (((alnPos (b.length + 1) i j : Nat) : Int) - (len b + 1) - 1) =
      some (D.score, encStep D.step)

/-- The DP loop: a body that does `dpCellK` at every cell (this is what `Global_dp`, `Local_dp` check by
symbolic execution, one cell kind at a time) turns the zeroed array into the flattened table of the
model, or panics when a needed entry is missing. -/
theorem aln_fill (pm : PMat) (loc : Bool) (a b : Bytes)
    (body : Int → List (Int × UInt8) → Option (ForInStep (List (Int × UInt8))))
    (hbody : ∀ (i j : Nat) (blocks : List (Int × UInt8)) (x y : UInt8) (D U L : Cell),
      DpCtx a b blocks i j x y D U L →
      body ((alnPos (b.length + 1) i j : Nat) : Int) blocks =
        dpCellK pm x y D U L (fun c =>
          some (.yield (blocks.set (alnPos (b.length + 1) i j) (encCell (clamp loc c))))) i j) :
    forIn (upTo (len (List.replicate ((len a + 1) * (len b + 1)).toNat ((0 : Int), (0 : UInt8)))))
        (List.replicate ((len a + 1) * (len b + 1)).toNat (0, 0)) body
      = if (needed a b).all (fun p => (pm p.1 p.2).isSome) then
          some (alnFlat (table (total pm) loc a b) (a.length + 1) (b.length + 1)) else none := by
  rw [aln_toNat, upTo_len, List.length_replicate, ← aln_all_ok]
  refine aln_dp_loop (alnCellF (table (total pm) loc a b) (b.length + 1)) (alnOk pm a b) _ body ?_
    _ 0 _ (by omega) (by simp) (by intro k' hk'; omega) (by intro k' hk'; omega)
    (by intro k' _ hk'; simp [hk'])
  intro k blocks hk hlen hok hprev hzero
  obtain ⟨i, j, hj, rfl⟩ := alnPos_exists (b.length + 1) k (by omega)
  have hi : i < a.length + 1 := alnPos_row_lt _ _ _ _ hk
  have hbn : len b + 1 = ((b.length + 1 : Nat) : Int) := by simp [len]
  have hrd : ∀ i' j', j' < b.length + 1 → alnPos (b.length + 1) i' j' < alnPos (b.length + 1) i j →
      idx blocks ((alnPos (b.length + 1) i' j' : Nat) : Int)
        = some (encCell (cellAt (table (total pm) loc a b) i' j')) := fun i' j' hj' h => by
    rw [idx_ofNat, hprev _ h, alnCellF_pos _ _ i' j' hj']
  rw [show Int.ofNat (alnPos (b.length + 1) i j) = ((alnPos (b.length + 1) i j : Nat) : Int) from rfl,
    hbody i j blocks (a.getD (i - 1) 0) (b.getD (j - 1) 0) (cellAt (table (total pm) loc a b) (i - 1) (j - 1))
      (cellAt (table (total pm) loc a b) (i - 1) j) (cellAt (table (total pm) loc a b) i (j - 1))
      { hq := hbn ▸ quo_alnPos _ i j hj
        hr := hbn ▸ rem_alnPos _ i j hj
        lt := by omega
        cur := by rw [idx_ofNat]; exact hzero _ (Nat.le_refl _) hk
        hx := fun h => idx_pred_getD a i 0 h (by omega)
        hy := fun h => idx_pred_getD b j 0 h (by omega)
        left := fun h => by
          rw [alnPos_sub_one _ _ _ h]
          exact hrd i (j - 1) (by omega) (by simp only [alnPos]; omega)
        up := fun h => by
          rw [hbn, alnPos_sub_bn _ _ _ h]
          refine hrd (i - 1) j hj ?_
          obtain ⟨i, rfl⟩ : ∃ i', i = i' + 1 := ⟨i - 1, by omega⟩
          rw [alnPos_succ_left]; simp only [Nat.add_sub_cancel]; omega
        diag := fun h1 h2 => by
          rw [hbn, alnPos_sub_bn _ _ _ h1, alnPos_sub_one _ _ _ h2]
          refine hrd (i - 1) (j - 1) (by omega) ?_
          obtain ⟨i, rfl⟩ : ∃ i', i = i' + 1 := ⟨i - 1, by omega⟩
          rw [alnPos_succ_left]; simp only [Nat.add_sub_cancel, alnPos]; omega },
    dpCellK_table pm loc a b (i := i) (j := j) (Nat.le_of_lt_succ hi) (Nat.le_of_lt_succ hj)
      (fun h2 => alnOk_one pm a b (hok 1 (by omega)))
      (fun c => some (ForInStep.yield (blocks.set (alnPos (b.length + 1) i j) (encCell c)))),
    alnOk_pos pm a b i j hj, alnCellF_pos _ _ i j hj]
end Dp

/-- `for i := 0; i < len(s)/2; i++ { s[i], s[len(s)-1-i] = s[len(s)-1-i], s[i] }` reverses `s` -/
theorem aln_reverse_loop {α : Type} (orig : List α)
    (body : Int → List α → Option (ForInStep (List α)))
    (hbody : ∀ (k : Nat) (st : List α) (x y : α), st.length = orig.length → k < orig.length / 2 →
      st[k]? = some x → st[orig.length - 1 - k]? = some y →
      body (Int.ofNat k) st = some (.yield ((st.set k y).set (orig.length - 1 - k) x))) :
    forIn (upTo (Int.tdiv (len orig) 2)) orig body = some orig.reverse := by
  have hup : upTo (Int.tdiv (len orig) 2) = (List.range' 0 (orig.length / 2)).map Int.ofNat := by
    unfold upTo len
    have : (Int.tdiv (orig.length : Int) 2).toNat = orig.length / 2 := by
      rw [Int.natCast_tdiv_eq_ediv]; omega
    rw [this, List.range_eq_range']
  rw [hup]
  -- only `2 * half ≤ length ≤ 2 * half + 1` is used of `half = length / 2`
  obtain ⟨half, hh⟩ : ∃ half, orig.length / 2 = half := ⟨_, rfl⟩
  have hlo : 2 * half ≤ orig.length := by omega
  have hhi : orig.length ≤ 2 * half + 1 := by omega
  simp only [hh] at hbody ⊢
  clear hh hup
  obtain ⟨st, hst, hlen, hinv⟩ := forIn_range_inv
    (fun k (st : List α) => st.length = orig.length ∧ ∀ p, p < orig.length →
      st[p]? = if p < k ∨ orig.length - k ≤ p then orig[orig.length - 1 - p]? else orig[p]?)
    body half (fun k st hk ⟨hlen, hinv⟩ => by
      have hkL : k < orig.length := by omega
      have hk2 : orig.length - 1 - k < orig.length := by omega
      have h1 : st[k]? = some orig[k] := by
        rw [hinv k hkL, if_neg (by omega), List.getElem?_eq_getElem hkL]
      have h2 : st[orig.length - 1 - k]? = some orig[orig.length - 1 - k] := by
        rw [hinv _ hk2, if_neg (by omega), List.getElem?_eq_getElem hk2]
      refine ⟨_, hbody k st _ _ hlen hk h1 h2, by simp [hlen], fun p hp => ?_⟩
      by_cases hp1 : orig.length - 1 - k = p
      · subst hp1
        rw [List.getElem?_set_self (by simp [hlen]; omega), if_pos (by omega),
          show orig.length - 1 - (orig.length - 1 - k) = k by omega, List.getElem?_eq_getElem hkL]
      · rw [List.getElem?_set_ne hp1]
        by_cases hp2 : k = p
        · subst hp2
          rw [List.getElem?_set_self (by omega), if_pos (by omega), List.getElem?_eq_getElem hk2]
        · rw [List.getElem?_set_ne hp2, hinv p hp]
          by_cases hp3 : p < k ∨ orig.length - k ≤ p
          · rw [if_pos hp3, if_pos (by omega)]
          · rw [if_neg hp3, if_neg (by omega)])
    half 0 orig (by omega) ⟨rfl, fun p hp => by rw [if_neg (by omega)]⟩
  rw [hst]
  congr 1
  apply List.ext_getElem?
  intro p
  by_cases hp : p < orig.length
  · rw [hinv p hp, List.getElem?_reverse hp]
    split
    · rfl
    · rw [show orig.length - 1 - p = p by omega]
  · rw [List.getElem?_eq_none (by omega), List.getElem?_eq_none (by simp; omega)]

/-- the index the traceback moves to from `k` on the step byte `s` -/
def alnBack (bn k : Int) (s : UInt8) : Int :=
  if s == 1 then k - (bn + 1) else if s == 2 then k - bn else if s == 3 then k - 1 else k

/-- the `if … else if …` of the translated code that moves the index -/
theorem alnBack_apply {σ : Type} (bn k : Int) (s : UInt8) (f : Int → σ) :
    (if (s == 1) = true then f (k - (bn + 1)) else if (s == 2) = true then f (k - bn)
      else if (s == 3) = true then f (k - 1) else f k) = f (alnBack bn k s) := by
  unfold alnBack
  split
  · rfl
  · split
    · rfl
    · split <;> rfl

theorem alnBack_mch (bn i j : Nat) :
    alnBack bn ((alnPos bn (i + 1) (j + 1) : Nat) : Int) 1 = ((alnPos bn i j : Nat) : Int) := by
  rw [alnPos_succ_left, alnPos_succ_right]; simp [alnBack]; omega

theorem alnBack_del (bn i j : Nat) :
    alnBack bn ((alnPos bn (i + 1) j : Nat) : Int) 2 = ((alnPos bn i j : Nat) : Int) := by
  rw [alnPos_succ_left]; simp [alnBack]

theorem alnBack_ins (bn i j : Nat) :
    alnBack bn ((alnPos bn i (j + 1) : Nat) : Int) 3 = ((alnPos bn i j : Nat) : Int) := by
  rw [alnPos_succ_right]; simp [alnBack]

theorem alnPos_pos (bn i j : Nat) (hij : ¬ (i = 0 ∧ j = 0)) (hj : j < bn) : 0 < alnPos bn i j := by
  rcases i with _ | i
  · simp only [alnPos]; omega
  · rw [alnPos_succ_left]; omega

/-- One step back, for both tracebacks: where the index moves on the stored step, and how the two model
walks unfold there. -/
theorem aln_back {t : List (List Align.Cell)} {i j : Nat} (bn : Nat)
    (h : ((Align.cellAt t i j).step = .mch ∧ ∃ i' j', i = i' + 1 ∧ j = j' + 1) ∨
      ((Align.cellAt t i j).step = .del ∧ ∃ i', i = i' + 1) ∨
      ((Align.cellAt t i j).step = .ins ∧ ∃ j', j = j' + 1)) :
    ∃ i' j', i' ≤ i ∧ j' ≤ j ∧ i' + j' < i + j ∧
      alnBack bn ((alnPos bn i j : Nat) : Int) (encStep (Align.cellAt t i j).step)
        = ((alnPos bn i' j' : Nat) : Int) ∧
      (∀ f, Align.traceG t (f + 1) i j = (Align.cellAt t i j).step :: Align.traceG t f i' j') ∧
      (∀ f last, (Align.cellAt t i j).score ≠ 0 → Align.traceL t (f + 1) i j last =
        (Align.traceL t f i' j' (i, j)).map ((Align.cellAt t i j).step :: ·) id) := by
  rcases h with ⟨hs, i, j, rfl, rfl⟩ | ⟨hs, i, rfl⟩ | ⟨hs, j, rfl⟩
  · exact ⟨i, j, Nat.le_succ i, Nat.le_succ j, by omega, by rw [hs]; exact alnBack_mch bn i j,
      fun f => by rw [Align.traceG_step _ _ _ _ (fun h => Nat.add_one_ne_zero _ h.1), hs]; rfl,
      fun f last hz => by
        rw [Align.traceL_step _ _ _ _ _ (fun h => Nat.add_one_ne_zero _ h.1) hz, hs]; rfl⟩
  · exact ⟨i, j, Nat.le_succ i, Nat.le_refl j, by omega, by rw [hs]; exact alnBack_del bn i j,
      fun f => by rw [Align.traceG_step _ _ _ _ (fun h => Nat.add_one_ne_zero _ h.1), hs]; rfl,
      fun f last hz => by
        rw [Align.traceL_step _ _ _ _ _ (fun h => Nat.add_one_ne_zero _ h.1) hz, hs]; rfl⟩
  · exact ⟨i, j, Nat.le_refl i, Nat.le_succ j, by omega, by rw [hs]; exact alnBack_ins bn i j,
      fun f => by rw [Align.traceG_step _ _ _ _ (fun h => Nat.add_one_ne_zero _ h.2), hs]; rfl,
      fun f last hz => by
        rw [Align.traceL_step _ _ _ _ _ (fun h => Nat.add_one_ne_zero _ h.2) hz, hs]; rfl⟩

/-- the `for i > 0 { … }` loop of `traceAlignmentSteps`, started at cell `(i, j)`; it needs `i + j + 1`
iterations at most (one per step and the one that leaves the loop); `d` is the translator's `done` flag,
`f'` the fuel of the model's `traceG` -/
theorem aln_traceG_loop (m : Align.Mat) (a b : Bytes)
    (body : Nat → (List UInt8 × Int × Bool) → Option (ForInStep (List UInt8 × Int × Bool)))
    (hdone : ∀ x s d, body x (s, 0, d) = some (.done (s, 0, true)))
    (hstep : ∀ x s d (k : Nat) (c : Int × UInt8), 0 < k →
        (alnFlat (Align.table m false a b) (a.length + 1) (b.length + 1))[k]? = some c →
        body x (s, (k : Int), d) =
          some (.yield (s ++ [c.2], alnBack ((b.length + 1 : Nat) : Int) k c.2, d))) :
    ∀ (l : List Nat) (f' i j : Nat) (s : List UInt8) (d : Bool), i ≤ a.length → j ≤ b.length →
      i + j + 1 ≤ l.length → i + j ≤ f' →
      forIn l (s, ((alnPos (b.length + 1) i j : Nat) : Int), d) body
        = some (s ++ (Align.traceG (Align.table m false a b) f' i j).map encStep, 0, true) := by
  intro l
  induction l with
  | nil => intro f' i j s d hi hj hl; simp at hl
  | cons x l ih =>
    intro f' i j s d hi hj hl hf
    simp only [List.forIn_cons]
    by_cases hij : i = 0 ∧ j = 0
    · obtain ⟨rfl, rfl⟩ := hij
      rw [alnPos_zero, Int.natCast_zero, hdone, Align.traceG_zero]
      simp
    · obtain ⟨f', rfl⟩ : ∃ f'', f' = f'' + 1 := ⟨f' - 1, by omega⟩
      obtain ⟨i', j', hi', hj', hlt, hb, hG, _⟩ :=
        aln_back (b.length + 1) (Align.global_step_shape m a b i j hi hj hij)
      rw [hstep x s d _ _ (alnPos_pos _ i j hij (Nat.lt_succ_of_le hj))
        (alnFlat_pos _ _ _ i j (Nat.lt_succ_of_le hi) (Nat.lt_succ_of_le hj)), hG]
      simp only [Option.bind_eq_bind, Option.bind_some, encCell_snd, List.length_cons] at hl ⊢
      rw [hb, ih f' i' j' _ d (Nat.le_trans hi' hi) (Nat.le_trans hj' hj) (by omega) (by omega)]
      simp

/-- the `for i > 0 { … }` loop of `traceAlignmentStepsLocal`, started at cell `(i, j)`.  The index it
stops at is only known to be a natural number, so the statement is about what follows the loop (`K`). -/
theorem aln_traceL_loop {β : Type} (m : Align.Mat) (a b : Bytes)
    (body : Nat → (List UInt8 × Int × Int × Bool) → Option (ForInStep (List UInt8 × Int × Int × Bool)))
    (hdone : ∀ x s la d, body x (s, 0, la, d) = some (.done (s, 0, la, true)))
    (hzero : ∀ x s la d (k : Nat) (c : Int × UInt8), 0 < k →
        (alnFlat (Align.table m true a b) (a.length + 1) (b.length + 1))[k]? = some c → c.1 = 0 →
        body x (s, (k : Int), la, d) = some (.done (s, (k : Int), la, true)))
    (hstep : ∀ x s la d (k : Nat) (c : Int × UInt8), 0 < k →
        (alnFlat (Align.table m true a b) (a.length + 1) (b.length + 1))[k]? = some c → 0 < c.1 →
        body x (s, (k : Int), la, d) =
          some (.yield (s ++ [c.2], alnBack ((b.length + 1 : Nat) : Int) k c.2, (k : Int), d)))
    (K : List UInt8 × Int × Int × Bool → Option β) (R : Option β) :
    ∀ (l : List Nat) (f' i j : Nat) (s : List UInt8) (d : Bool) (last : Nat × Nat),
      i ≤ a.length → j ≤ b.length → i + j + 1 ≤ l.length → i + j ≤ f' →
      (∀ iend : Nat, K (s ++ (Align.traceL (Align.table m true a b) f' i j last).1.map encStep, (iend : Int),
          ((alnPos (b.length + 1) (Align.traceL (Align.table m true a b) f' i j last).2.1
            (Align.traceL (Align.table m true a b) f' i j last).2.2 : Nat) : Int), true) = R) →
      (forIn l (s, ((alnPos (b.length + 1) i j : Nat) : Int),
        ((alnPos (b.length + 1) last.1 last.2 : Nat) : Int), d) body).bind K = R := by
  intro l
  induction l with
  | nil => intro f' i j s d last hi hj hl; simp at hl
  | cons x l ih =>
    intro f' i j s d last hi hj hl hf hK
    simp only [List.forIn_cons]
    by_cases hij : i = 0 ∧ j = 0
    · obtain ⟨rfl, rfl⟩ := hij
      rw [Align.traceL_of_zero _ _ _ _ _ (by rw [Align.cellAt_zero_zero])] at hK
      rw [alnPos_zero, Int.natCast_zero, hdone]
      simpa using hK 0
    · have hkpos := alnPos_pos _ i j hij (Nat.lt_succ_of_le hj)
      have hc := alnFlat_pos (Align.table m true a b) _ _ i j (Nat.lt_succ_of_le hi) (Nat.lt_succ_of_le hj)
      by_cases hz : (Align.cellAt (Align.table m true a b) i j).score = 0
      · rw [Align.traceL_of_zero _ _ _ _ _ hz] at hK
        rw [hzero x s _ d _ _ hkpos hc hz]
        simpa using hK _
      · have hpos : 0 < (encCell (Align.cellAt (Align.table m true a b) i j)).1 := by
          have := Align.local_cell_nonneg m a b i j hi hj
          simp only [encCell_fst]; omega
        obtain ⟨f', rfl⟩ : ∃ f'', f' = f'' + 1 := ⟨f' - 1, by omega⟩
        obtain ⟨i', j', hi', hj', hlt, hb, _, hL⟩ :=
          aln_back (b.length + 1) (Align.local_step_shape m a b i j hi hj hz)
        rw [hL f' last hz] at hK
        rw [hstep x s _ d _ _ hkpos hc hpos]
        simp only [Option.bind_eq_bind, Option.bind_some, encCell_snd, List.length_cons] at hl ⊢
        rw [hb]
        exact ih f' i' j' _ d (i, j) (Nat.le_trans hi' hi) (Nat.le_trans hj' hj) (by omega) (by omega)
          (by simpa using hK)

theorem aln_flatten_getElem? {α : Type} (bn : Nat) : ∀ (L : List (List α)) (i j : Nat),
    (∀ r ∈ L, r.length = bn) → j < bn → L.flatten[alnPos bn i j]? = (L[i]?.getD [])[j]?
  | [], i, j, _, _ => by simp
  | r :: L, 0, j, h, hj => by
    have hr : r.length = bn := h r (by simp)
    simp only [alnPos, Nat.zero_mul, Nat.zero_add, List.flatten_cons, List.getElem?_cons_zero,
      Option.getD_some]
    rw [List.getElem?_append_left (by omega)]
  | r :: L, i + 1, j, h, hj => by
    have hr : r.length = bn := h r (by simp)
    rw [alnPos_succ_left, List.flatten_cons, List.getElem?_append_right (by omega)]
    have : alnPos bn i j + bn - r.length = alnPos bn i j := by omega
    rw [this, aln_flatten_getElem? bn L i j (fun r hr => h r (by simp [hr])) hj]
    simp

theorem alnFlat_eq_flatten (m : Align.Mat) (loc : Bool) (a b : Bytes) :
    alnFlat (Align.table m loc a b) (a.length + 1) (b.length + 1)
      = (Align.table m loc a b).flatten.map encCell := by
  apply List.ext_getElem?
  intro k
  obtain ⟨i, j, hj, rfl⟩ := alnPos_exists (b.length + 1) k (by omega)
  rw [List.getElem?_map, aln_flatten_getElem? _ _ i j (Align.table_row_length m loc a b) hj]
  by_cases hi : i < a.length + 1
  · rw [alnFlat_pos _ _ _ i j hi hj]
    obtain ⟨r, hr, hc⟩ := Align.cellAt_spec m loc a b i j (Nat.le_of_lt_succ hi) (Nat.le_of_lt_succ hj)
    rw [hr, Option.getD_some, hc]; rfl
  · have h1 : (Align.table m loc a b)[i]? = none :=
      List.getElem?_eq_none (by rw [Align.table_length]; omega)
    rw [h1]
    have h2 : ¬ alnPos (b.length + 1) i j < (a.length + 1) * (b.length + 1) := fun h =>
      hi (alnPos_row_lt _ _ _ _ h)
    rw [List.getElem?_eq_none (by rw [alnFlat_length]; omega)]
    simp

/-- the invariant of the argmax loop: `imax` is the flat index of the model's best cell so far -/
def alnArgInv (L : List (Int × UInt8)) (bn : Nat) (best : Nat × Nat × Int) : Prop :=
  ∃ cm, L[alnPos bn best.1 best.2.1]? = some cm ∧ cm.1 = best.2.2

/-- the argmax loop while it runs through one row `cs` (row `i`, from column `j0`, flat index `o`) inside the
flattened list; `rest` is the rows still to come -/
theorem aln_argmax_row (L : List (Int × UInt8)) (bn : Nat)
    (body : Int × (Int × UInt8) → Int → Option (ForInStep Int))
    (hbody : ∀ (k imax : Nat) (c cm : Int × UInt8), L[imax]? = some cm →
      body ((k : Int), c) (imax : Int) = some (.yield (if c.1 > cm.1 then (k : Int) else (imax : Int))))
    (i : Nat) :
    ∀ (cs : List Align.Cell) (rest : List (Int × UInt8)) (j0 : Nat) (best : Nat × Nat × Int) (o : Nat),
      o = alnPos bn i j0 →
      (∀ k c, cs[k]? = some c → L[o + k]? = some (encCell c)) →
      alnArgInv L bn best →
      forIn ((((cs.map encCell) ++ rest).zipIdx o).map fun p => ((p.2 : Int), p.1))
          ((alnPos bn best.1 best.2.1 : Nat) : Int) body
        = forIn ((rest.zipIdx (o + cs.length)).map fun p => ((p.2 : Int), p.1))
          ((alnPos bn (Align.argmaxRow cs i j0 best).1 (Align.argmaxRow cs i j0 best).2.1 : Nat) : Int) body
      ∧ alnArgInv L bn (Align.argmaxRow cs i j0 best) := by
  intro cs
  induction cs with
  | nil => intro rest j0 best o ho hL hinv; simpa [Align.argmaxRow_nil] using hinv
  | cons c cs ih =>
    intro rest j0 best o ho hL hinv
    obtain ⟨cm, hcm, hcm2⟩ := hinv
    simp only [List.map_cons, List.cons_append, List.zipIdx_cons, List.forIn_cons]
    rw [hbody o _ (encCell c) cm hcm, Align.argmaxRow_cons]
    simp only [Option.bind_eq_bind, Option.bind_some, encCell_fst, hcm2]
    have hnext : (if c.score > best.2.2 then (o : Int) else ((alnPos bn best.1 best.2.1 : Nat) : Int))
        = ((alnPos bn (if c.score > best.2.2 then (i, j0, c.score) else best).1
            (if c.score > best.2.2 then (i, j0, c.score) else best).2.1 : Nat) : Int) := by
      split
      · rw [ho]
      · rfl
    have hinv' : alnArgInv L bn (if c.score > best.2.2 then (i, j0, c.score) else best) := by
      split
      · refine ⟨encCell c, ?_, rfl⟩
        have := hL 0 c (by simp)
        rw [← ho]; simpa using this
      · exact ⟨cm, hcm, hcm2⟩
    rw [hnext]
    have := ih rest (j0 + 1) _ (o + 1) (by rw [ho, alnPos_succ_right])
      (fun k c' hk => by
        have := hL (k + 1) c' (by simpa using hk)
        rw [show o + 1 + k = o + (k + 1) by omega]; exact this) hinv'
    rw [show o + 1 + cs.length = o + (c :: cs).length by simp; omega] at this
    exact this

theorem aln_argmax_rows (L : List (Int × UInt8)) (bn : Nat)
    (body : Int × (Int × UInt8) → Int → Option (ForInStep Int))
    (hbody : ∀ (k imax : Nat) (c cm : Int × UInt8), L[imax]? = some cm →
      body ((k : Int), c) (imax : Int) = some (.yield (if c.1 > cm.1 then (k : Int) else (imax : Int)))) :
    ∀ (rows : List (List Align.Cell)) (i0 : Nat) (best : Nat × Nat × Int),
      (∀ r ∈ rows, r.length = bn) →
      (∀ k r j c, rows[k]? = some r → r[j]? = some c → L[alnPos bn (i0 + k) j]? = some (encCell c)) →
      alnArgInv L bn best →
      forIn (((rows.flatten.map encCell).zipIdx (alnPos bn i0 0)).map fun p => ((p.2 : Int), p.1))
          ((alnPos bn best.1 best.2.1 : Nat) : Int) body
        = some ((alnPos bn (Align.argmaxAux rows i0 best).1 (Align.argmaxAux rows i0 best).2.1 : Nat) : Int)
      ∧ alnArgInv L bn (Align.argmaxAux rows i0 best) := by
  intro rows
  induction rows with
  | nil => intro i0 best _ _ hinv; exact ⟨by simp [Align.argmaxAux_nil], hinv⟩
  | cons row rows ih =>
    intro i0 best hlen hL hinv
    have hr : row.length = bn := hlen row (by simp)
    rw [List.flatten_cons, List.map_append, Align.argmaxAux_cons]
    obtain ⟨h1, h2⟩ := aln_argmax_row L bn body hbody i0 row (rows.flatten.map encCell) 0 best
      (alnPos bn i0 0) rfl
      (fun k c hk => by
        have := hL 0 row k c (by simp) hk
        simpa [alnPos] using this) hinv
    rw [h1]
    have e : alnPos bn i0 0 + row.length = alnPos bn (i0 + 1) 0 := by rw [alnPos_succ_left, hr]
    rw [e]
    exact ih (i0 + 1) _ (fun r hr => hlen r (by simp [hr]))
      (fun k r j c hk hj => by
        have := hL (k + 1) r j c (by simpa using hk) hj
        rw [show i0 + 1 + k = i0 + (k + 1) by omega]; exact this) h2

theorem aln_argmax_loop (m : Align.Mat) (loc : Bool) (a b : Bytes)
    (body : Int × (Int × UInt8) → Int → Option (ForInStep Int))
    (hbody : ∀ (k imax : Nat) (c cm : Int × UInt8),
      (alnFlat (Align.table m loc a b) (a.length + 1) (b.length + 1))[imax]? = some cm →
      body ((k : Int), c) (imax : Int) = some (.yield (if c.1 > cm.1 then (k : Int) else (imax : Int)))) :
    forIn (enum (alnFlat (Align.table m loc a b) (a.length + 1) (b.length + 1))) (0 : Int) body
      = some ((alnPos (b.length + 1) (Align.argmax (Align.table m loc a b)).1
          (Align.argmax (Align.table m loc a b)).2.1 : Nat) : Int) := by
  have h := (aln_argmax_rows _ (b.length + 1) body hbody (Align.table m loc a b) 0
    (0, 0, (Align.cellAt (Align.table m loc a b) 0 0).score)
    (Align.table_row_length m loc a b)
    (fun k r j c hk hj => by
      have hkl : k < (Align.table m loc a b).length := (List.getElem?_eq_some_iff.mp hk).1
      rw [Align.table_length] at hkl
      have hjl : j < r.length := (List.getElem?_eq_some_iff.mp hj).1
      rw [Align.table_row_length m loc a b r (List.mem_of_getElem? hk)] at hjl
      rw [Nat.zero_add, alnFlat_pos _ _ _ k j hkl hjl, Align.cellAt_of_getElem? _ k j r c hk hj])
    ⟨_, alnFlat_pos _ _ _ 0 0 (Nat.succ_pos _) (Nat.succ_pos _), rfl⟩).1
  rw [← Align.argmax_eq] at h
  rw [enum, alnFlat_eq_flatten]
  simpa [alnPos_zero] using h

end Bio.GoSrcLemmas

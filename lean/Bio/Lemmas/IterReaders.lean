/-
  Helper lemmas for C18 (readers): the Go iterator closures of the five
  format readers (`Bio/Model/IterReaders.lean`), run with a consumer `f`, log
  exactly `takeThrough (!f ·)` of the item list of the format's `decodeSrc`.
-/
import Bio.Model.IterReaders
import Bio.Lemmas.TakeThrough
import Bio.Lemmas.Fasta
import Bio.Lemmas.Fastq
import Bio.Lemmas.Bed
import Bio.Lemmas.Newick
import Bio.Lemmas.Sam

namespace Bio.Iter

/-- `it` hands its consumer the items of `L`, in order, up to and including the
first one the consumer declines — and nothing after it. -/
def TakeThroughLaw {α : Type} (it : Seq α) (L : List α) : Prop :=
  ∀ f, it f = takeThrough (fun x => !f x) L

/-! ## The base loops -/

section loops
variable {ρ σ : Type} (S : Source ρ σ)

/-- Induction along the reads of a source: `size` decreases with every record. -/
theorem Source.induct {P : σ → Prop} (err : ∀ s, S.next s = .err → P s)
    (done : ∀ s, S.next s = .done → P s)
    (item : ∀ s a s', S.next s = .item a s' → P s' → P s) (s : σ) : P s := by
  induction hn : S.size s using Nat.strongRecOn generalizing s with
  | _ n ih =>
    cases hs : S.next s with
    | err => exact err s hs
    | done => exact done s hs
    | item a s' => exact item s a s' hs (ih _ (hn ▸ S.dec s a s' hs) s' rfl)

theorem iterLoop_eq (f : Item ρ → Bool) (s : σ) :
    iterLoop S f s = match S.next s with
      | .err => [.err]
      | .done => []
      | .item a s' => .ok a :: (if f (.ok a) then iterLoop S f s' else []) := by
  rw [iterLoop]; split <;> simp_all

/-- The two loop shapes (`break` on any error / `return` per case) are the same loop. -/
theorem readerLoop_eq_iterLoop (f : Item ρ → Bool) (s : σ) :
    readerLoop S f s = iterLoop S f s := by
  induction s using S.induct <;> rw [readerLoop, iterLoop_eq] <;> split <;> simp_all

/-- The uninterrupted run from state `s`. -/
def Source.items (s : σ) : List (Item ρ) := iterLoop S (fun _ => true) s

theorem Source.items_eq (s : σ) :
    S.items s = match S.next s with
      | .err => [.err]
      | .done => []
      | .item a s' => .ok a :: S.items s' := by
  rw [Source.items, iterLoop_eq]; cases S.next s <;> rfl

/-- A list function that satisfies the equation of the loop is the uninterrupted run. -/
theorem Source.items_unique (L : σ → List (Item ρ))
    (hL : ∀ s, L s = match S.next s with
      | .err => [.err]
      | .done => []
      | .item a s' => .ok a :: L s') (s : σ) : S.items s = L s := by
  induction s using S.induct with
  | err s h => rw [S.items_eq, hL, h]
  | done s h => rw [S.items_eq, hL, h]
  | item s a s' h ih => rw [S.items_eq, hL, h]; simp only [ih]

theorem iterLoop_log (f : Item ρ → Bool) (s : σ) :
    iterLoop S f s = takeThrough (fun it => !f it) (S.items s) := by
  induction s using S.induct with
  | err s h => rw [iterLoop_eq, S.items_eq, h]; simp [takeThrough]
  | done s h => rw [iterLoop_eq, S.items_eq, h]; rfl
  | item s a s' h ih =>
    rw [iterLoop_eq, S.items_eq, h]
    simp only [takeThrough_cons, ih]
    cases f (.ok a) <;> rfl

end loops

/-! ## The SAM `ReaderHeader` loop -/

section sam
variable {σ : Type} (pf : Bytes → Option Bytes) (S : Source Bytes σ)

/-- One turn of the loop on a text line: an empty line is skipped without a
callback; any other line gives the one item `Sam.lineItem` and the loop goes on
iff the consumer accepts it — also when that item is a parse error. -/
theorem samHeaderLoop_eq (f : Item Sam.Entry → Bool) (s : σ) :
    samHeaderLoop pf S f s = match S.next s with
      | .err => [.err]
      | .done => []
      | .item text s' =>
        if text = [] then samHeaderLoop pf S f s'
        else Sam.lineItem pf text ::
          (if f (Sam.lineItem pf text) then samHeaderLoop pf S f s' else []) := by
  rw [samHeaderLoop]
  split
  · rename_i h; simp only [h]
  · rename_i h; simp only [h]
  · rename_i text s' h
    simp only [h]
    by_cases h0 : text = []
    · simp [h0]
    · simp only [ne_eq, h0, not_false_eq_true, ↓reduceIte]
      split
      · rfl
      · rename_i hne
        rw [Sam.lineItem_not_hdr pf (fun h64 => by
          cases text with
          | nil => exact h0 rfl
          | cons b t => simp at h64; subst h64; exact hne t h rfl HEq.rfl)]
        cases Sam.parseLine pf (splitOn TAB text) <;> rfl

theorem samHeaderLoop_log (f : Item Sam.Entry → Bool) (s : σ) :
    samHeaderLoop pf S f s
      = takeThrough (fun it => !f it) (samHeaderLoop pf S (fun _ => true) s) := by
  induction s using S.induct with
  | err s h => rw [samHeaderLoop_eq, samHeaderLoop_eq pf S (fun _ => true), h]; simp [takeThrough]
  | done s h => rw [samHeaderLoop_eq, samHeaderLoop_eq pf S (fun _ => true), h]; rfl
  | item s text s' h ih =>
    rw [samHeaderLoop_eq, samHeaderLoop_eq pf S (fun _ => true), h]
    by_cases h0 : text = []
    · simp only [h0, ↓reduceIte]; exact ih
    · simp only [h0, ↓reduceIte, takeThrough_cons, ih]
      cases f (Sam.lineItem pf text) <;> rfl

end sam

/-! ## Ranging over an inner iterator -/

theorem wrap_apply {α : Type} (inner : Seq α) (f : α → Bool) : wrap inner f = inner f := by
  simp [wrap, rangeOver]

theorem wrap_eq {α : Type} (inner : Seq α) : wrap inner = inner :=
  funext (wrap_apply inner)

/-- Running the filter-and-map body over a take-through of `L` gives the
take-through of `L.filterMap g`: items skipped by `continue` give no callback
and do not stop the loop. -/
theorem flatMap_filterMapBody {α β : Type} (g : α → Option β) (f : β → Bool) (L : List α) :
    (takeThrough (fun x => !(filterMapBody g f x).2) L).flatMap (fun x => (filterMapBody g f x).1)
      = takeThrough (fun y => !f y) (L.filterMap g) := by
  induction L with
  | nil => simp [takeThrough]
  | cons x xs ih =>
    rw [takeThrough_cons]
    cases hg : g x with
    | none => simp [filterMapBody, hg, ← ih]
    | some y =>
      have h1 : (filterMapBody g f x).1 = [y] := by simp [filterMapBody, hg]
      have h2 : (filterMapBody g f x).2 = f y := by simp [filterMapBody, hg]
      rw [List.filterMap_cons_some hg, takeThrough_cons, List.flatMap_cons, h1, h2]
      cases f y
      · simp
      · simpa using ih

theorem wrapFilterMap_law {α β : Type} (g : α → Option β) (inner : Seq α) (L : List α)
    (h : TakeThroughLaw inner L) : TakeThroughLaw (wrapFilterMap g inner) (L.filterMap g) := by
  intro f
  rw [wrapFilterMap, rangeOver, h]
  exact flatMap_filterMapBody g f L

/-- What the body of sam `Reader` does with one `ReaderHeader` item. -/
def samPick : Item Sam.Entry → Option (Item Sam.Sam)
  | .err => some .err
  | .ok (.hdr _) => none
  | .ok (.sam r) => some (.ok r)

theorem samWrap_eq : samWrap = wrapFilterMap samPick := by
  funext inner f
  rw [samWrap, wrapFilterMap]
  congr 1
  funext it
  rcases it with (_ | _) | _ <;> rfl

theorem dropHeaders_eq (l : List (Item Sam.Entry)) : Sam.dropHeaders l = l.filterMap samPick := by
  induction l with
  | nil => rfl
  | cons it rest ih =>
    rcases it with (_ | _) | _
    · rw [Sam.dropHeaders, ih, List.filterMap_cons_none (by rfl)]
    · rw [Sam.dropHeaders, ih, List.filterMap_cons_some (by rfl)]
    · rw [Sam.dropHeaders, ih, List.filterMap_cons_some (by rfl)]

theorem samWrap_law (inner : Seq (Item Sam.Entry)) (L : List (Item Sam.Entry))
    (h : TakeThroughLaw inner L) : TakeThroughLaw (samWrap inner) (Sam.dropHeaders L) := by
  rw [samWrap_eq, dropHeaders_eq]; exact wrapFilterMap_law samPick inner L h

/-! ## The uninterrupted logs are the `decodeSrc` item lists -/

theorem fasta_full (e : Ending) (x : Bytes) : (fastaSrc e).items x = Fasta.decodeSrc e x := by
  refine Source.items_unique _ _ (fun x => ?_) x
  cases x with
  | nil => cases e <;> simp [Fasta.decodeSrc_nil, fastaSrc, fastaNext]
  | cons b rest =>
    rw [Fasta.decodeSrc_cons]
    simp only [fastaSrc, fastaNext]
    split
    · cases e <;> simp [*, Fasta.decodeSrc_nil]
    · rfl

theorem fastq_full (e : Ending) (ls : List Bytes) :
    (fastqSrc e).items ls = Fastq.fromLines e ls := by
  refine Source.items_unique _ _ (fun ls => ?_) ls
  simp only [fastqSrc]
  fun_cases Fastq.fromLines e ls <;> simp [fastqNext, *]

theorem bed_full (e : Ending) (nf : Option Nat) (ls : List Bytes) :
    (bedSrc e).items (nf, ls) = Bed.fromLines e nf ls := by
  refine Source.items_unique _ (fun s => Bed.fromLines e s.1 s.2) (fun s => ?_) (nf, ls)
  obtain ⟨nf, ls⟩ := s
  simp only [bedSrc, bedNext]
  induction ls with
  | nil => cases e <;> rfl
  | cons l rest ih =>
    rw [Bed.fromLines, bedRead]
    by_cases hsk : Bed.isSkipped l = true
    · rw [if_pos hsk, if_pos hsk]; exact ih
    · rw [if_neg hsk, if_neg hsk]
      by_cases hc : (nf.isSome && nf != some (splitOn TAB l).length) = true
      · simp only [hc, if_true]
      · simp only [hc]
        cases Bed.parseLine (splitOn TAB l) <;> rfl

theorem newick_full (pd : Bytes → Option Newick.Dist) (e : Ending) (x : Bytes) :
    (newickSrc pd e).items x = Newick.decodeSrc pd e x := by
  refine Source.items_unique _ _ (fun x => ?_) x
  simp only [newickSrc, newickNext]
  rw [Newick.decodeSrc]
  cases Newick.readTree pd e x with
  | eof => rfl
  | err => rfl
  | tree t rest => simp only []; split <;> rfl

theorem sam_full (pf : Bytes → Option Bytes) (e : Ending) (ls : List Bytes) :
    samHeaderLoop pf (linesSrc e) (fun _ => true) ls
      = Sam.itemsOfLines pf ls ++ Sam.endItems e := by
  induction ls with
  | nil => rw [samHeaderLoop_eq]; cases e <;> rfl
  | cons l rest ih =>
    rw [samHeaderLoop_eq, show (linesSrc e).next (l :: rest) = .item l rest from rfl]
    by_cases h0 : l = [] <;> simp [h0, ih, Sam.itemsOfLines]

/-! ## The readers satisfy the take-through law -/

theorem fastaIter_law (e : Ending) (x : Bytes) :
    TakeThroughLaw (fastaIter e x) (Fasta.decodeSrc e x) := by
  intro f; rw [fastaIter, iterLoop_log, fasta_full]

theorem fastqIter_law (e : Ending) (x : Bytes) :
    TakeThroughLaw (fastqIter e x) (Fastq.decodeSrc e x) := by
  intro f; rw [fastqIter, iterLoop_log, fastq_full]; rfl

theorem bedReader_law (e : Ending) (x : Bytes) :
    TakeThroughLaw (bedReader e x) (Bed.decodeSrc e x) := by
  intro f; rw [bedReader, readerLoop_eq_iterLoop, iterLoop_log, bed_full]; rfl

theorem newickReader_law (pd : Bytes → Option Newick.Dist) (e : Ending) (x : Bytes) :
    TakeThroughLaw (newickReader pd e x) (Newick.decodeSrc pd e x) := by
  intro f; rw [newickReader, readerLoop_eq_iterLoop, iterLoop_log, newick_full]

theorem samReaderHeader_law (pf : Bytes → Option Bytes) (e : Ending) (x : Bytes) :
    TakeThroughLaw (samReaderHeader pf e x) (Sam.decodeHeaderSrc pf e x) := by
  intro f; rw [samReaderHeader, samHeaderLoop_log, sam_full]; rfl

theorem samReader_law (pf : Bytes → Option Bytes) (e : Ending) (x : Bytes) :
    TakeThroughLaw (samReader pf e x) (Sam.decodeSrc pf e x) :=
  samWrap_law _ _ (samReaderHeader_law pf e x)

/-! ## `File` -/

theorem file_none {ρ : Type} (f : Item ρ → Bool) : file (none : Option (Seq (Item ρ))) f = [.err] :=
  rfl

theorem file_some {ρ : Type} (inner : Seq (Item ρ)) : file (some inner) = inner :=
  funext fun f => wrap_apply inner f

theorem file_law {ρ ι : Type} (rd : ι → Seq (Item ρ)) (items : ι → List (Item ρ))
    (h : ∀ i, TakeThroughLaw (rd i) (items i)) (o : Option ι) :
    TakeThroughLaw (file (o.map rd))
      (match o with | none => [.err] | some i => items i) := by
  intro f
  cases o with
  | none => simp [file_none, takeThrough]
  | some i => simp only [Option.map_some, file_some]; exact h i f

end Bio.Iter

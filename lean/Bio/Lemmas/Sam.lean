/-
  Helper lemmas for property C03 (formats/sam): well-formedness predicates,
  tag codec, record round trip, file readers.
-/
import Bio.Lemmas.Codec
import Bio.Model.Sam
namespace Bio.Sam
open Bio

/-! ## Well-formedness predicates (all decidable) -/

/-- Free of TAB, LF, CR. -/
def textOK (s : Bytes) : Prop := ∀ b ∈ s, b ≠ 9 ∧ b ≠ 10 ∧ b ≠ 13

/-- Free of LF, CR (header lines may contain TABs). -/
def lineOK (s : Bytes) : Prop := ∀ b ∈ s, b ≠ 10 ∧ b ≠ 13

/-- A tag name: free of colon, TAB, LF, CR, of any length: all the round trip needs, and weaker than the
SAM-spec shape `[A-Za-z][A-Za-z0-9]`. -/
def nameOK (n : Bytes) : Prop := ∀ b ∈ n, b ≠ 58 ∧ b ≠ 9 ∧ b ≠ 10 ∧ b ≠ 13

/-- A tag value that survives the round trip.  `.F t` keeps the TEXT of the float: `pf t = some t` says the
float parser accepts it and prints it back unchanged. -/
def WFVal (pf : Bytes → Option Bytes) : TagVal → Prop
  | .A c => c ≠ 9 ∧ c ≠ 10 ∧ c ≠ 13
  | .I n => int64Min ≤ n ∧ n ≤ int64Max
  | .F t => pf t = some t ∧ textOK t
  | .Z s => textOK s
  | .H _ => True

/-- A record that survives the round trip.  A QNAME starting with `@` would be read back as a header line;
the reader returns the tags sorted by name without repetition (`tagInsert`), so they must be so already. -/
def WF (pf : Bytes → Option Bytes) (s : Sam) : Prop :=
  textOK s.qname ∧ textOK s.rname ∧ textOK s.cigar ∧ textOK s.rnext ∧ textOK s.seq ∧
  textOK s.qual ∧ s.qname.head? ≠ some 64 ∧
  (int64Min ≤ s.flag ∧ s.flag ≤ int64Max) ∧ (int64Min ≤ s.pos ∧ s.pos ≤ int64Max) ∧
  (int64Min ≤ s.mapq ∧ s.mapq ≤ int64Max) ∧ (int64Min ≤ s.pnext ∧ s.pnext ≤ int64Max) ∧
  (int64Min ≤ s.tlen ∧ s.tlen ≤ int64Max) ∧
  (∀ p ∈ s.tags, nameOK p.1 ∧ WFVal pf p.2) ∧
  List.Pairwise (fun a b => bytesLt a.1 b.1 = true) s.tags

/-- A header line: starts with `@`, free of LF/CR. -/
def hdrOK (h : Bytes) : Prop := h.head? = some 64 ∧ lineOK h

/-- A plain line as the reader hands it to the parser: LF-free, not ending in CR. -/
def plainLine (l : Bytes) : Prop := (10 : UInt8) ∉ l ∧ l.getLast? ≠ some 13

instance (s : Bytes) : Decidable (textOK s) := inferInstanceAs (Decidable (∀ b ∈ s, _))
instance (s : Bytes) : Decidable (lineOK s) := inferInstanceAs (Decidable (∀ b ∈ s, _))
instance (s : Bytes) : Decidable (nameOK s) := inferInstanceAs (Decidable (∀ b ∈ s, _))
instance (pf : Bytes → Option Bytes) : (v : TagVal) → Decidable (WFVal pf v)
  | .A c => inferInstanceAs (Decidable (c ≠ 9 ∧ c ≠ 10 ∧ c ≠ 13))
  | .I n => inferInstanceAs (Decidable (int64Min ≤ n ∧ n ≤ int64Max))
  | .F t => inferInstanceAs (Decidable (pf t = some t ∧ textOK t))
  | .Z s => inferInstanceAs (Decidable (textOK s))
  | .H _ => inferInstanceAs (Decidable True)
instance (pf : Bytes → Option Bytes) (s : Sam) : Decidable (WF pf s) :=
  inferInstanceAs (Decidable (_ ∧ _))
instance (h : Bytes) : Decidable (hdrOK h) := inferInstanceAs (Decidable (_ ∧ _))
instance (l : Bytes) : Decidable (plainLine l) := inferInstanceAs (Decidable (_ ∧ _))

/-! ## Small byte facts

`textOK s` unfolds to `NoTabNL s` of `Bio.Lemmas.Codec`: its lemmas apply as they are. -/

theorem textOK_of_nameOK {n : Bytes} (h : nameOK n) : textOK n :=
  fun b hb => (h b hb).2

theorem textOK.tab {s : Bytes} (h : textOK s) : TAB ∉ s := NoTabNL.tab h
theorem textOK.lf {s : Bytes} (h : textOK s) : (10 : UInt8) ∉ s := NoTabNL.lf h
theorem textOK.cr {s : Bytes} (h : textOK s) : (13 : UInt8) ∉ s := NoTabNL.cr h
theorem nameOK.colon {s : Bytes} (h : nameOK s) : COLON ∉ s := fun hm => (h _ hm).1 rfl

theorem lineOK_of_textOK {s : Bytes} (h : textOK s) : lineOK s := fun b hb => (h b hb).2

theorem plainLine_of_lineOK {s : Bytes} (h : lineOK s) : plainLine s := plain_of_noNL h

/-- the lines around one line `l'` and that line -/
theorem plainLine_mid {pre post : List Bytes} {l' : Bytes} (hpre : ∀ l ∈ pre, plainLine l)
    (hpost : ∀ l ∈ post, plainLine l) (hl : plainLine l') : ∀ l ∈ pre ++ [l'] ++ post, plainLine l := by
  intro l hm
  simp only [List.mem_append, List.mem_singleton] at hm
  rcases hm with (hm | rfl) | hm
  · exact hpre l hm
  · exact hl
  · exact hpost l hm

/-! ## Tag codec -/

theorem splitColon_append {a : Bytes} (h : COLON ∉ a) (r : Bytes) :
    splitColon (a ++ COLON :: r) = some (a, r) := by
  induction a with
  | nil => simp [splitColon]
  | cons b q ih =>
    simp only [List.mem_cons, not_or] at h
    have hb : (b == COLON) = false := by simpa using Ne.symm h.1
    simp [splitColon, hb, ih h.2]

theorem splitColon_none {f : Bytes} (h : COLON ∉ f) : splitColon f = none := by
  induction f with
  | nil => rfl
  | cons b q ih =>
    simp only [List.mem_cons, not_or] at h
    have hb : (b == COLON) = false := by simpa using Ne.symm h.1
    simp [splitColon, hb, ih h.2]

theorem splitColon_some {f a r : Bytes} (h : splitColon f = some (a, r)) :
    f = a ++ COLON :: r ∧ COLON ∉ a := by
  induction f generalizing a with
  | nil => simp [splitColon] at h
  | cons b q ih =>
    rw [splitColon] at h
    split at h
    · rename_i hb
      simp at hb
      cases h
      simp [hb]
    · rename_i hb
      split at h
      · rename_i a' r' hq
        cases h
        obtain ⟨h1, h2⟩ := ih hq
        refine ⟨by rw [h1]; rfl, ?_⟩
        simp only [List.mem_cons, not_or]
        exact ⟨fun e => hb (by simp [e]), h2⟩
      · cases h

theorem splitTag_text {name ty : Bytes} (hn : COLON ∉ name) (ht : COLON ∉ ty) (val : Bytes) :
    splitTag (name ++ COLON :: (ty ++ COLON :: val)) = some (name, ty, val) := by
  simp [splitTag, splitColon_append hn, splitColon_append ht]

/-- A field with fewer than two colons is rejected by `splitTag`. -/
theorem splitTag_none_of_count {f : Bytes} (h : f.count COLON < 2) : splitTag f = none := by
  unfold splitTag
  split
  · rfl
  · rename_i name r h1
    split
    · rfl
    · rename_i ty val h2
      obtain ⟨e1, _⟩ := splitColon_some h1
      obtain ⟨e2, _⟩ := splitColon_some h2
      subst e2; subst e1
      simp [List.count_append] at h
      omega

/-- One tag field to a (name, value) pair. -/
def parseTag (pf : Bytes → Option Bytes) (f : Bytes) : Option (Bytes × TagVal) :=
  match splitTag f with
  | none => none
  | some (name, ty, val) => (parseTagVal pf ty val).map (fun v => (name, v))

theorem parseTags_nil (pf : Bytes → Option Bytes) (acc : List (Bytes × TagVal)) :
    parseTags pf [] acc = some acc := rfl

theorem parseTags_cons (pf : Bytes → Option Bytes) (f : Bytes) (rest : List Bytes)
    (acc : List (Bytes × TagVal)) :
    parseTags pf (f :: rest) acc =
      match parseTag pf f with
      | none => none
      | some p => parseTags pf rest (tagInsert p.1 p.2 acc) := by
  rw [parseTags, parseTag]
  cases h : splitTag f with
  | none => rfl
  | some t =>
    obtain ⟨name, ty, val⟩ := t
    cases hv : parseTagVal pf ty val <;> simp [hv]

theorem parseTags_none_of_mem (pf : Bytes → Option Bytes) {f : Bytes} {fs : List Bytes}
    (hf : f ∈ fs) (h : parseTag pf f = none) (acc : List (Bytes × TagVal)) :
    parseTags pf fs acc = none := by
  induction fs generalizing acc with
  | nil => simp at hf
  | cons g rest ih =>
    rw [parseTags_cons]
    rcases List.mem_cons.1 hf with e | hm
    · subst e; rw [h]
    · split
      · rfl
      · exact ih hm _

theorem tagToText_A (name : Bytes) (c : UInt8) :
    tagToText name (.A c) = name ++ COLON :: ([65] ++ COLON :: [c]) := by simp [tagToText]
theorem tagToText_I (name : Bytes) (n : Int) :
    tagToText name (.I n) = name ++ COLON :: ([105] ++ COLON :: itoa n) := by simp [tagToText]
theorem tagToText_F (name : Bytes) (t : Bytes) :
    tagToText name (.F t) = name ++ COLON :: ([102] ++ COLON :: t) := by simp [tagToText]
theorem tagToText_Z (name : Bytes) (z : Bytes) :
    tagToText name (.Z z) = name ++ COLON :: ([90] ++ COLON :: z) := by simp [tagToText]
theorem tagToText_H (name : Bytes) (bs : Bytes) :
    tagToText name (.H bs) = name ++ COLON :: ([72] ++ COLON :: hexEnc bs) := by simp [tagToText]

theorem parseTag_tagToText (pf : Bytes → Option Bytes) {name : Bytes} {v : TagVal}
    (hn : nameOK name) (hv : WFVal pf v) : parseTag pf (tagToText name v) = some (name, v) := by
  have hc := hn.colon
  cases v with
  | A c => rw [tagToText_A, parseTag, splitTag_text hc (by decide)]; rfl
  | I n =>
    rw [tagToText_I, parseTag, splitTag_text hc (by decide)]
    show ((atoi (itoa n)).map TagVal.I).map _ = _
    rw [atoi_itoa n hv]; rfl
  | F t =>
    rw [tagToText_F, parseTag, splitTag_text hc (by decide)]
    show ((pf t).map TagVal.F).map _ = _
    rw [hv.1]; rfl
  | Z z => rw [tagToText_Z, parseTag, splitTag_text hc (by decide)]; rfl
  | H bs =>
    rw [tagToText_H, parseTag, splitTag_text hc (by decide)]
    show ((hexDec (hexEnc bs)).map TagVal.H).map _ = _
    rw [hexDec_hexEnc]; rfl

theorem textOK_tagToText (pf : Bytes → Option Bytes) {name : Bytes} {v : TagVal}
    (hn : nameOK name) (hv : WFVal pf v) : textOK (tagToText name v) := by
  have hname : NoTabNL name := textOK_of_nameOK hn
  cases v with
  | A c => exact hname.append (((NoTabNL.nil.cons hv).cons (by decide)).cons (by decide) |>.cons (by decide))
  | I n => exact (hname.append (by decide)).append (NoTabNL.itoa n)
  | F t => exact (hname.append (by decide)).append hv.2
  | Z z => exact (hname.append (by decide)).append hv
  | H bs => exact (hname.append (by decide)).append (NoTabNL.hexEnc bs)

/-- A tag field `name:ty:val` whose value its type rejects. -/
theorem parseTag_bad_value (pf : Bytes → Option Bytes) {name ty : Bytes} (val : Bytes)
    (hn : COLON ∉ name) (ht : COLON ∉ ty) (h : parseTagVal pf ty val = none) :
    parseTag pf (name ++ COLON :: (ty ++ COLON :: val)) = none := by
  rw [parseTag, splitTag_text hn ht]; simp [h]

theorem parseTag_none_of_splitTag {pf : Bytes → Option Bytes} {f : Bytes}
    (h : splitTag f = none) : parseTag pf f = none := by
  rw [parseTag, h]

theorem parseTagVal_A_bad (pf : Bytes → Option Bytes) {val : Bytes} (h : val.length ≠ 1) :
    parseTagVal pf [65] val = none := by
  match val, h with
  | [], _ => rfl
  | [_], h => simp at h
  | _ :: _ :: _, _ => rfl

theorem parseTagVal_i_bad (pf : Bytes → Option Bytes) {val : Bytes} (h : atoi val = none) :
    parseTagVal pf [105] val = none := by
  show (atoi val).map TagVal.I = none
  rw [h]; rfl

theorem parseTagVal_H_bad (pf : Bytes → Option Bytes) {val : Bytes} (h : val.length % 2 = 1) :
    parseTagVal pf [72] val = none := by
  show (hexDec val).map TagVal.H = none
  rw [hexDec_odd val h]; rfl

/-! ### `atoi` rejects non-numeric text -/

theorem parseNatAux_none_of_nondigit {s : Bytes} (h : ∃ b ∈ s, isDigit b = false) (acc : Nat) :
    parseNatAux acc s = none := by
  induction s generalizing acc with
  | nil => simp at h
  | cons c r ih =>
    rw [parseNatAux]
    split
    · rename_i hc
      obtain ⟨b, hb, hd⟩ := h
      rcases List.mem_cons.1 hb with e | hm
      · subst e; rw [hc] at hd; cases hd
      · exact ih ⟨b, hm, hd⟩ _
    · rfl

theorem parseNat_none_of_nondigit {s : Bytes} (h : ∃ b ∈ s, isDigit b = false) :
    parseNat s = none := by
  cases s with
  | nil => rfl
  | cons c r => exact parseNatAux_none_of_nondigit h 0

/-- A byte that is neither a digit nor a sign makes `atoi` fail. -/
theorem atoi_none_of_nondigit {s : Bytes}
    (h : ∃ b ∈ s, isDigit b = false ∧ b ≠ 43 ∧ b ≠ 45) : atoi s = none := by
  obtain ⟨b, hb, hd, h43, h45⟩ := h
  unfold atoi
  split
  rename_i x neg body heq
  have hbody : parseNat body = none := by
    apply parseNat_none_of_nondigit
    refine ⟨b, ?_, hd⟩
    split at heq
    · cases heq
      rcases List.mem_cons.1 hb with e | hm
      · exact absurd e h43
      · exact hm
    · cases heq
      rcases List.mem_cons.1 hb with e | hm
      · exact absurd e h45
      · exact hm
    · cases heq; exact hb
  rw [hbody]

theorem atoi_nil : atoi [] = none := by
  simp [atoi, parseNat]

/-! ## The tag map: insertion in any order gives the sorted list -/

abbrev Tags := List (Bytes × TagVal)

def SortedTags (l : Tags) : Prop := List.Pairwise (fun a b => bytesLt a.1 b.1 = true) l
def DistinctTags (l : Tags) : Prop := List.Pairwise (fun a b => a.1 ≠ b.1) l

def insertAll (ps : Tags) (acc : Tags) : Tags :=
  ps.foldl (fun acc p => tagInsert p.1 p.2 acc) acc

theorem insertAll_nil (acc : Tags) : insertAll [] acc = acc := rfl
theorem insertAll_cons (p : Bytes × TagVal) (ps acc : Tags) :
    insertAll (p :: ps) acc = insertAll ps (tagInsert p.1 p.2 acc) := rfl

theorem SortedTags.distinct {l : Tags} (h : SortedTags l) : DistinctTags l :=
  List.Pairwise.imp (fun hab => bytesLt_ne hab) h

theorem DistinctTags.perm {l l' : Tags} (h : DistinctTags l) (hp : l.Perm l') :
    DistinctTags l' :=
  List.Pairwise.perm h hp (fun hab => Ne.symm hab)

/-- general insertion into the sorted list: the entry with the key, if any, is replaced -/
theorem tagInsert_general (k : Bytes) (v : TagVal) (m : Tags) (hs : SortedTags m) :
    SortedTags (tagInsert k v m)
      ∧ (tagInsert k v m).Perm ((k, v) :: m.filter (fun e => e.1 != k)) := by
  induction m with
  | nil => exact ⟨by simp [tagInsert, SortedTags], List.Perm.refl _⟩
  | cons q rest ih =>
    obtain ⟨k', v'⟩ := q
    unfold SortedTags at hs ih ⊢
    rw [List.pairwise_cons] at hs
    have hrest_ne : ∀ z ∈ rest, k' ≠ z.1 := fun z hz => bytesLt_ne (hs.1 z hz)
    rw [tagInsert]
    by_cases hk : k = k'
    · subst hk
      rw [if_pos rfl]
      refine ⟨List.pairwise_cons.2 ⟨hs.1, hs.2⟩, ?_⟩
      have hf : rest.filter (fun e => e.1 != k) = rest :=
        List.filter_eq_self.2 (fun z hz => by simpa using Ne.symm (hrest_ne z hz))
      simp [hf]
    · rw [if_neg hk]
      by_cases hlt : bytesLt k k' = true
      · rw [if_pos hlt]
        refine ⟨?_, ?_⟩
        · rw [List.pairwise_cons]
          refine ⟨?_, List.pairwise_cons.2 hs⟩
          intro z hz
          rcases List.mem_cons.1 hz with e | hm
          · subst e; exact hlt
          · exact bytesLt_trans hlt (hs.1 z hm)
        · have hf : ((k', v') :: rest).filter (fun e => e.1 != k) = (k', v') :: rest := by
            apply List.filter_eq_self.2
            intro z hz
            rcases List.mem_cons.1 hz with e | hm
            · subst e; simpa using Ne.symm hk
            · simpa using Ne.symm (bytesLt_ne (bytesLt_trans hlt (hs.1 z hm)))
          rw [hf]
      · rw [if_neg hlt]
        have hgt : bytesLt k' k = true := bytesLt_of_ne_of_not_lt hk (by simpa using hlt)
        obtain ⟨ih1, ih2⟩ := ih hs.2
        have hk' : ((k', v').1 != k) = true := by simpa using Ne.symm hk
        refine ⟨?_, ?_⟩
        · rw [List.pairwise_cons]
          refine ⟨?_, ih1⟩
          intro z hz
          rcases List.mem_cons.1 (ih2.mem_iff.1 hz) with e | hm
          · subst e; exact hgt
          · exact hs.1 z (List.mem_filter.1 hm).1
        · have hf : ((k', v') :: rest).filter (fun e => e.1 != k) = (k', v') :: rest.filter (fun e => e.1 != k) :=
            List.filter_cons_of_pos hk'
          rw [hf]
          exact (List.Perm.cons _ ih2).trans (List.Perm.swap _ _ _)


/-- a key not in the map yet: the new entry is added -/
theorem tagInsert_perm (k : Bytes) (v : TagVal) (acc : Tags) (hk : ∀ q ∈ acc, k ≠ q.1)
    (hs : SortedTags acc) : (tagInsert k v acc).Perm ((k, v) :: acc) := by
  have hf : acc.filter (fun e => e.1 != k) = acc :=
    List.filter_eq_self.2 fun q hq => by simpa using Ne.symm (hk q hq)
  simpa [hf] using (tagInsert_general k v acc hs).2

theorem mem_tagInsert {k : Bytes} {v : TagVal} {acc : Tags} {p : Bytes × TagVal} (hs : SortedTags acc)
    (h : p ∈ tagInsert k v acc) : p = (k, v) ∨ p ∈ acc := by
  rcases List.mem_cons.1 ((tagInsert_general k v acc hs).2.mem_iff.1 h) with e | hm
  · exact Or.inl e
  · exact Or.inr (List.mem_filter.1 hm).1

theorem insertAll_spec (ps acc : Tags) (hs : SortedTags acc) (hd : DistinctTags (ps ++ acc)) :
    SortedTags (insertAll ps acc) ∧ (insertAll ps acc).Perm (ps ++ acc) := by
  induction ps generalizing acc with
  | nil => exact ⟨hs, List.Perm.refl _⟩
  | cons p ps ih =>
    rw [insertAll_cons]
    have hd' := hd
    unfold DistinctTags at hd'
    rw [List.cons_append, List.pairwise_cons] at hd'
    have hk : ∀ q ∈ acc, p.1 ≠ q.1 := fun q hq => hd'.1 q (List.mem_append_right _ hq)
    have hperm := tagInsert_perm p.1 p.2 acc hk hs
    have hsorted := (tagInsert_general p.1 p.2 acc hs).1
    have hp2 : (ps ++ tagInsert p.1 p.2 acc).Perm (p :: ps ++ acc) :=
      ((List.Perm.append_left ps hperm).trans List.perm_middle)
    have := ih _ hsorted (hd.perm hp2.symm)
    exact ⟨this.1, this.2.trans hp2⟩

/-- Inserting any permutation of a strictly sorted tag list into the empty map yields that
list. -/
theorem insertAll_perm_sorted {ps tags : Tags} (hp : ps.Perm tags) (hs : SortedTags tags) :
    insertAll ps [] = tags := by
  have hd : DistinctTags (ps ++ []) := by
    rw [List.append_nil]; exact hs.distinct.perm hp.symm
  obtain ⟨h1, h2⟩ := insertAll_spec ps [] List.Pairwise.nil hd
  rw [List.append_nil] at h2
  refine List.Perm.eq_of_pairwise ?_ h1 hs (h2.trans hp)
  intro a b _ _ hab hba
  rw [bytesLt_asymm hab] at hba; cases hba

theorem parseTags_eq_insertAll (pf : Bytes → Option Bytes) (g : Bytes → Bytes × TagVal)
    (fs : List Bytes) (h : ∀ f ∈ fs, parseTag pf f = some (g f)) (acc : Tags) :
    parseTags pf fs acc = some (insertAll (fs.map g) acc) := by
  induction fs generalizing acc with
  | nil => rfl
  | cons f rest ih =>
    rw [parseTags_cons, h f (by simp)]
    exact ih (fun f' hf' => h f' (List.mem_cons_of_mem _ hf')) _

theorem tagsOK_texts (pf : Bytes → Option Bytes) {tags : Tags}
    (hw : ∀ p ∈ tags, nameOK p.1 ∧ WFVal pf p.2) :
    ∀ t ∈ tagsToText tags, textOK t := by
  intro t ht
  rw [tagsToText, mem_sortBytes, List.mem_map] at ht
  obtain ⟨p, hp, rfl⟩ := ht
  exact textOK_tagToText pf (hw p hp).1 (hw p hp).2

/-- `tagsToText` sorts the TEXTS, the list is sorted by NAME, and the two orders can differ (`a!:…` before
`a:…` as texts), so the reader sees a permutation of `tags`: `insertAll_perm_sorted`.  `g` parses a text
back to its tag. -/
theorem parseTags_tagsToText (pf : Bytes → Option Bytes) {tags : Tags}
    (hw : ∀ p ∈ tags, nameOK p.1 ∧ WFVal pf p.2) (hs : SortedTags tags) :
    parseTags pf (tagsToText tags) [] = some tags := by
  let g : Bytes → Bytes × TagVal := fun f => (parseTag pf f).getD ([], .H [])
  have hg : ∀ p ∈ tags, g (tagToText p.1 p.2) = p := by
    intro p hp
    show (parseTag pf (tagToText p.1 p.2)).getD _ = p
    rw [parseTag_tagToText pf (hw p hp).1 (hw p hp).2]; rfl
  have hall : ∀ f ∈ tagsToText tags, parseTag pf f = some (g f) := by
    intro f hf
    rw [tagsToText, mem_sortBytes, List.mem_map] at hf
    obtain ⟨p, hp, rfl⟩ := hf
    rw [hg p hp, parseTag_tagToText pf (hw p hp).1 (hw p hp).2]
  rw [parseTags_eq_insertAll pf g _ hall]
  congr 1
  apply insertAll_perm_sorted _ hs
  have h1 : ((tagsToText tags).map g).Perm ((tags.map fun p => tagToText p.1 p.2).map g) :=
    (sortBytes_perm _).map g
  have h2 : (tags.map fun p => tagToText p.1 p.2).map g = tags := by
    rw [List.map_map]
    conv => rhs; rw [← List.map_id tags]
    exact List.map_congr_left (fun p hp => hg p hp)
  rw [h2] at h1
  exact h1

/-! ## Record round trip -/

theorem pieces_textOK (pf : Bytes → Option Bytes) {s : Sam} (h : WF pf s) :
    ∀ p ∈ fields11 s ++ tagsToText s.tags, textOK p := by
  obtain ⟨hq, hr, hc, hx, hs, hql, -, -, -, -, -, -, htags, -⟩ := h
  intro p hp
  rcases List.mem_append.1 hp with hp | hp
  · simp only [fields11, List.mem_cons, List.not_mem_nil, or_false] at hp
    rcases hp with e | e | e | e | e | e | e | e | e | e | e <;> subst e <;>
      first | assumption | exact NoTabNL.itoa _
  · exact tagsOK_texts pf htags p hp

theorem fields11_ne_nil (s : Sam) : fields11 s ≠ [] := by simp [fields11]

theorem splitOn_encodeLine (pf : Bytes → Option Bytes) {s : Sam} (h : WF pf s) :
    splitOn TAB (encodeLine s) = fields11 s ++ tagsToText s.tags := by
  apply splitOn_joinWith
  · simp [fields11]
  · intro p hp
    exact (pieces_textOK pf h p hp).tab

theorem parseLine_fields (pf : Bytes → Option Bytes) {s : Sam} (h : WF pf s) :
    parseLine pf (fields11 s ++ tagsToText s.tags) = some s := by
  obtain ⟨-, -, -, -, -, -, -, hfl, hpo, hmq, hpn, htl, htags, hsorted⟩ := h
  simp only [fields11, List.cons_append, List.nil_append, parseLine,
    atoi_itoa _ hfl, atoi_itoa _ hpo, atoi_itoa _ hmq, atoi_itoa _ hpn, atoi_itoa _ htl,
    parseTags_tagsToText pf htags hsorted]

theorem encodeLine_eq (s : Sam) :
    encodeLine s = s.qname ++ TAB :: joinWith TAB ((fields11 s).tail ++ tagsToText s.tags) := by
  simp [encodeLine, fields11, joinWith]

theorem encodeLine_ne_nil (s : Sam) : encodeLine s ≠ [] := by
  rw [encodeLine_eq]; simp

theorem encodeLine_head (pf : Bytes → Option Bytes) {s : Sam} (h : WF pf s) :
    (encodeLine s).head? ≠ some 64 := by
  have hh : s.qname.head? ≠ some 64 := h.2.2.2.2.2.2.1
  rw [encodeLine_eq]
  cases hq : s.qname with
  | nil => simp [TAB]
  | cons b r => rw [hq] at hh; simpa using hh

theorem encodeLine_textOK_or_tab (pf : Bytes → Option Bytes) {s : Sam} (h : WF pf s) :
    lineOK (encodeLine s) := by
  intro b hb
  rcases mem_joinWith hb with e | ⟨p, hp, hbp⟩
  · subst e; decide
  · exact (pieces_textOK pf h p hp b hbp).2

theorem encodeLine_plain (pf : Bytes → Option Bytes) {s : Sam} (h : WF pf s) :
    plainLine (encodeLine s) := plainLine_of_lineOK (encodeLine_textOK_or_tab pf h)

theorem writeCalls_flatten' (s : Sam) : (writeCalls s).flatten = encode s := by
  simp [writeCalls, encode, encodeLine, joinWith_append TAB (fields11_ne_nil s)]

/-! ## Readers -/

theorem lineItem_hdr (pf : Bytes → Option Bytes) {l : Bytes} (h : l.head? = some 64) :
    lineItem pf l = .ok (.hdr l) := by
  cases l with
  | nil => simp at h
  | cons b r => simp at h; subst h; rfl

theorem lineItem_not_hdr (pf : Bytes → Option Bytes) {l : Bytes} (h : l.head? ≠ some 64) :
    lineItem pf l = match parseLine pf (splitOn TAB l) with
      | some s => .ok (.sam s)
      | none => .err := by
  unfold lineItem
  split
  · simp at h
  · rfl

theorem lineItem_encodeLine (pf : Bytes → Option Bytes) {s : Sam} (h : WF pf s) :
    lineItem pf (encodeLine s) = .ok (.sam s) := by
  rw [lineItem_not_hdr pf (encodeLine_head pf h), splitOn_encodeLine pf h, parseLine_fields pf h]

theorem lineItem_bad (pf : Bytes → Option Bytes) {l : Bytes} (h : l.head? ≠ some 64)
    (hp : parseLine pf (splitOn TAB l) = none) : lineItem pf l = .err := by
  rw [lineItem_not_hdr pf h, hp]

theorem itemsOfLines_nil (pf : Bytes → Option Bytes) : itemsOfLines pf [] = [] := rfl

theorem itemsOfLines_append (pf : Bytes → Option Bytes) (a b : List Bytes) :
    itemsOfLines pf (a ++ b) = itemsOfLines pf a ++ itemsOfLines pf b := by
  simp [itemsOfLines]

theorem itemsOfLines_cons (pf : Bytes → Option Bytes) {l : Bytes} (h : l ≠ []) (ls : List Bytes) :
    itemsOfLines pf (l :: ls) = lineItem pf l :: itemsOfLines pf ls := by
  simp [itemsOfLines, h]

theorem itemsOfLines_hdrs (pf : Bytes → Option Bytes) (hs : List Bytes)
    (h : ∀ l ∈ hs, hdrOK l) : itemsOfLines pf hs = hs.map (fun l => Item.ok (Entry.hdr l)) := by
  induction hs with
  | nil => rfl
  | cons l rest ih =>
    have hl := (h l (by simp)).1
    have hne : l ≠ [] := by intro e; subst e; simp at hl
    rw [itemsOfLines_cons pf hne, lineItem_hdr pf hl,
      ih (fun m hm => h m (List.mem_cons_of_mem _ hm))]
    rfl

theorem itemsOfLines_records (pf : Bytes → Option Bytes) (rs : List Sam)
    (h : ∀ s ∈ rs, WF pf s) :
    itemsOfLines pf (rs.map encodeLine) = rs.map (fun s => Item.ok (Entry.sam s)) := by
  induction rs with
  | nil => rfl
  | cons s rest ih =>
    rw [List.map_cons, itemsOfLines_cons pf (encodeLine_ne_nil s),
      lineItem_encodeLine pf (h s (by simp)), ih (fun m hm => h m (List.mem_cons_of_mem _ hm))]
    rfl

theorem dropHeaders_append (a b : List (Item Entry)) :
    dropHeaders (a ++ b) = dropHeaders a ++ dropHeaders b := by
  induction a with
  | nil => rfl
  | cons x rest ih =>
    match x with
    | .ok (.hdr _) => simp [dropHeaders, ih]
    | .ok (.sam _) => simp [dropHeaders, ih]
    | .err => simp [dropHeaders, ih]

theorem dropHeaders_hdrs (hs : List Bytes) :
    dropHeaders (hs.map (fun l => Item.ok (Entry.hdr l))) = [] := by
  induction hs with
  | nil => rfl
  | cons l rest ih => simp [dropHeaders, ih]

theorem dropHeaders_records (rs : List Sam) :
    dropHeaders (rs.map (fun s => Item.ok (Entry.sam s))) = rs.map Item.ok := by
  induction rs with
  | nil => rfl
  | cons l rest ih => simp [dropHeaders, ih]

theorem dropHeaders_take (l : List (Item Entry)) (n : Nat) :
    ∃ m, dropHeaders (l.take n) = (dropHeaders l).take m := by
  induction l generalizing n with
  | nil => exact ⟨0, by simp [dropHeaders]⟩
  | cons x rest ih =>
    cases n with
    | zero => exact ⟨0, by simp [dropHeaders]⟩
    | succ n =>
      obtain ⟨m, hm⟩ := ih n
      match x with
      | .ok (.hdr _) => exact ⟨m, by simp [dropHeaders, hm]⟩
      | .ok (.sam _) => exact ⟨m + 1, by simp [dropHeaders, hm]⟩
      | .err => exact ⟨m + 1, by simp [dropHeaders, hm]⟩

theorem filter_take_exists {α : Type} (p : α → Bool) (l : List α) (n : Nat) :
    ∃ m, (l.take n).filter p = (l.filter p).take m := by
  induction l generalizing n with
  | nil => exact ⟨0, by simp⟩
  | cons x rest ih =>
    cases n with
    | zero => exact ⟨0, by simp⟩
    | succ n =>
      obtain ⟨m, hm⟩ := ih n
      by_cases hx : p x = true
      · exact ⟨m + 1, by simp [hx, hm]⟩
      · exact ⟨m, by simp [hx, hm]⟩

theorem itemsOfLines_take (pf : Bytes → Option Bytes) (ls : List Bytes) (n : Nat) :
    ∃ m, itemsOfLines pf (ls.take n) = (itemsOfLines pf ls).take m := by
  obtain ⟨m, hm⟩ := filter_take_exists (fun l : Bytes => decide (l ≠ [])) ls n
  refine ⟨m, ?_⟩
  unfold itemsOfLines
  rw [hm, List.map_take]

/-- When no line is empty, the item prefix has the same length as the line prefix. -/
theorem itemsOfLines_take_nonempty (pf : Bytes → Option Bytes) (ls : List Bytes)
    (h : ∀ l ∈ ls, l ≠ []) (n : Nat) :
    itemsOfLines pf (ls.take n) = (itemsOfLines pf ls).take n := by
  unfold itemsOfLines
  have h1 : ls.filter (fun l => decide (l ≠ [])) = ls :=
    List.filter_eq_self.2 (fun l hl => by simpa using h l hl)
  have h2 : (ls.take n).filter (fun l => decide (l ≠ [])) = ls.take n :=
    List.filter_eq_self.2 (fun l hl => by simpa using h l (List.mem_of_mem_take hl))
  rw [h1, h2, List.map_take]

theorem decodeHeader_lfFile (pf : Bytes → Option Bytes) (ls : List Bytes)
    (h : ∀ l ∈ ls, plainLine l) : decodeHeader pf (lfFile ls) = itemsOfLines pf ls := by
  simp [decodeHeader, decodeHeaderSrc, endItems, textLines_eof_lfFile ls h]

theorem decodeHeader_crlfFile (pf : Bytes → Option Bytes) (ls : List Bytes)
    (h : ∀ l ∈ ls, (10 : UInt8) ∉ l) : decodeHeader pf (crlfFile ls) = itemsOfLines pf ls := by
  simp [decodeHeader, decodeHeaderSrc, endItems, textLines_eof, scanLines_crlfFile ls h]

theorem decodeHeader_lfFile_last (pf : Bytes → Option Bytes) (ls : List Bytes) (last : Bytes)
    (h : ∀ l ∈ ls, plainLine l) (hne : last ≠ []) (hl : plainLine last) :
    decodeHeader pf (lfFile ls ++ last) = itemsOfLines pf (ls ++ [last]) := by
  simp [decodeHeader, decodeHeaderSrc, endItems, textLines_eof,
    scanLines_lfFile_append_last ls last h hne hl.1 hl.2]

theorem decode_eq (pf : Bytes → Option Bytes) (x : Bytes) :
    decode pf x = dropHeaders (decodeHeader pf x) := rfl

theorem decodeHeaderSrc_fail_take (pf : Bytes → Option Bytes) (ls : List Bytes)
    (h : ∀ l ∈ ls, plainLine l) (k : Nat) :
    ∃ n, decodeHeaderSrc pf .fail ((lfFile ls).take k) =
      itemsOfLines pf (ls.take n) ++ [Item.err] := by
  obtain ⟨n, hn⟩ := textLines_fail_take_lfFile ls h k
  exact ⟨n, by simp [decodeHeaderSrc, endItems, hn]⟩

/-- All lines of a file of header lines followed by well-formed records are plain. -/
theorem samLines_plain (pf : Bytes → Option Bytes) (hs : List Bytes) (rs : List Sam)
    (hh : ∀ l ∈ hs, hdrOK l) (hr : ∀ s ∈ rs, WF pf s) :
    ∀ l ∈ hs ++ rs.map encodeLine, plainLine l := by
  intro l hl
  rcases List.mem_append.1 hl with hl | hl
  · exact plainLine_of_lineOK (hh l hl).2
  · obtain ⟨s, hs', rfl⟩ := List.mem_map.1 hl
    exact encodeLine_plain pf (hr s hs')

theorem samLines_nonempty (hs : List Bytes) (rs : List Sam)
    (hh : ∀ l ∈ hs, hdrOK l) :
    ∀ l ∈ hs ++ rs.map encodeLine, l ≠ [] := by
  intro l hl
  rcases List.mem_append.1 hl with hl | hl
  · intro e; subst e; have := (hh [] hl).1; simp at this
  · obtain ⟨s, _, rfl⟩ := List.mem_map.1 hl
    exact encodeLine_ne_nil s

theorem itemsOfLines_samLines (pf : Bytes → Option Bytes) (hs : List Bytes) (rs : List Sam)
    (hh : ∀ l ∈ hs, hdrOK l) (hr : ∀ s ∈ rs, WF pf s) :
    itemsOfLines pf (hs ++ rs.map encodeLine) =
      hs.map (fun h => Item.ok (Entry.hdr h)) ++ rs.map (fun s => Item.ok (Entry.sam s)) := by
  rw [itemsOfLines_append, itemsOfLines_hdrs pf hs hh, itemsOfLines_records pf rs hr]

theorem dropHeaders_samItems (hs : List Bytes) (rs : List Sam) :
    dropHeaders (hs.map (fun h => Item.ok (Entry.hdr h)) ++
      rs.map (fun s => Item.ok (Entry.sam s))) = rs.map Item.ok := by
  rw [dropHeaders_append, dropHeaders_hdrs, dropHeaders_records]; rfl

/-! ## `parseLine` failures -/

/-- a line with at least the eleven mandatory fields -/
theorem exists_cons11 {α : Type} {l : List α} (h : 11 ≤ l.length) :
    ∃ a0 a1 a2 a3 a4 a5 a6 a7 a8 a9 a10 rest,
      l = a0 :: a1 :: a2 :: a3 :: a4 :: a5 :: a6 :: a7 :: a8 :: a9 :: a10 :: rest := by
  obtain ⟨a0, l0, rfl, h0⟩ := cons_of_succ_le h
  obtain ⟨a1, l1, rfl, h1⟩ := cons_of_succ_le h0
  obtain ⟨a2, l2, rfl, h2⟩ := cons_of_succ_le h1
  obtain ⟨a3, l3, rfl, h3⟩ := cons_of_succ_le h2
  obtain ⟨a4, l4, rfl, h4⟩ := cons_of_succ_le h3
  obtain ⟨a5, l5, rfl, h5⟩ := cons_of_succ_le h4
  obtain ⟨a6, l6, rfl, h6⟩ := cons_of_succ_le h5
  obtain ⟨a7, l7, rfl, h7⟩ := cons_of_succ_le h6
  obtain ⟨a8, l8, rfl, h8⟩ := cons_of_succ_le h7
  obtain ⟨a9, l9, rfl, h9⟩ := cons_of_succ_le h8
  obtain ⟨a10, l10, rfl, -⟩ := cons_of_succ_le h9
  exact ⟨a0, a1, a2, a3, a4, a5, a6, a7, a8, a9, a10, l10, rfl⟩


theorem parseLine_too_few (pf : Bytes → Option Bytes) (fs : List Bytes) (h : fs.length < 11) :
    parseLine pf fs = none := by
  unfold parseLine
  split
  · simp at h; omega
  · rfl

theorem parseLine_bad_int (pf : Bytes → Option Bytes) (fs : List Bytes)
    (h : ∃ i ∈ [1, 3, 4, 7, 8], ∃ f, fs[i]? = some f ∧ atoi f = none) :
    parseLine pf fs = none := by
  unfold parseLine
  split
  · split
    · obtain ⟨i, hi, f, hf, hnone⟩ := h
      simp only [List.mem_cons, List.not_mem_nil, or_false] at hi
      rcases hi with rfl | rfl | rfl | rfl | rfl <;> cases hf <;> simp only [hnone, reduceCtorEq] at *
    · rfl
  · rfl

theorem parseLine_none_of_tags (pf : Bytes → Option Bytes) (fs : List Bytes)
    (h : parseTags pf (fs.drop 11) [] = none) : parseLine pf fs = none := by
  unfold parseLine
  split
  · simp only [List.drop_succ_cons, List.drop_zero] at h
    split
    · simp [h]
    · rfl
  · rfl

theorem parseLine_none_of_tag (pf : Bytes → Option Bytes) (fs : List Bytes) {f : Bytes}
    (hf : f ∈ fs.drop 11) (h : parseTag pf f = none) : parseLine pf fs = none :=
  parseLine_none_of_tags pf fs (parseTags_none_of_mem pf hf h [])

end Bio.Sam

/-! ## The value parser with the three library parsers as parameters

`tagValSpec` is what the translated Go parser is compared with (`Bio.Lemmas.GoSrcSamParse1`, whence the
namespace); it stands here so that `parseTagVal_unknown` is its instance. -/

namespace Bio.GoSrcLemmas.SamP
open Bio

/-- the model's `parseTagVal` with its three value parsers as parameters -/
def tagValSpec (A : Bytes → Option Int) (P H : Bytes → Option Bytes) (ty val : Bytes) : Option Sam.TagVal :=
  match ty with
  | [65] => match val with
    | [c] => some (.A c)
    | _ => none
  | [105] => (A val).map .I
  | [102] => (P val).map .F
  | [90] => some (.Z val)
  | [72] => (H val).map .H
  | [66] => some (.Z val)
  | _ => none

theorem tagValSpec_model (pf : Bytes → Option Bytes) : tagValSpec atoi pf hexDec = Sam.parseTagVal pf := rfl

theorem tagValSpec_unknown (A : Bytes → Option Int) (P H : Bytes → Option Bytes) {ty : Bytes} (val : Bytes)
    (h : ty ∉ [[65], [105], [102], [90], [72], [66]]) : tagValSpec A P H ty val = none := by
  simp only [List.mem_cons, List.not_mem_nil, or_false, not_or] at h
  obtain ⟨h1, h2, h3, h4, h5, h6⟩ := h
  unfold tagValSpec
  split <;> first | rfl | contradiction

end Bio.GoSrcLemmas.SamP

namespace Bio.Sam
open Bio

theorem parseTagVal_unknown (pf : Bytes → Option Bytes) {ty : Bytes} (val : Bytes)
    (h : ty ∉ [[65], [105], [102], [90], [72], [66]]) : parseTagVal pf ty val = none :=
  GoSrcLemmas.SamP.tagValSpec_model pf ▸ GoSrcLemmas.SamP.tagValSpec_unknown atoi pf hexDec val h

end Bio.Sam

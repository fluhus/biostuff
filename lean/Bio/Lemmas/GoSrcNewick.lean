/-
  The newick name codec (`quoted`, `nameFromText`, `nameToText` of
  formats/newick/newick.go), translated from the Go source text on every run,
  IS the hand-written model of `Bio.Model.Newick`.  Guarded by the translator's
  `<f>_Found` flags as in `Bio.Lemmas.GoSrc`.
-/
import Bio.Model.Newick
import Bio.Generated.GoSrc
import Bio.Generated.Tables
import Bio.Lemmas.GoRt
set_option linter.unusedVariables false
namespace Bio.GoSrcLemmas
open Bio Bio.GoRt Bio.Generated

/-! ### `strings.ReplaceAll` on the three patterns the codec uses -/

theorem replaceAllAux_single_map (o n : UInt8) (s : Bytes) :
    replaceAllAux [o] [n] 0 s = s.map fun b => if b == o then n else b := by
  induction s with
  | nil => rfl
  | cons b rest ih =>
    simp only [replaceAllAux, List.map_cons, List.length_singleton, Nat.sub_self]
    by_cases h : b = o
    · subst h; simp [ih, List.isPrefixOf]
    · have h' : ¬ o = b := fun e => h e.symm
      simp [h, h', ih, List.isPrefixOf]

theorem replaceAll_single_map (o n : UInt8) (s : Bytes) :
    replaceAll s [o] [n] = s.map fun b => if b == o then n else b := by
  simp [replaceAll, replaceAllAux_single_map]

theorem replaceAll_double (s : Bytes) : replaceAll s [39] [39, 39] = Newick.doubleQuotes s := by
  simp only [replaceAll, List.isEmpty_cons, Bool.false_eq_true, if_false]
  induction s with
  | nil => rfl
  | cons b rest ih =>
    simp only [replaceAllAux, Newick.doubleQuotes, Newick.QUOTE, List.length_singleton, Nat.sub_self]
    by_cases h : b = 39
    · subst h; simp [ih, List.isPrefixOf]
    · have h' : ¬ (39 : UInt8) = b := fun e => h e.symm
      simp [h, h', ih, List.isPrefixOf]

theorem replaceAll_undouble (s : Bytes) : replaceAll s [39, 39] [39] = Newick.undoubleQuotes s := by
  simp only [replaceAll, List.isEmpty_cons, Bool.false_eq_true, if_false]
  -- strong induction on the length (the model consumes two bytes at a time)
  generalize hn : s.length = n
  induction n using Nat.strongRecOn generalizing s with
  | _ n ih =>
    match s, hn with
    | [], _ => rfl
    | [b], _ =>
      simp [replaceAllAux, Newick.undoubleQuotes, List.isPrefixOf]
    | a :: b :: rest, hn =>
      simp only [replaceAllAux, Newick.undoubleQuotes, Newick.QUOTE, List.length_cons, List.length_nil]
      by_cases ha : a = 39
      · by_cases hb : b = 39
        · have := ih rest.length (by simp at hn; omega) rest rfl
          subst ha; subst hb
          simp [this, List.isPrefixOf]
        · have := ih (b :: rest).length (by simp at hn ⊢; omega) (b :: rest) rfl
          have hb' : ¬ (39 : UInt8) = b := fun e => hb e.symm
          subst ha
          rw [← this]
          simp [replaceAllAux, hb, hb', List.isPrefixOf]
      · have := ih (b :: rest).length (by simp at hn ⊢; omega) (b :: rest) rfl
        have ha' : ¬ (39 : UInt8) = a := fun e => ha e.symm
        rw [← this]
        simp [replaceAllAux, ha, ha', List.isPrefixOf]

/-! ### `quoted`, `nameFromText`, `nameToText` -/

theorem quoted_eq (hF : GoSrc.quoted_Found = true) (s : Bytes) :
    GoSrc.quoted s = some (Newick.quoted s) := by
  first
  | exact absurd hF (by decide)
  | (unfold GoSrc.quoted Newick.quoted
     simp only [Option.pure_def, Option.bind_eq_bind]
     rcases s with _ | ⟨a, t⟩
     · rfl
     -- two bytes or more: the first is `a`, the last is `z`
     rcases List.eq_nil_or_concat t with rfl | ⟨u, z, rfl⟩
     · rfl
     · simp only [List.concat_eq_append]
       have hl : len (a :: (u ++ [z])) ≥ 2 := by simp [len]; omega
       have h1 : idx (a :: (u ++ [z])) (len (a :: (u ++ [z])) - 1) = some z := by
         rw [← List.cons_append, len_snoc_sub]; exact idx_snoc_last (a :: u) z
       have hg : (a :: (u ++ [z])).getLast? = some z := List.getLast?_concat (l := a :: u)
       have h0 : idx (a :: (u ++ [z])) 0 = some a := rfl
       have h2 : decide ((a :: (u ++ [z])).length ≥ 2) = true := by simp
       rw [if_pos hl, h0, h1, hg, h2]
       cases h : a == 39 <;> simp [h, Newick.QUOTE])

theorem nameFromText_eq (hF : GoSrc.nameFromText_Found = true) (hQ : GoSrc.quoted_Found = true) (s : Bytes) :
    GoSrc.nameFromText s = some (Newick.nameFromText s) := by
  first
  | exact absurd hF (by decide)
  | (unfold GoSrc.nameFromText Newick.nameFromText
     simp only [Option.pure_def, Option.bind_eq_bind, quoted_eq hQ, Option.bind_some]
     by_cases hq : Newick.quoted s = true
     · have hl : 2 ≤ s.length := by
         unfold Newick.quoted at hq; simp at hq; omega
       have hs : slice s 1 (len s - 1) = some ((s.drop 1).dropLast) := by
         unfold slice len
         have : (0 : Int) ≤ 1 ∧ (1 : Int) ≤ (s.length : Int) - 1 ∧ (s.length : Int) - 1 ≤ (s.length : Int) := by omega
         simp only [this, and_self, if_true, Option.some.injEq]
         rw [show ((s.length : Int) - 1 - 1).toNat = s.length - 2 by omega, show (1 : Int).toNat = 1 by rfl]
         rw [List.dropLast_eq_take, List.length_drop]
         congr 1
       simp [hq, hs, replaceAll_undouble]
     · simp [hq, replaceAll_single_map])

theorem containsAny_eq_needsQuote (qs s : Bytes) : containsAny s qs = Newick.needsQuote qs s := rfl

theorem nameToText_eq (hF : GoSrc.nameToText_Found = true) (s : Bytes) :
    GoSrc.nameToText s = some (Newick.nameToText GoSrc.nameToText_lit0 s) := by
  first
  | exact absurd hF (by decide)
  | (unfold GoSrc.nameToText Newick.nameToText
     simp only [Option.pure_def, containsAny_eq_needsQuote, replaceAll_double,
       replaceAll_single_map, Newick.QUOTE]
     split <;> simp)

/-- two lists with the same elements answer `contains` alike -/
theorem contains_congr_of_subset {a b : Bytes} (hab : ∀ y ∈ a, y ∈ b) (hba : ∀ y ∈ b, y ∈ a) (x : UInt8) :
    a.contains x = b.contains x :=
  Bool.eq_iff_iff.2 ⟨fun h => List.contains_iff_mem.2 (hab x (List.contains_iff_mem.1 h)),
    fun h => List.contains_iff_mem.2 (hba x (List.contains_iff_mem.1 h))⟩

/-- `needsQuote` only depends on which bytes are in the quote set. -/
theorem needsQuote_congr (a b : Bytes) (h : ∀ x : UInt8, a.contains x = b.contains x) (s : Bytes) :
    Newick.needsQuote a s = Newick.needsQuote b s := by
  unfold Newick.needsQuote
  induction s with
  | nil => rfl
  | cons x rest ih => simp only [List.any_cons, h x, ih]

theorem nameToText_congr (a b : Bytes) (h : ∀ x : UInt8, a.contains x = b.contains x) (s : Bytes) :
    Newick.nameToText a s = Newick.nameToText b s := by
  unfold Newick.nameToText; rw [needsQuote_congr a b h]

theorem nameToText_lit0_contains (hF : GoSrc.nameToText_Found = true) (x : UInt8) :
    GoSrc.nameToText_lit0.contains x = Generated.newickQuoteBytes.contains x := by
  first
  | exact absurd hF (by decide)
  | exact contains_congr_of_subset (by decide) (by decide) x

/-- the translated `nameToText` on the observed quote set -/
theorem nameToText_eq_observed (hF : GoSrc.nameToText_Found = true) (s : Bytes) :
    GoSrc.nameToText s = some (Newick.nameToText Generated.newickQuoteBytes s) := by
  rw [nameToText_eq hF s, nameToText_congr _ _ (nameToText_lit0_contains hF) s]

end Bio.GoSrcLemmas

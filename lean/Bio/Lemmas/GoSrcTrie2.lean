/-
  trie/trie.go at the Go SOURCE level, part 2: `New`, `(*Trie).Has`, `(*Trie).Add`.

  * `has_loop`: the `for len(b) > 0 { … }` loop of `Has`, started at ANY node that
    represents a sub-trie `t`, answers `Trie.has b t` (induction on the rest of `b`).
  * `add_loop`: the loop of `Add`, started at ANY node `n` with `Good heap n t S`, ends with a heap
    in which `n` represents `Trie.add b t` (same edge order); only `n`, cells of the footprint `S`
    and fresh cells are touched (`Upd`: the frame needed one level up).  A missing edge is first
    added, with a fresh empty node below it (`Good.add_edge`), and then walked like any other.
-/
import Bio.Lemmas.GoSrcTrie1
set_option linter.unusedVariables false
namespace Bio.GoSrcLemmas
namespace TrieGo
open Bio Bio.GoRt Bio.Generated Bio.Trie

theorem len_cons_pos (k : UInt8) (bs : Bytes) : decide (len (k :: bs) > 0) = true := by
  simp [len]

theorem idx_zero_cons {α : Type} (k : α) (bs : List α) : idx (k :: bs) 0 = some k := by
  simp [idx]

theorem slice_tail {α : Type} (k : α) (bs : List α) : slice (k :: bs) 1 (len (k :: bs)) = some bs := by
  have := slice_ofNat (k :: bs) 1 (bs.length + 1) (by omega) (by simp)
  simpa [len] using this

theorem natCast_ne_neg_one (c : Nat) : ((c : Int) == -1) = false := by
  simp

/-- loop state of `Has`: a pending `return`, `b`, `cur`, and the translator's flag "the `for`
condition became false" (`fin` reads it: otherwise the fuel ran out) -/
abbrev HasSt := Option Bool × Bytes × Int × Bool

/-- `body` / `fin` are the loop body and what follows the loop, known only through what they do;
`Has_eq` discharges the three hypotheses from the translated text (`first | exact absurd hF … | …`:
see `Bio.Lemmas.GoSrc`; the flag hypotheses are then unreferenced, hence the linter option). -/

theorem has_loop (heap : Heap) (body : Nat → HasSt → Option (ForInStep HasSt))
    (fin : HasSt → Option Bool)
    (hnil : ∀ a cur d, body a (none, [], cur, d) = some (.done (none, [], cur, true)))
    (hcons : ∀ a k bs (n : Nat) es d, heap[n]? = some es →
      body a (none, k :: bs, (n : Int), d) =
        if (mapGet es k (-1) == -1) = true then some (.done (some false, k :: bs, (n : Int), d))
        else some (.yield (none, bs, mapGet es k (-1), d)))
    (hfin : ∀ st, fin st = match st.1 with
      | some r => some r
      | none => if st.2.2.2 = true then some true else none) :
    ∀ (b : Bytes) (l : List Nat) (n : Nat) (es : List (UInt8 × Int)) (t : T) (S : List Nat) (d : Bool),
      heap[n]? = some es → RepE heap es t S → b.length + 1 ≤ l.length →
      (forIn l ((none, b, (n : Int), d) : HasSt) body).bind fin = some (has b t) := by
  intro b
  induction b with
  | nil =>
    intro l n es t S d hn hr hl
    cases l with
    | nil => simp at hl
    | cons a l => simp [List.forIn_cons, hnil, hfin, has]
  | cons k bs ih =>
    intro l n es t S d hn hr hl
    cases l with
    | nil => simp at hl
    | cons a l =>
      simp only [List.length_cons] at hl
      simp only [List.forIn_cons, hcons a k bs n es d hn]
      rcases hr.lookup k with ⟨h1, h2⟩ | ⟨es1, es2, c, h1, h2, h3⟩
      · rw [h1]
        have : has (k :: bs) t = false := has_absent k bs t (by rw [hr.keys]; exact h2)
        simp [hfin, this]
      · rw [h1, natCast_ne_neg_one]
        subst h2
        obtain ⟨t1, tc, t2, S1, Sc, S2, es', hc, r1, rc, r2, rfl, rfl⟩ := hr.at_edge
        rw [has_present k bs t1 tc t2 (by rw [r1.keys]; exact h3)]
        simpa using ih l c es' tc Sc d hc rc (by omega)

theorem Has_eq (hF : GoSrc.Trie_Has_Found = true) (fuel : Nat) (heap : Heap) (n : Nat)
    (es : List (UInt8 × Int)) (t : T) (S : List Nat) (b : Bytes)
    (hn : heap[n]? = some es) (hr : RepE heap es t S) (hf : b.length + 1 ≤ fuel) :
    GoSrc.Trie_Has fuel heap (n : Int) b = some (has b t) := by
  first
  | exact absurd hF (by decide)
  | (unfold GoSrc.Trie_Has
     simp only [Option.pure_def, Option.bind_eq_bind]
     refine has_loop heap _ _ ?_ ?_ ?_ b (List.range fuel) n es t S false hn hr (by simpa using hf)
     · intro a cur d
       simp [len_nil_pos]
     · intro a k bs n es d hn
       simp only [len_cons_pos, idx_ofNat, hn, idx_zero_cons, slice_tail, Option.bind_some,
         Bool.not_true, Bool.false_eq_true, if_false]
     · intro st
       rcases st with ⟨_ | r, b, c, _ | _⟩ <;> rfl)

theorem New_eq (hF : GoSrc.New_Found = true) (heap : Heap) :
    GoSrc.New heap = some ((heap.length : Int), heap ++ [[]]) := by
  first
  | exact absurd hF (by decide)
  | (unfold GoSrc.New
     simp [len])

/-- loop state of `Add`: `b`, the heap, `cur`, the flag as in `HasSt` -/
abbrev AddSt := Bytes × Heap × Int × Bool

/-- `body` / `fin` as for `has_loop`, discharged in `Add_eq` -/

theorem add_loop (body : Nat → AddSt → Option (ForInStep AddSt)) (fin : AddSt → Option Heap)
    (hnil : ∀ a heap cur d, body a ([], heap, cur, d) = some (.done ([], heap, cur, true)))
    (hcons : ∀ a k bs (heap : Heap) (n : Nat) es d, heap[n]? = some es →
      body a (k :: bs, heap, (n : Int), d) =
        if (mapGet es k (-1) == -1) = true then
          some (.yield (bs, (heap ++ ([[]] : Heap)).set n (mapSet es k (heap.length : Int)), (heap.length : Int), d))
        else some (.yield (bs, heap, mapGet es k (-1), d)))
    (hfin : ∀ st, fin st = if st.2.2.2 = true then some st.2.1 else none) :
    ∀ (b : Bytes) (l : List Nat) (heap : Heap) (n : Nat) (t : T) (S : List Nat) (d : Bool),
      Good heap n t S → b.length + 1 ≤ l.length →
      ∃ heap' S', (forIn l ((b, heap, (n : Int), d) : AddSt) body).bind fin = some heap' ∧
        Good heap' n (add b t) S' ∧ Upd heap n S heap' S' := by
  intro b
  induction b with
  | nil =>
    intro l heap n t S d hg hl
    cases l with
    | nil => simp at hl
    | cons a l =>
      exact ⟨heap, S, by simp [List.forIn_cons, hnil, hfin], by simpa [add] using hg, .refl ..⟩
  | cons k bs ih =>
    intro l heap n t S d hg hl
    obtain ⟨es, hn, hr⟩ := hg.cell
    cases l with
    | nil => simp at hl
    | cons a l =>
      simp only [List.length_cons] at hl
      simp only [List.forIn_cons, hcons a k bs heap n es d hn]
      -- once the edge `(k, c)` is there (in `heap1`): walk down, the heap changes only below `c`
      have down : ∀ (heap1 : Heap) (t1' : T) (S1' : List Nat) (es1 es2 : List (UInt8 × Int)) (c : Nat),
          Good heap1 n t1' S1' → Upd heap n S heap1 S1' →
          heap1[n]? = some (es1 ++ (k, (c : Int)) :: es2) → k ∉ es1.map Prod.fst →
          add (k :: bs) t1' = add (k :: bs) t →
          ∃ heap' S', (forIn l ((bs, heap1, (c : Int), d) : AddSt) body).bind fin = some heap' ∧
            Good heap' n (add (k :: bs) t) S' ∧ Upd heap n S heap' S' := by
        intro heap1 t1' S1' es1 es2 c hg1 hu1 hn1 hk1 hadd
        obtain ⟨t1, tc, t2, S1, Sc, S2, rfl, rfl, hkt1, hgc, hplug⟩ := hg1.focus hn1 hk1
        obtain ⟨heap', Sc', hrun, hg', hu'⟩ := ih l heap1 c tc Sc d hgc (by omega)
        obtain ⟨_, hu, hgood, _⟩ := hplug heap' Sc' hu'
        exact ⟨heap', _, hrun, by rw [← hadd, add_present k bs t1 tc t2 hkt1]; exact hgood _ hg',
          hu1.trans hu⟩
      rcases hr.lookup k with ⟨h1, h2⟩ | ⟨es1, es2, c, h1, rfl, h3⟩
      · rw [h1, mapSet_absent es k _ h2]
        simp only [beq_self_eq_true, if_true, Option.bind_some, Option.bind_eq_bind]
        obtain ⟨hn1, hg1, hu1⟩ := hg.add_edge hn h2
        exact down _ _ _ es [] _ hg1 hu1 hn1 h2
          (add_snoc_edge k bs t (hr.keys ▸ h2))
      · rw [h1, natCast_ne_neg_one]
        simp only [Bool.false_eq_true, if_false, Option.bind_some, Option.bind_eq_bind]
        exact down heap t S es1 es2 c hg (.refl ..) hn h3 rfl

theorem Add_eq (hN : GoSrc.New_Found = true) (hF : GoSrc.Trie_Add_Found = true) (fuel : Nat)
    (heap : Heap) (n : Nat) (t : T) (S : List Nat) (b : Bytes)
    (hg : Good heap n t S) (hf : b.length + 1 ≤ fuel) :
    ∃ heap' S', GoSrc.Trie_Add fuel heap (n : Int) b = some heap' ∧
      Good heap' n (add b t) S' ∧ Upd heap n S heap' S' := by
  first
  | exact absurd hF (by decide)
  | exact absurd hN (by decide)
  | (unfold GoSrc.Trie_Add
     simp only [Option.pure_def, Option.bind_eq_bind]
     refine add_loop _ _ ?_ ?_ ?_ b (List.range fuel) heap n t S false hg (by simpa using hf)
     · intro a heap cur d
       simp [len_nil_pos]
     · intro a k bs heap n es d hn
       have hnlt : n < heap.length := (List.getElem?_eq_some_iff.1 hn).1
       have hn2 : (heap ++ [[]])[n]? = some es := by
         rw [List.getElem?_append_left hnlt]; exact hn
       simp only [len_cons_pos, idx_ofNat, hn, idx_zero_cons, slice_tail, Option.bind_some,
         Bool.not_true, Bool.false_eq_true, if_false, New_eq hN, hn2, setIdx_ofNat]
       have : n < (heap ++ [[]]).length := by simp; omega
       simp only [this, if_true, Option.bind_some]
     · intro st
       rcases st with ⟨b, h, c, _ | _⟩ <;> rfl)

end TrieGo
end Bio.GoSrcLemmas

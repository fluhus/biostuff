/-
  `(*Fasta).MarshalText` of formats/fasta/fasta.go and `(*Fastq).MarshalText` of
  formats/fastq/fastq.go, translated from the Go source text on every run into
  `Bio.Generated.GoSrc.fasta_MarshalText` / `fastq_MarshalText`.  Each computes the length `n` of
  the text in advance, has the translated `Write` write the record into a `bytes.Buffer` (the `Wr`
  with `room` bytes of room) and panics (`none`) when the buffer's length differs from `n`.

  The exact value, for EVERY `room`: the model's text (`Fasta.encode 80` / `Fastq.encode`) when it
  fits into `room`, a panic otherwise (the writer then cut the text, and the self-check fires).

  Guarded by the translator's `<f>_Found` flags as in `Bio.Lemmas.GoSrc`.
-/
import Bio.Lemmas.GoSrcIterWrite
import Bio.Props.C01
import Bio.Props.C02
set_option linter.unusedVariables false -- the `hF` of the flag idiom (Lemmas/GoSrc.lean)
set_option linter.unusedSimpArgs false
namespace Bio.GoSrcLemmas
open Bio Bio.GoRt Bio.Generated

theorem fasta_encode_length (n s : Bytes) :
    (Fasta.encode 80 ⟨n, s⟩).length = 2 + n.length + s.length + (s.length + 79) / 80 := by
  rw [Fasta.encode_length 80 (by decide)]
  simp only [Fasta.marshalLen]
  omega

theorem fastq_encode_length (n s q : Bytes) :
    (Fastq.encode ⟨n, s, q⟩).length = 6 + n.length + s.length + q.length := by
  rw [Fastq.encode_length]
  simp only [Fastq.marshalLen]

/-- the `n` of the Go text (an `int` expression with Go's truncating `/`) is the length of the text -/
theorem fasta_marshal_n (n s : Bytes) :
    ((2 + (len n)) + (len s)) + (Int.tdiv (((len s) + 80) - 1) 80)
      = ((Fasta.encode 80 ⟨n, s⟩).length : Int) := by
  rw [fasta_encode_length]
  simp only [len]
  rw [Int.tdiv_eq_ediv_of_nonneg (by omega)]
  omega

theorem fastq_marshal_n (n s q : Bytes) :
    ((6 + (len n)) + (len s)) + (len q) = ((Fastq.encode ⟨n, s, q⟩).length : Int) := by
  rw [fastq_encode_length]
  simp only [len]
  omega

/-- The body of a translated `MarshalText`: make a buffer, let `W` (the translated `Write`, which on a
writer with `k` bytes of room accepts the first `k` bytes of `text`) write into it, panic unless the
buffer then has the pre-computed length `n` — the text if it fits, else the panic of the self-check. -/
theorem marshal_eq (W : Wr → Option (GoErr × Wr)) (text : Bytes) (n : Int) (hn : n = (text.length : Int))
    (hW : ∀ k o, W ⟨k, o⟩ = some (if text.length ≤ k then GoErr.nil else GoErr.other,
      ⟨k - (text.take k).length, o ++ text.take k⟩)) (room : Nat) :
    ((makeCap n : Option Bytes).bind fun buf => (W ⟨room, buf⟩).bind fun tmp =>
      if (len tmp.2.out != n) = true then (none : Option Unit).bind fun _ => some (tmp.2.out, GoErr.nil)
      else some (tmp.2.out, GoErr.nil))
      = if text.length ≤ room then some (text, GoErr.nil) else none := by
  subst hn
  rw [makeCap, if_neg (by omega), Option.bind_some, hW, Option.bind_some]
  by_cases h : text.length ≤ room
  · simp [h, List.take_of_length_le h, len]
  · have hk : room < text.length := by omega
    simp [h, len, List.length_take, Nat.min_eq_left (Nat.le_of_lt hk)]
    omega

/-- FASTA `MarshalText` with a buffer of `room` bytes: the text if it fits, else the panic of the
self-check. -/
theorem fasta_MarshalText_eq (hM : GoSrc.fasta_MarshalText_Found = true)
    (hW : GoSrc.fasta_Write_Found = true) (room : Nat) (n s : Bytes) :
    GoSrc.fasta_MarshalText room n s
      = if (Fasta.encode 80 ⟨n, s⟩).length ≤ room then some (Fasta.encode 80 ⟨n, s⟩, GoErr.nil)
        else none := by
  first
  | exact absurd hM (by decide)
  | exact marshal_eq _ _ _ (fasta_marshal_n n s) (fasta_Write_fault hW n s) room

theorem fastq_MarshalText_eq (hM : GoSrc.fastq_MarshalText_Found = true)
    (hW : GoSrc.fastq_Write_Found = true) (room : Nat) (n s q : Bytes) :
    GoSrc.fastq_MarshalText room n s q
      = if (Fastq.encode ⟨n, s, q⟩).length ≤ room then some (Fastq.encode ⟨n, s, q⟩, GoErr.nil)
        else none := by
  first
  | exact absurd hM (by decide)
  | exact marshal_eq _ _ _ (fastq_marshal_n n s q) (fastq_Write_fault hW n s q) room

end Bio.GoSrcLemmas

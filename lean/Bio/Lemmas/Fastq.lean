/-
  Helper lemmas: `bufio.ScanLines` on files of LF/CR-free lines, whole and cut (namespace `Bio`),
  and the FASTQ model (`Bio/Model/Fastq.lean`).
-/
import Bio.Model.Fastq
import Bio.Lemmas.Codec

/-! ## Line scanning of files of clean lines -/
namespace Bio

attribute [simp] rawLines_nil scanLines_nil

/-- Free of LF and CR. -/
def Clean (l : Bytes) : Prop := ∀ b ∈ l, b ≠ 10 ∧ b ≠ 13

instance (l : Bytes) : Decidable (Clean l) := by unfold Clean; infer_instance

theorem Clean.not_lf {l : Bytes} (h : Clean l) : (10 : UInt8) ∉ l := fun hm => (h 10 hm).1 rfl
theorem Clean.not_cr {l : Bytes} (h : Clean l) : l.getLast? ≠ some 13 :=
  fun hm => (h 13 (List.mem_of_getLast? hm)).2 rfl
theorem Clean.take {l : Bytes} (h : Clean l) (k : Nat) : Clean (l.take k) :=
  fun b hb => h b (List.mem_of_mem_take hb)

theorem scanLines_lfFile_clean (ls : List Bytes) (h : ∀ l ∈ ls, Clean l) : scanLines (lfFile ls) = ls :=
  scanLines_lfFile ls fun l hl => ⟨(h l hl).not_lf, (h l hl).not_cr⟩

/-- An unterminated LF/CR-free tail is one token if non-empty, none if empty. -/
theorem scanLines_clean (p : Bytes) (h : Clean p) : scanLines p = if p = [] then [] else [p] := by
  split
  · subst p; rfl
  · rename_i hp; exact scanLines_single hp h.not_lf h.not_cr

/-- The tokens of the first `k` bytes of a file of terminated lines: complete lines, then at most
one token, a prefix of the next line. -/
theorem scanLines_take_lfFile (ls : List Bytes) (h : ∀ l ∈ ls, Clean l) (k : Nat) :
    ∃ j t, scanLines ((lfFile ls).take k) = ls.take j ++ t
      ∧ (t = [] ∨ ∃ x l, t = [x] ∧ ls[j]? = some l ∧ x <+: l) := by
  induction ls generalizing k with
  | nil => exact ⟨0, [], by simp [lfFile, scanLines_nil], .inl rfl⟩
  | cons l ls ih =>
    have hl := h l (by simp)
    rw [lfFile_cons]
    by_cases hk : k ≤ l.length
    · rw [List.take_append_of_le_length hk, scanLines_clean _ (hl.take k)]
      by_cases h0 : l.take k = []
      · exact ⟨0, [], by rw [if_pos h0]; rfl, .inl rfl⟩
      · exact ⟨0, _, by rw [if_neg h0]; rfl, .inr ⟨_, l, rfl, rfl, List.take_prefix k l⟩⟩
    · obtain ⟨j, t, h1, h2⟩ := ih (fun m hm => h m (by simp [hm])) (k - l.length - 1)
      refine ⟨j + 1, t, ?_, h2⟩
      rw [List.take_append, List.take_of_length_le (by omega),
        show k - l.length = (k - l.length - 1) + 1 by omega, List.take_succ_cons,
        scanLines_append_LF hl.not_lf hl.not_cr, h1]
      rfl

end Bio

/-! ## FASTQ -/
namespace Bio.Fastq

/-- The four lines of a written record. -/
def recLines (r : Fq) : List Bytes := [64 :: r.name, r.seq, [43], r.quals]

theorem encode_eq_lines (r : Fq) : encode r = lfFile (recLines r) := by
  simp [encode, recLines, lfFile]

theorem encodeAll_eq_lines (rs : List Fq) :
    encodeAll rs = lfFile ((rs.map recLines).flatten) := by
  induction rs with
  | nil => rfl
  | cons r rs ih =>
    simp only [encodeAll, List.map_cons, List.flatten_cons] at ih ⊢
    rw [ih, encode_eq_lines, lfFile_append]

theorem recLines_clean (r : Fq) (h : ∀ b ∈ r.name ++ r.seq ++ r.quals, b ≠ 10 ∧ b ≠ 13) :
    ∀ l ∈ recLines r, Clean l := by
  intro l hl b hb
  simp only [recLines, List.mem_cons, List.not_mem_nil, or_false] at hl
  rcases hl with rfl | rfl | rfl | rfl
  · rcases List.mem_cons.mp hb with rfl | hb
    · decide
    · exact h b (by simp [hb])
  · exact h b (by simp [hb])
  · have : b = 43 := by simpa using hb
    subst this; decide
  · exact h b (by simp [hb])

theorem allLines_clean (rs : List Fq)
    (h : ∀ r ∈ rs, (∀ b ∈ r.name ++ r.seq ++ r.quals, b ≠ 10 ∧ b ≠ 13) ∧
      r.seq.length = r.quals.length) :
    ∀ l ∈ (rs.map recLines).flatten, Clean l := by
  intro l hl
  obtain ⟨ls, hls, hl⟩ := List.mem_flatten.mp hl
  obtain ⟨r, hr, rfl⟩ := List.mem_map.mp hls
  exact recLines_clean r (h r hr).1 l hl

theorem fromLines_cases (e : Ending) (ls : List Bytes) :
    (ls = [] ∧ fromLines e ls = match e with | .eof => [] | .fail => [.err]) ∨
    (∃ name sq pl ql rest, ls = (64 :: name) :: sq :: (43 :: pl) :: ql :: rest ∧
      ql.length = sq.length ∧ fromLines e ls = .ok ⟨name, sq, ql⟩ :: fromLines e rest) ∨
    (ls ≠ [] ∧ fromLines e ls = [.err]) := by
  fun_cases fromLines e ls
  case case1 => exact .inl ⟨rfl, rfl⟩
  case case2 => exact .inl ⟨rfl, rfl⟩
  case case3 name sq ql rest pl h =>
    exact .inr (.inl ⟨name, sq, pl, ql, rest, rfl, h, rfl⟩)
  all_goals exact .inr (.inr ⟨List.cons_ne_nil _ _, rfl⟩)

theorem fromLines_nil (e : Ending) :
    fromLines e [] = (match e with | .eof => [] | .fail => [.err]) := by
  cases e <;> simp [fromLines]

theorem fromLines_rec (e : Ending) (r : Fq) (rest : List Bytes)
    (hl : r.seq.length = r.quals.length) :
    fromLines e (recLines r ++ rest) = .ok r :: fromLines e rest := by
  simp [recLines, fromLines, hl]

theorem fromLines_recs (e : Ending) (pre : List Fq) (rest : List Bytes)
    (h : ∀ r ∈ pre, r.seq.length = r.quals.length) :
    fromLines e ((pre.map recLines).flatten ++ rest) = pre.map .ok ++ fromLines e rest := by
  induction pre with
  | nil => rfl
  | cons r pre ih =>
    rw [List.map_cons, List.flatten_cons, List.append_assoc, fromLines_rec e r _ (h r (by simp)),
      ih fun q hq => h q (by simp [hq])]
    rfl

theorem fromLines_short (ls : List Bytes) (h : ls.length < 4) : fromLines .fail ls = [.err] := by
  rcases fromLines_cases .fail ls with ⟨_, h2⟩ | ⟨_, _, _, _, _, rfl, _⟩ | ⟨_, h2⟩
  · exact h2
  · simp only [List.length_cons] at h; omega
  · exact h2

theorem fromLines_induct (e : Ending) {P : List Bytes → Prop}
    (nil : P [])
    (rec : ∀ name sq pl ql rest, ql.length = sq.length →
      fromLines e ((64 :: name) :: sq :: (43 :: pl) :: ql :: rest)
        = .ok ⟨name, sq, ql⟩ :: fromLines e rest →
      P rest → P ((64 :: name) :: sq :: (43 :: pl) :: ql :: rest))
    (bad : ∀ ls, ls ≠ [] → fromLines e ls = [.err] → P ls) (ls : List Bytes) : P ls := by
  induction hn : ls.length using Nat.strongRecOn generalizing ls with
  | _ n ih =>
    rcases fromLines_cases e ls with ⟨rfl, _⟩ | ⟨name, sq, pl, ql, rest, rfl, hl, h2⟩ | ⟨hne, h2⟩
    · exact nil
    · exact rec name sq pl ql rest hl h2 (ih _ (by subst hn; simp only [List.length_cons]; omega) rest rfl)
    · exact bad ls hne h2

theorem fromLines_err_last (e : Ending) (ls : List Bytes) :
    ∀ i, (fromLines e ls)[i]? = some Item.err → i + 1 = (fromLines e ls).length := by
  induction ls using fromLines_induct e with
  | nil => rw [fromLines_nil]; intro i; cases e <;> cases i <;> simp
  | rec name sq pl ql rest hl h ih =>
    rw [h]; intro i
    cases i with
    | zero => simp
    | succ j => simpa using ih j
  | bad ls _ h => rw [h]; intro i; cases i <;> simp

theorem decodeSrc_lfFile (e : Ending) (ls : List Bytes) (h : ∀ l ∈ ls, Clean l) :
    decodeSrc e (lfFile ls) = fromLines e ls := by
  rw [decodeSrc, scanLines_lfFile_clean ls h]

/-- Well-formed records in front of arbitrary clean lines are delivered intact. -/
theorem decodeSrc_pre (e : Ending) (pre : List Fq) (tail : List Bytes)
    (h : ∀ r ∈ pre, (∀ b ∈ r.name ++ r.seq ++ r.quals, b ≠ 10 ∧ b ≠ 13) ∧
      r.seq.length = r.quals.length)
    (ht : ∀ l ∈ tail, Clean l) :
    decodeSrc e (lfFile ((pre.map recLines).flatten ++ tail)) = pre.map .ok ++ fromLines e tail := by
  rw [decodeSrc_lfFile, fromLines_recs e pre tail (fun r hr => (h r hr).2)]
  intro l hl
  rcases List.mem_append.mp hl with hl | hl
  · exact allLines_clean pre h l hl
  · exact ht l hl

theorem fromLines_no_at (e : Ending) (l1 : Bytes) (rest : List Bytes) (h : l1.head? ≠ some 64) :
    fromLines e (l1 :: rest) = [.err] := by
  rw [fromLines]
  intro t ht
  subst ht
  simp at h

theorem fromLines_no_plus (e : Ending) (name sq pl ql : Bytes) (rest : List Bytes)
    (h : pl.head? ≠ some 43) :
    fromLines e ((64 :: name) :: sq :: pl :: ql :: rest) = [.err] := by
  rw [fromLines]
  intro t ht
  subst ht
  simp at h

/-- Failing source after some complete lines `j` of a written file and at most one cut line `t`:
leading records, then one error.  A record needs its four lines; the fourth may be the cut one only
if nothing of it is missing (it has the length of the sequence line). -/
theorem fromLines_fail_cut (rs : List Fq) (h : ∀ r ∈ rs, r.seq.length = r.quals.length) :
    ∀ (j : Nat) (t : List Bytes),
      (t = [] ∨ ∃ x l, t = [x] ∧ ((rs.map recLines).flatten)[j]? = some l ∧ x <+: l) →
      ∃ n, fromLines .fail (((rs.map recLines).flatten).take j ++ t) = (rs.take n).map .ok ++ [.err] := by
  induction rs with
  | nil =>
    intro j t ht
    rcases ht with rfl | ⟨_, _, _, hl, _⟩
    · exact ⟨0, by simp [fromLines_nil]⟩
    · simp at hl
  | cons r rs ih =>
    intro j t ht
    rw [List.map_cons, List.flatten_cons] at ht ⊢
    by_cases hj : 4 ≤ j
    · obtain ⟨n, hn⟩ := ih (fun q hq => h q (by simp [hq])) (j - 4) t (by
        rwa [List.getElem?_append_right (by simpa [recLines] using hj)] at ht)
      refine ⟨n + 1, ?_⟩
      rw [List.take_append, List.take_of_length_le (by simpa [recLines] using hj), List.append_assoc,
        fromLines_rec _ _ _ (h r (by simp))]
      simpa [recLines] using hn
    · rw [List.take_append_of_le_length (by simp [recLines]; omega)]
      by_cases h4 : j = 3 ∧ t ≠ []
      · obtain ⟨rfl, ht0⟩ := h4
        obtain ⟨x, l, rfl, hl, hx⟩ := ht.resolve_left ht0
        obtain rfl : r.quals = l := by simpa [recLines] using hl
        by_cases hlen : x.length = r.seq.length
        · obtain rfl := hx.eq_of_length (hlen.trans (h r (by simp)))
          exact ⟨1, by simp [recLines, fromLines, hlen]⟩
        · exact ⟨0, by simp [recLines, fromLines, hlen]⟩
      · refine ⟨0, fromLines_short _ ?_⟩
        have hj3 : t ≠ [] → j ≠ 3 := fun ht0 e => h4 ⟨e, ht0⟩
        rcases ht with rfl | ⟨x, l, rfl, _, _⟩
        · simp [recLines]; omega
        · have := hj3 (by simp); simp [recLines]; omega

end Bio.Fastq

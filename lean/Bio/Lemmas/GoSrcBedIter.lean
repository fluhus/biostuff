/-
  The translated `Reader` of formats/bed/iter.go (`newReader(r)` is a `BufRd` with `nfields = 0`, the
  `for { }` loop has fuel, `yield` is a history consumer, the result is the log of the items handed to it)
  over the translated `read`, against `Bed.fromLines`, `Bed.decodeSrc`.  Guarded by the translator's
  `_Found` flags as in `Bio.Lemmas.GoSrc`.
-/
import Bio.Lemmas.GoSrcBedRead
import Bio.Lemmas.TakeThrough
import Bio.Lemmas.IterH
set_option linter.unusedVariables false
namespace Bio.GoSrcLemmas
open Bio Bio.GoRt Bio.Generated
namespace BedIt
open BedRd

abbrev GoItem := Option BedT × GoErr

/-- `rd := newReader(r); for { bed, err := rd.read(); if err == io.EOF { return }; if err != nil {
yield(nil, err); return }; if !yield(bed, nil) { return } }` with `read` given as a function of the reader
state (`none` = it panicked or ran out of fuel), at most `k` iterations; `log` = the items handed over so
far.  The answer to `yield(nil, err)` is not asked for. -/
def rdLoop (rd : BufRd → Int → Option RdOut) (y : List GoItem → Bool) :
    Nat → List GoItem → BufRd → Int → Option (List GoItem)
  | 0, _, _, _ => none
  | k + 1, log, r, nf =>
    match rd r nf with
    | none => none
    | some o =>
      if o.2.1 = GoErr.eof then some log
      else if o.2.1 ≠ GoErr.nil then some (log ++ [(none, o.2.1)])
      else if y (log ++ [(o.1, GoErr.nil)]) = true then
        rdLoop rd y k (log ++ [(o.1, GoErr.nil)]) o.2.2.1 o.2.2.2
      else some (log ++ [(o.1, GoErr.nil)])

theorem bed_Reader_spec (hR : GoSrc.bed_Reader_Found = true)
    (f : Bytes → Int × GoErr) (g : Bytes → Int → Int → Int × GoErr) (fuel : Nat) (r : BufRd)
    (y : List GoItem → Bool) :
    GoSrc.bed_Reader f g fuel r y = rdLoop (GoSrc.bed_read f g fuel) y fuel [] r 0 := by
  first
  | exact absurd hR (by decide)
  | (unfold GoSrc.bed_Reader
     dsimp only [Option.pure_def, Option.bind_eq_bind]
     refine (forIn_fuelSpec _ (fun n s => rdLoop (GoSrc.bed_read f g fuel) y n s.1 s.2.1 s.2.2) _ ?_
       (fun _ => rfl) ?_ (List.range fuel) ([], r, 0)).trans (by rw [List.length_range])
     · intro s
       rcases s with ⟨_ | _, _⟩ <;> rfl
     intro i o s n
     obtain ⟨log, r, nf⟩ := s
     dsimp only [rdLoop]
     cases GoSrc.bed_read f g fuel r nf with
     | none => rfl
     | some t =>
       obtain ⟨b, err, r', nf'⟩ := t
       cases err
       · cases hy : y (log ++ [(b, GoErr.nil)]) <;> simp [hy]
       · rfl
       · rfl)

/-- a model item as the Go item `Reader` hands over -/
def goItem : Item Bed.Bed → GoItem
  | .ok b => (some (tupleOf b), GoErr.nil)
  | .err => (none, GoErr.other)

/-- a Go item as a model item (`(nil, nil)`, which `Reader` never produces, is classed with the errors) -/
def normItem : GoItem → Item Bed.Bed
  | (some t, GoErr.nil) => .ok (bedOf t)
  | _ => .err

theorem normItem_goItem (i : Item Bed.Bed) : normItem (goItem i) = i := by
  cases i <;> rfl

theorem map_normItem_goItem (l : List (Item Bed.Bed)) : (l.map goItem).map normItem = l := by
  rw [List.map_map]; conv => rhs; rw [← List.map_id l]
  apply List.map_congr_left; intro i _; exact normItem_goItem i

/-- With more fuel and more iterations than there are text lines, the loop over `readSpec P` logs the Go
items of `fromLinesP P`, cut by the consumer (the consumer is not asked about a final error item; its
verdict there does not matter to `takeThroughH`). -/
theorem rdLoop_lines (P : List Bytes → Option Bed.Bed) (y : List GoItem → Bool) (e : Ending) (fuel : Nat) :
    ∀ (n : Nat) (rest : Bytes), (textLines e rest).length = n →
    ∀ (k : Nat) (nfo : Option Nat) (log : List GoItem), n < fuel → n < k → nfo ≠ some 0 →
    rdLoop (readSpec P fuel) y k log ⟨rest, e⟩ (nfInt nfo)
      = some (takeThroughH y log ((fromLinesP P e nfo (textLines e rest)).map goItem)) := by
  intro n
  induction n using Nat.strongRecOn with
  | _ n ih =>
    intro rest hn k nfo log hfuel hk hnfo
    obtain ⟨k, rfl⟩ : ∃ k', k = k' + 1 := ⟨k - 1, by omega⟩
    have hls : leadSkips (textLines e rest) < fuel := by
      have := leadSkips_le_length (textLines e rest); omega
    rcases read_fromLinesP P e rest fuel nfo hls hnfo with
      ⟨hr, hi⟩ | ⟨r', nf', hr, hi⟩ | ⟨b, rest', nfo', hr, h0, hlen, hi⟩
    · rw [rdLoop, hr, hi]
      cases e <;> simp [endErr, Bed.endItems, goItem, takeThroughH, takeThroughH_singleton]
    · rw [rdLoop, hr, hi]
      simp [goItem, takeThroughH_singleton]
    · rw [rdLoop, hr, hi, List.map_cons, takeThroughH_cons]
      rw [show goItem (Item.ok b) = (some (tupleOf b), GoErr.nil) from rfl]
      dsimp only
      rw [if_neg (by simp), if_neg (by simp)]
      by_cases hy : y (log ++ [(some (tupleOf b), GoErr.nil)]) = true
      · rw [if_pos hy, if_pos hy]
        exact ih _ (by omega) rest' rfl k nfo' _ (by omega) (by omega) h0
      · rw [if_neg hy, if_neg hy]

/-- the items of an uninterrupted run of the translated `Reader`, as model items: `fromLinesP` at the
translated `parseLine` (= `parseSpec (reqA f) (u8G g)`), a fresh reader (`nfields` not fixed yet) -/
def goBedItems (f : Bytes → Int × GoErr) (g : Bytes → Int → Int → Int × GoErr) (e : Ending) (x : Bytes) :
    List (Item Bed.Bed) :=
  fromLinesP (parseSpec (reqA f) (u8G g)) e none (textLines e x)

/-- ARBITRARY `strconv` functions and ARBITRARY consumer: the Go items of the uninterrupted run, cut by
the consumer -/
theorem bed_Reader_raw (hR : GoSrc.bed_Reader_Found = true) (hF : GoSrc.bed_read_Found = true)
    (hP : GoSrc.parseLine_Found = true)
    (f : Bytes → Int × GoErr) (g : Bytes → Int → Int → Int × GoErr) (fuel : Nat) (x : Bytes) (e : Ending)
    (y : List GoItem → Bool) (hfuel : (textLines e x).length + 1 ≤ fuel) :
    GoSrc.bed_Reader f g fuel ⟨x, e⟩ y = some (takeThroughH y [] ((goBedItems f g e x).map goItem)) := by
  rw [bed_Reader_spec hR, funext fun r => funext fun nf => bed_read_spec hF hP f g fuel r nf]
  exact rdLoop_lines _ y e fuel _ x rfl fuel none [] (by omega) (by omega) (by simp)

theorem goBedDecode_items (hF : GoSrc.bed_read_Found = true) (hP : GoSrc.parseLine_Found = true)
    (f : Bytes → Int × GoErr) (g : Bytes → Int → Int → Int × GoErr) (fuel : Nat) (x : Bytes) (e : Ending)
    (hfuel : (textLines e x).length + 1 ≤ fuel) :
    goBedDecode f g fuel x e = some (goBedItems f g e x) :=
  goBedDecode_lines hF hP f g fuel x e hfuel

theorem goBedItems_model {f g} (hf : AtoiModel f) (hg : PUModel g) (e : Ending) (x : Bytes) :
    goBedItems f g e x = Bed.decodeSrc e x := by
  unfold goBedItems Bed.decodeSrc
  rw [parseSpec_of_models hf hg, fromLinesP_model]

/-- a log that is a prefix of the Go items of a list in which an error ends the list: every item is a
record with a nil error or `(nil, err)`, and an error item is the last of the log -/
theorem log_error_last (I : List (Item Bed.Bed)) (hI : ∀ i, I[i]? = some .err → i + 1 = I.length)
    (L : List GoItem) (hL : L <+: I.map goItem) (i : Nat) (t : GoItem) (ht : L[i]? = some t) :
    ((∃ b, t = (some (tupleOf b), GoErr.nil)) ∨ t = (none, GoErr.other))
    ∧ (t.2 ≠ GoErr.nil → i + 1 = L.length ∧ t = (none, GoErr.other)) := by
  obtain ⟨s, hs⟩ := hL
  have hi : i < L.length := by
    rcases Nat.lt_or_ge i L.length with h | h
    · exact h
    · rw [List.getElem?_eq_none h] at ht; cases ht
  have h1 : (I.map goItem)[i]? = some t := by
    rw [← hs, List.getElem?_append_left hi]; exact ht
  rw [List.getElem?_map] at h1
  cases hit : I[i]? with
  | none => rw [hit] at h1; cases h1
  | some it =>
    rw [hit] at h1
    simp only [Option.map_some, Option.some.injEq] at h1
    cases it with
    | ok b =>
      subst h1
      exact ⟨Or.inl ⟨b, rfl⟩, fun h => absurd rfl h⟩
    | err =>
      subst h1
      refine ⟨Or.inr rfl, fun _ => ⟨?_, rfl⟩⟩
      have h2 := hI i hit
      have h3 : L.length ≤ I.length := by
        have := congrArg List.length hs
        simp at this; omega
      omega

end BedIt
end Bio.GoSrcLemmas

/-
  The translated `ReaderHeader` of formats/sam/iter.go (`bufio.NewReader(r)` is a `BufRd`, the `for { }`
  loop has fuel, `yield` is a history consumer, the result is the log of the items handed to it) against
  `Sam.lineItem`, `Sam.decodeHeaderSrc`.  `rhSpec P y` is the
  loop with the line parser `P` as a parameter, by recursion on the fuel.  `normItem` normalises the Go tag
  map (insertion order) with `Sam.insertAll … []`.  Guarded by the translator's `_Found` flags as in
  `Bio.Lemmas.GoSrc`.
-/
import Bio.Lemmas.GoSrcSamParse
import Bio.Lemmas.SamBedLines
import Bio.Lemmas.TakeThrough
import Bio.Lemmas.IterH
import Bio.Props.C03
import Bio.Props.C03Go
set_option linter.unusedVariables false
namespace Bio.GoSrcLemmas
open Bio Bio.GoRt Bio.Generated

namespace SamIt
open BedRd SamP

/-! ## The items -/

/-- what `ReaderHeader` hands to `yield`: `(SAMOrHeader{H, S}, err)` -/
abbrev GoItem := (Option Bytes × Option SamT) × GoErr

/-- a `*SAM` of the translated code as a model record: the tag map (insertion order) normalised to the
model's sorted list -/
def samOfT : SamT → Sam.Sam
  | (qn, fl, rn, po, mq, cg, rx, pn, tl, sq, ql, tags) =>
    ⟨qn, fl, rn, po, mq, cg, rx, pn, tl, sq, ql, Sam.insertAll tags []⟩

/-- a Go item as a model item: `err ≠ nil` is an error item whatever the rest; a header line; a record
with its tags normalised (the pair `(SAMOrHeader{}, nil)`, which `ReaderHeader` never produces, is
classed with the errors) -/
def normItem : GoItem → Item Sam.Entry
  | ((some h, _), GoErr.nil) => .ok (.hdr h)
  | ((none, some t), GoErr.nil) => .ok (.sam (samOfT t))
  | _ => .err

/-- the item for one non-empty text line, with the line parser as a parameter -/
def lineItemGo (P : List Bytes → Option SamT × GoErr) (text : Bytes) : GoItem :=
  if List.isPrefixOf [64] text = true then ((some text, none), GoErr.nil)
  else ((none, (P (splitOn 9 text)).1), (P (splitOn 9 text)).2)

/-- the item for a failed read -/
def endItemsGo : Ending → List GoItem
  | .eof => []
  | .fail => [((none, none), GoErr.other)]

/-- the items of an uninterrupted run, with the line parser as a parameter -/
def goItems (P : List Bytes → Option SamT × GoErr) (e : Ending) (x : Bytes) : List GoItem :=
  ((textLines e x).filter (· ≠ [])).map (lineItemGo P) ++ endItemsGo e

/-! ## The loop, by recursion on the fuel -/

/-- one unit of fuel pays for one `ReadString`, i.e. one text line (empty ones included) or the final read -/
def rhSpec (P : List Bytes → Option SamT × GoErr) (y : List GoItem → Bool) :
    Nat → List GoItem → BufRd → Option (List GoItem)
  | 0, _, _ => none
  | fuel + 1, log, br =>
    let t := readString br 10
    let text := trimSuffix (trimSuffix t.1 [10]) [13]
    if t.2.1 ≠ GoErr.nil ∧ t.2.1 ≠ GoErr.eof then some (log ++ [((none, none), t.2.1)])
    else if text ≠ [] then
      (if y (log ++ [lineItemGo P text]) = true then
        (if t.2.1 = GoErr.eof then some (log ++ [lineItemGo P text])
         else rhSpec P y fuel (log ++ [lineItemGo P text]) t.2.2)
       else some (log ++ [lineItemGo P text]))
    else if t.2.1 = GoErr.eof then some log
    else rhSpec P y fuel log t.2.2

/-- for ARBITRARY library functions the translated closure is the loop `rhSpec` at the translated
`parseLine` (= `lineSpec h f g`) -/
theorem sam_ReaderHeader_spec (hR : GoSrc.sam_ReaderHeader_Found = true)
    (hF : GoSrc.sam_parseLine_Found = true) (hI : GoSrc.parseInts_Found = true)
    (hT : GoSrc.parseTags_Found = true) (hS : GoSrc.splitTag_Found = true)
    (h : Bytes → Bytes × GoErr) (f : Bytes → Int × GoErr) (g : Bytes → Int → Bytes × GoErr)
    (fuel : Nat) (r : BufRd) (y : List GoItem → Bool) :
    GoSrc.sam_ReaderHeader h f g fuel r y = rhSpec (lineSpec h f g) y fuel [] r := by
  first
  | exact absurd hR (by decide)
  | (unfold GoSrc.sam_ReaderHeader
     simp only [Option.pure_def, Option.bind_eq_bind, sam_parseLine_eq hF hI hT hS, Option.bind_some]
     refine (forIn_fuelSpec _ (fun n s => rhSpec (lineSpec h f g) y n s.1 s.2) _ ?_ (fun _ => rfl) ?_
       (List.range fuel) ([], r)).trans (by rw [List.length_range])
     · intro s
       rcases s with ⟨_ | _, _⟩ <;> rfl
     intro i o s n
     obtain ⟨log, br⟩ := s
     dsimp only [rhSpec]
     generalize readString br 10 = t
     obtain ⟨line, err, r'⟩ := t
     dsimp only
     generalize trimSuffix (trimSuffix line [10]) [13] = text
     by_cases c1 : err ≠ GoErr.nil ∧ err ≠ GoErr.eof
     · have c1' : (err != GoErr.nil && err != GoErr.eof) = true := by simpa using c1
       rw [if_pos c1', if_pos c1]
     · have c1' : ¬ (err != GoErr.nil && err != GoErr.eof) = true := by simpa using c1
       rw [if_neg c1', if_neg c1]
       by_cases c2 : text ≠ []
       · have c2' : (text != []) = true := by simpa using c2
         rw [if_pos c2', if_pos c2]
         unfold lineItemGo
         by_cases c3 : List.isPrefixOf [64] text = true
         · rw [if_pos c3, if_pos c3]
           cases y (log ++ [((some text, none), GoErr.nil)]) <;> cases err <;> simp
         · rw [if_neg c3, if_neg c3]
           cases y (log ++ [((none, (lineSpec h f g (splitOn 9 text)).1), (lineSpec h f g (splitOn 9 text)).2)])
             <;> cases err <;> simp
       · have c2' : ¬ (text != []) = true := by simpa using c2
         rw [if_neg c2', if_neg c2]
         cases err <;> simp)

/-! ## The loop on bytes, in terms of the text lines -/

theorem takeThroughH_nil {α : Type} (y : List α → Bool) (acc : List α) : takeThroughH y acc [] = acc := rfl

theorem goItems_nil (P : List Bytes → Option SamT × GoErr) (e : Ending) : goItems P e [] = endItemsGo e := by
  simp [goItems, textLines_nil]

theorem goItems_line (P : List Bytes → Option SamT × GoErr) (e : Ending) {l : Bytes} (rest : Bytes)
    (h : (10 : UInt8) ∉ l) :
    goItems P e (l ++ 10 :: rest)
      = if dropCR l ≠ [] then lineItemGo P (dropCR l) :: goItems P e rest else goItems P e rest := by
  unfold goItems
  rw [textLines_line e rest h]
  by_cases hd : dropCR l ≠ []
  · rw [if_pos hd, List.filter_cons_of_pos (by simpa using hd)]; simp
  · rw [if_neg hd, List.filter_cons_of_neg (by simpa using hd)]

/-- With more fuel than there are text lines the loop logs the items of the lines, then the read
error, cut by the consumer (the verdict on the read-error item, which the Go code ignores, is the
verdict on the last item and does not matter to `takeThroughH`). -/
theorem rhSpec_lines (P : List Bytes → Option SamT × GoErr) (y : List GoItem → Bool) (e : Ending)
    (rest : Bytes) : ∀ (fuel : Nat) (log : List GoItem), (textLines e rest).length < fuel →
      rhSpec P y fuel log ⟨rest, e⟩ = some (takeThroughH y log (goItems P e rest)) := by
  induction rest using lines_induction with
  | nil =>
    intro fuel log hfuel
    obtain ⟨fuel, rfl⟩ : ∃ k, fuel = k + 1 := ⟨fuel - 1, by omega⟩
    rw [goItems_nil]
    simp only [rhSpec, readString_nil]
    cases e with
    | eof => simp [endErr, endItemsGo, takeThroughH_nil, trimSuffix]
    | fail => simp [endErr, endItemsGo, takeThroughH_singleton]
  | tail l hne h =>
    intro fuel log hfuel
    obtain ⟨fuel, rfl⟩ : ∃ k, fuel = k + 1 := ⟨fuel - 1, by omega⟩
    cases e with
    | fail =>
      simp only [rhSpec, readString_tail .fail h, endErr]
      simp [goItems, textLines_tail_fail h, endItemsGo, takeThroughH_singleton]
    | eof =>
      simp only [rhSpec, readString_tail .eof h, endErr, trim_tail h]
      simp only [goItems, textLines_tail_eof hne h, endItemsGo, List.append_nil]
      by_cases hd : dropCR l ≠ []
      · rw [if_neg (by simp), if_pos hd, List.filter_cons_of_pos (by simpa using hd)]
        simp only [List.filter_nil, List.map_cons, List.map_nil, takeThroughH_singleton, if_true]
        split <;> rfl
      · rw [if_neg (by simp), if_neg hd, List.filter_cons_of_neg (by simpa using hd)]
        simp [takeThroughH_nil]
  | line l rest h ih =>
    intro fuel log hfuel
    obtain ⟨fuel, rfl⟩ : ∃ k, fuel = k + 1 := ⟨fuel - 1, by omega⟩
    rw [textLines_line e rest h] at hfuel
    have hrec := fun log' => ih fuel log' (by simpa using hfuel)
    simp only [rhSpec, readString_line rest e h, trim_line l]
    rw [if_neg (by simp), goItems_line P e rest h]
    by_cases hd : dropCR l ≠ []
    · rw [if_pos hd, if_pos hd, takeThroughH_cons]
      by_cases hy : y (log ++ [lineItemGo P (dropCR l)]) = true
      · rw [if_pos hy, if_pos hy, if_neg (by simp), hrec]
      · rw [if_neg hy, if_neg hy]
    · rw [if_neg hd, if_neg hd, if_neg (by simp), hrec]

/-- the translated closure, ARBITRARY library functions and ARBITRARY consumer: the Go items of the
uninterrupted run, cut by the consumer -/
theorem sam_ReaderHeader_raw (hR : GoSrc.sam_ReaderHeader_Found = true)
    (hF : GoSrc.sam_parseLine_Found = true) (hI : GoSrc.parseInts_Found = true)
    (hT : GoSrc.parseTags_Found = true) (hS : GoSrc.splitTag_Found = true)
    (h : Bytes → Bytes × GoErr) (f : Bytes → Int × GoErr) (g : Bytes → Int → Bytes × GoErr)
    (fuel : Nat) (x : Bytes) (e : Ending) (y : List GoItem → Bool)
    (hfuel : (textLines e x).length + 1 ≤ fuel) :
    GoSrc.sam_ReaderHeader h f g fuel ⟨x, e⟩ y = some (takeThroughH y [] (goItems (lineSpec h f g) e x)) := by
  rw [sam_ReaderHeader_spec hR hF hI hT hS]
  exact rhSpec_lines _ y e x fuel [] (by omega)

theorem rhSpec_zero (P : List Bytes → Option SamT × GoErr) (y : List GoItem → Bool) (log : List GoItem)
    (br : BufRd) : rhSpec P y 0 log br = none := rfl

/-! ## Normalised items -/

theorem isPrefixOf_64 (text : Bytes) : List.isPrefixOf [64] text = true ↔ ∃ t, text = 64 :: t := by
  cases text with
  | nil => simp
  | cons b t =>
    simp only [List.isPrefixOf, Bool.and_eq_true, beq_iff_eq, List.cons.injEq]
    constructor
    · rintro ⟨hb, _⟩; exact ⟨t, by rw [← hb], rfl⟩
    · rintro ⟨t', hb, _⟩; exact ⟨hb.symm, by cases t <;> trivial⟩

theorem samOfT_tupleOf (s : Sam.Sam) (r : Sam.Tags) :
    samOfT (tupleOf s r) = { s with tags := Sam.insertAll r [] } := rfl

/-- under the three hypotheses the normalised Go item of a text line is the model's item -/
theorem normItem_lineItemGo {h f g pf} (hf : AtoiModel f) (hg : PFModel g pf) (hh : HexModel h) (text : Bytes) :
    normItem (lineItemGo (lineSpec h f g) text) = Sam.lineItem pf text := by
  unfold lineItemGo
  by_cases c : List.isPrefixOf [64] text = true
  · rw [if_pos c]
    obtain ⟨t, rfl⟩ := (isPrefixOf_64 text).1 c
    rfl
  · rw [if_neg c]
    have hm : Sam.lineItem pf text = match Sam.parseLine pf (splitOn TAB text) with
        | some s => .ok (.sam s)
        | none => .err := by
      unfold Sam.lineItem
      split
      · rename_i t; exact absurd ((isPrefixOf_64 _).2 ⟨t, rfl⟩) c
      · rfl
    rw [hm]
    have hl := lineSpec_model hf hg hh (splitOn 9 text)
    rw [show (9 : UInt8) = TAB from rfl] at hl ⊢
    cases hp : Sam.parseLine pf (splitOn TAB text) with
    | none =>
      rw [hp] at hl
      obtain ⟨e, he, hq⟩ := hl
      rw [hq]
      cases e with
      | nil => exact absurd rfl he
      | eof => rfl
      | other => rfl
    | some s =>
      rw [hp] at hl
      obtain ⟨r, hq, hperm, hs⟩ := hl
      rw [hq]
      show Item.ok (Sam.Entry.sam (samOfT (tupleOf s r))) = _
      rw [samOfT_tupleOf, Sam.insertAll_perm_sorted hperm hs]

theorem normItem_end (e : Ending) : (endItemsGo e).map normItem = Sam.endItems e := by
  cases e <;> rfl

/-- the normalised Go items of an uninterrupted run are the model's `decodeHeaderSrc` -/
theorem goItems_norm {h f g pf} (hf : AtoiModel f) (hg : PFModel g pf) (hh : HexModel h) (e : Ending) (x : Bytes) :
    (goItems (lineSpec h f g) e x).map normItem = Sam.decodeHeaderSrc pf e x := by
  unfold goItems Sam.decodeHeaderSrc Sam.itemsOfLines
  rw [List.map_append, normItem_end, List.map_map]
  congr 1
  apply List.map_congr_left
  intro l _
  exact normItem_lineItemGo hf hg hh l

/-- a consumer of NORMALISED histories, as a consumer of Go histories -/
def liftY (y' : List (Item Sam.Entry) → Bool) : List GoItem → Bool := fun l => y' (l.map normItem)

/-! ## Writing a file with the translated `Write` -/

/-- the translated `(*SAM).Write` on one record after the other, onto the same writer, stopping at the
first error (`for _, s := range rs { if err := s.Write(w); err != nil { return err } }`) -/
def goWriteAll : List Sam.Sam → Wr → Option (GoErr × Wr)
  | [], w => some (GoErr.nil, w)
  | s :: rs, w =>
    match Bio.Props.C03Go.goWrite s w with
    | none => none
    | some (err, w') => if err = GoErr.nil then goWriteAll rs w' else some (err, w')

/-- with room for everything: no error, the output grows by the records' texts -/
theorem goWriteAll_bytes (hW : GoSrc.sam_Write_Found = true) : ∀ (rs : List Sam.Sam) (k : Nat) (o : Bytes),
    ((rs.map Sam.encode).flatten).length ≤ k →
    goWriteAll rs ⟨k, o⟩
      = some (GoErr.nil, ⟨k - ((rs.map Sam.encode).flatten).length, o ++ (rs.map Sam.encode).flatten⟩) := by
  intro rs
  induction rs with
  | nil => intro k o _; simp [goWriteAll]
  | cons s rs ih =>
    intro k o hk
    simp only [List.map_cons, List.flatten_cons, List.length_append] at hk
    rw [goWriteAll, Bio.Props.C03Go.go_sam_write_bytes hW s k o (by omega)]
    simp only [if_true]
    rw [ih _ _ (by omega)]
    simp only [List.map_cons, List.flatten_cons, List.length_append, List.append_assoc]
    congr 3
    omega

/-- header lines followed by the records' texts: the LF-terminated file of the lines -/
theorem written_file (hs : List Bytes) (rs : List Sam.Sam) :
    lfFile hs ++ (rs.map Sam.encode).flatten = lfFile (hs ++ rs.map Sam.encodeLine) := by
  rw [lfFile_append]
  congr 1
  induction rs with
  | nil => rfl
  | cons s rs ih => rw [List.map_cons, List.map_cons, List.flatten_cons, lfFile_cons, ih]; simp [Sam.encode, LF]

/-- the text lines of a written file -/
theorem written_lines (pf : Bytes → Option Bytes) (hs : List Bytes) (rs : List Sam.Sam)
    (hh : ∀ l ∈ hs, Sam.hdrOK l) (hr : ∀ s ∈ rs, Sam.WF pf s) :
    textLines .eof (lfFile (hs ++ rs.map Sam.encodeLine)) = hs ++ rs.map Sam.encodeLine :=
  textLines_eof_lfFile _ (Sam.samLines_plain pf hs rs hh hr)

end SamIt
end Bio.GoSrcLemmas

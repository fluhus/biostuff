/-
  The two reader methods `(*reader).read` of formats/fasta/fasta.go and formats/fastq/fastq.go,
  translated from the Go source text on every run into `Bio.Generated.GoSrc`
  (`fasta_read` over the remaining input bytes, `fastq_read` over the remaining `bufio.Scanner`
  tokens), ARE one step of the hand-written models `Bio.Model.Fasta` (`readOne`, `decodeSrc`)
  and `Bio.Model.Fastq` (`fromLines`).  Guarded by the translator's `<f>_Found` flags as in
  `Bio.Lemmas.GoSrc`.
-/
import Bio.Model.Fasta
import Bio.Model.Fastq
import Bio.Generated.GoSrc
import Bio.Lemmas.GoRt
import Bio.Lemmas.Fasta
import Bio.Lemmas.Fastq
set_option linter.unusedVariables false -- the `hF` of the flag idiom (Lemmas/GoSrc.lean)
set_option linter.unusedSimpArgs false
namespace Bio.GoSrcLemmas
open Bio Bio.GoRt Bio.Generated

/-! ## FASTA: `(*reader).read` is `Fasta.readOne` -/

/-- the mutable variables of the translated `read` loop: name, sequence, state, readAnything, pos, broke -/
abbrev FastaRS := Bytes × Bytes × Int × Bool × Nat × Bool

/-- the Go constants `stateNewLine`, `stateName`, `stateSequence` -/
def fastaStCode : Fasta.St → Int
  | .newline => 1
  | .name => 2
  | .seq => 3

/-- one iteration of the Go loop in a state other than `stateStart`, on the model's state -/
def fastaStep (st : Fasta.St) (b : UInt8) (n s : Bytes) (p : Nat) : ForInStep FastaRS :=
  if isNL b then .yield ⟨n, s, 1, true, p + 1, false⟩
  else match st with
    | .seq => .yield ⟨n, s ++ [b], 3, true, p + 1, false⟩
    | .name => .yield ⟨n ++ [b], s, 2, true, p + 1, false⟩
    | .newline => if b == 62 then .done ⟨n, s, 1, true, p, true⟩ else .yield ⟨n, s ++ [b], 3, true, p + 1, false⟩

theorem forIn_cons_yield {α σ : Type} (f : α → σ → Option (ForInStep σ)) (b : α) (rest : List α) (s s' : σ)
    (h : f b s = some (.yield s')) : forIn (b :: rest) s f = forIn rest s' f := by
  rw [List.forIn_cons, h]; rfl

theorem forIn_cons_done {α σ : Type} (f : α → σ → Option (ForInStep σ)) (b : α) (rest : List α) (s s' : σ)
    (h : f b s = some (.done s')) : forIn (b :: rest) s f = some s' := by
  rw [List.forIn_cons, h]; rfl

/-- The translated loop from a state other than `stateStart` computes `Fasta.loop`: name and sequence
are extended by what `loop` collects, `broke` says whether something is left, and `pos` has advanced
over what is not left. -/
theorem fasta_loop_forIn (f : UInt8 → FastaRS → Option (ForInStep FastaRS))
    (hstep : ∀ st b n s ra p, f b ⟨n, s, fastaStCode st, ra, p, false⟩ = some (fastaStep st b n s p))
    (st : Fasta.St) (x : Bytes) : ∀ (n s : Bytes) (p : Nat),
    ∃ c q, forIn x (⟨n, s, fastaStCode st, true, p, false⟩ : FastaRS) f
      = some ⟨n ++ (Fasta.loop st x).1, s ++ (Fasta.loop st x).2.1, c, true, q, !(Fasta.loop st x).2.2.isEmpty⟩
      ∧ q + (Fasta.loop st x).2.2.length = p + x.length := by
  induction st, x using Fasta.loop_ind with
  | nil st => intro n s p; exact ⟨fastaStCode st, p, by simp, by simp⟩
  | nl st b rest hnl ih =>
    intro n s p
    obtain ⟨c, q, hc, hq⟩ := ih n s (p + 1)
    exact ⟨c, q, (forIn_cons_yield f b rest _ _ ((hstep st b n s true p).trans
      (by simp only [fastaStep, hnl, if_true]; rfl))).trans hc, by
      show q + (Fasta.loop _ rest).2.2.length = p + (rest.length + 1); omega⟩
  | seq b rest hnl ih =>
    intro n s p
    obtain ⟨c, q, hc, hq⟩ := ih n (s ++ [b]) (p + 1)
    refine ⟨c, q, (forIn_cons_yield f b rest _ _ ((hstep .seq b n s true p).trans
      (by simp only [fastaStep, hnl, Bool.false_eq_true, if_false]; rfl))).trans ?_, by
      show q + (Fasta.loop _ rest).2.2.length = p + (rest.length + 1); omega⟩
    rw [List.append_assoc, List.singleton_append] at hc; exact hc
  | name b rest hnl ih =>
    intro n s p
    obtain ⟨c, q, hc, hq⟩ := ih (n ++ [b]) s (p + 1)
    refine ⟨c, q, (forIn_cons_yield f b rest _ _ ((hstep .name b n s true p).trans
      (by simp only [fastaStep, hnl, Bool.false_eq_true, if_false]; rfl))).trans ?_, by
      show q + (Fasta.loop _ rest).2.2.length = p + (rest.length + 1); omega⟩
    rw [List.append_assoc, List.singleton_append] at hc; exact hc
  | gt b rest hnl hb =>
    intro n s p
    exact ⟨1, p, (forIn_cons_done f b rest _ _ ((hstep .newline b n s true p).trans
      (by simp only [fastaStep, hnl, hb, Bool.false_eq_true, if_false, if_true]; rfl))).trans (by simp), rfl⟩
  | other b rest hnl hb ih =>
    intro n s p
    obtain ⟨c, q, hc, hq⟩ := ih n (s ++ [b]) (p + 1)
    refine ⟨c, q, (forIn_cons_yield f b rest _ _ ((hstep .newline b n s true p).trans
      (by simp only [fastaStep, hnl, hb, Bool.false_eq_true, if_false]; rfl))).trans ?_, by
      show q + (Fasta.loop _ rest).2.2.length = p + (rest.length + 1); omega⟩
    rw [List.append_assoc, List.singleton_append] at hc; exact hc

/-- the whole loop on a non-empty input, for any body `f` that behaves like the Go `switch` and any
continuation `k` (the code after the loop); state code `0` is Go's `stateStart`, left only by the
first byte (`h0`), which is why `fastaStCode` has no case for it -/
theorem fasta_core {β : Type} (f : UInt8 → FastaRS → Option (ForInStep FastaRS)) (k : FastaRS → Option β)
    (b : UInt8) (rest : Bytes) (R : β)
    (h0 : ∀ b n s ra p br, f b ⟨n, s, 0, ra, p, br⟩
        = some (.yield ⟨n, s ++ Fasta.startSeq b, fastaStCode (Fasta.startState b), true, p + 1, br⟩))
    (hstep : ∀ st b n s ra p, f b ⟨n, s, fastaStCode st, ra, p, false⟩ = some (fastaStep st b n s p))
    (hk : ∀ c q, (b :: rest).drop q = (Fasta.readOne b rest).2 →
      k ⟨(Fasta.readOne b rest).1.name, (Fasta.readOne b rest).1.seq, c, true, q,
          !(Fasta.readOne b rest).2.isEmpty⟩ = some R) :
    (forIn (b :: rest) (⟨[], [], 0, false, 0, false⟩ : FastaRS) f).bind k = some R := by
  obtain ⟨c, q, hc, hq⟩ := fasta_loop_forIn f hstep (Fasta.startState b) rest [] ([] ++ Fasta.startSeq b) (0 + 1)
  rw [forIn_cons_yield f b rest _ _ (h0 b [] [] false 0 false), hc, Option.bind_some]
  refine hk c q ?_
  have hsuf := (Fasta.loop_suffix (Fasta.startState b) rest).trans (List.suffix_cons b rest)
  show (b :: rest).drop q = (Fasta.loop (Fasta.startState b) rest).2.2
  rw [List.suffix_iff_eq_drop.mp hsuf]
  congr 1
  simp only [List.length_cons]; omega

theorem fasta_read_nil (hF : GoSrc.fasta_read_Found = true) (e : Ending) :
    GoSrc.fasta_read [] e = some ((none, endErr e), []) := by
  first
  | exact absurd hF (by decide)
  | (cases e <;> rfl)

theorem fasta_read_cons (hF : GoSrc.fasta_read_Found = true) (b : UInt8) (rest : Bytes) (e : Ending) :
    GoSrc.fasta_read (b :: rest) e = some (
      if (Fasta.readOne b rest).2 = [] ∧ e = Ending.fail then ((none, GoErr.other), [])
      else ((some ((Fasta.readOne b rest).1.name, (Fasta.readOne b rest).1.seq), GoErr.nil),
            (Fasta.readOne b rest).2)) := by
  first
  | exact absurd hF (by decide)
  | (unfold GoSrc.fasta_read
     simp only [Option.pure_def, Option.bind_eq_bind]
     apply fasta_core
     · intro b n s ra p br
       unfold Fasta.startSeq Fasta.startState
       by_cases h1 : b = 62
       · subst h1; simp [fastaStCode]
       · by_cases h2 : isNL b = true
         · have h2' := h2; simp only [isNL] at h2'; simp [fastaStCode, h1, h2, h2']
         · have h2' := h2; simp only [isNL] at h2'; simp [fastaStCode, h1, h2, h2']
     · intro st b n s ra p
       unfold fastaStep
       by_cases h2 : isNL b = true
       · have h2' := h2; simp only [isNL] at h2'; cases st <;> simp [fastaStCode, h2, h2']
       · have h2' := h2; simp only [isNL] at h2'
         cases st <;> simp [fastaStCode, h2, h2']
         by_cases h1 : b = 62 <;> simp [h1]
     · intro c q hq
       simp only [hq]
       cases e <;> cases h : (Fasta.readOne b rest).2 <;> simp [endErr])
theorem fasta_read_isSome (hF : GoSrc.fasta_read_Found = true) (x : Bytes) (e : Ending) :
    (GoSrc.fasta_read x e).isSome = true := by
  cases x with
  | nil => rw [fasta_read_nil hF]; rfl
  | cons b rest => rw [fasta_read_cons hF]; rfl

/-! ## FASTQ: `(*reader).read` is one step of `Fastq.fromLines` -/

/-- one call of `(*reader).read` of formats/fastq on the remaining `Scanner` tokens: the returned
`(*Fastq, error)` and the tokens left unread -/
def fastqStep (e : Ending) : List Bytes → (Option (Bytes × Bytes × Bytes) × GoErr) × List Bytes
  | [] => ((none, if e = .eof then GoErr.eof else GoErr.other), [])
  | l1 :: rest1 =>
    if l1.head? ≠ some 64 then ((none, GoErr.other), rest1) else
    match rest1 with
    | [] => ((none, GoErr.other), [])
    | [_] => ((none, GoErr.other), [])
    | sq :: pl :: rest2 =>
      if pl.head? ≠ some 43 then ((none, GoErr.other), rest2) else
      match rest2 with
      | [] => ((none, GoErr.other), [])
      | ql :: rest =>
        if ql.length = sq.length then ((some (l1.tail, sq, ql), GoErr.nil), rest)
        else ((none, GoErr.other), rest)

theorem fastq_slice_tail (c : UInt8) (name : Bytes) : slice (c :: name) 1 (len (c :: name)) = some name :=
  slice_to_len (c :: name) 1 (by decide) (by simp [len]; omega)

theorem fastq_read_spec (hF : GoSrc.fastq_read_Found = true) (e : Ending) (ls : List Bytes) :
    GoSrc.fastq_read ls e = some (fastqStep e ls) := by
  first
  | exact absurd hF (by decide)
  | (unfold GoSrc.fastq_read
     simp only [Option.pure_def, Option.bind_eq_bind]
     rcases ls with _ | ⟨l1, rest1⟩
     · cases e <;> rfl
     · rcases l1 with _ | ⟨c, name⟩
       · rfl
       · have hlen : (len (c :: name) == 0) = false := by simp [len]; omega
         have hidx : idx (c :: name) 0 = some c := rfl
         -- once `len`, `idx` and `slice` are evaluated the closed leaves compute
         simp only [scan, hlen, hidx, fastq_slice_tail, Option.bind_some]
         by_cases hc : c = 64
         · subst hc
           rcases rest1 with _ | ⟨sq, _ | ⟨pl, rest2⟩⟩
           · cases e <;> rfl
           · cases e <;> rfl
           · rcases pl with _ | ⟨d, pl'⟩
             · rfl
             · by_cases hd : d = 43
               · subst hd
                 rcases rest2 with _ | ⟨ql, rest⟩
                 · cases e <;> rfl
                 · by_cases hl : ql.length = sq.length
                   · simp [fastqStep, List.isPrefixOf, len, hl]
                   · have hl' : ¬ ((ql.length : Int) = (sq.length : Int)) := by omega
                     simp [fastqStep, List.isPrefixOf, len, hl, hl']
               · have hd' : ¬ (43 : UInt8) = d := fun h => hd h.symm
                 simp [fastqStep, List.isPrefixOf, hd, hd']
         · simp [fastqStep, hc])

theorem fastqStep_nil (e : Ending) :
    fastqStep e [] = ((none, if e = .eof then GoErr.eof else GoErr.other), []) := rfl

theorem fastqStep_ok (e : Ending) (name sq pl ql : Bytes) (rest : List Bytes) (h : ql.length = sq.length) :
    fastqStep e ((64 :: name) :: sq :: (43 :: pl) :: ql :: rest) = ((some (name, sq, ql), GoErr.nil), rest) := by
  simp [fastqStep, h]

/-- what one call returns and what the model does with the same lines: nothing left, a record, or
(anything else) an error other than `io.EOF` -/
theorem fastqStep_cases (e : Ending) (ls : List Bytes) :
    (ls = [] ∧ fastqStep e ls = ((none, endErr e), []) ∧ Fastq.fromLines e ls = (match e with | .eof => [] | .fail => [.err]))
    ∨ (∃ name sq pl ql rest, ls = (64 :: name) :: sq :: (43 :: pl) :: ql :: rest ∧ ql.length = sq.length
        ∧ fastqStep e ls = ((some (name, sq, ql), GoErr.nil), rest)
        ∧ Fastq.fromLines e ls = .ok ⟨name, sq, ql⟩ :: Fastq.fromLines e rest)
    ∨ (ls ≠ [] ∧ (fastqStep e ls).1 = (none, GoErr.other) ∧ Fastq.fromLines e ls = [.err]) := by
  rcases ls with _ | ⟨l1, rest1⟩
  · left; exact ⟨rfl, by cases e <;> rfl, Fastq.fromLines_nil e⟩
  · right
    by_cases h1 : l1.head? = some 64
    · obtain ⟨name, rfl⟩ : ∃ name, l1 = 64 :: name := by
        cases l1 with
        | nil => simp at h1
        | cons c name => simp at h1; exact ⟨name, by rw [h1]⟩
      rcases rest1 with _ | ⟨sq, _ | ⟨pl, rest2⟩⟩
      · right; simp [fastqStep, Fastq.fromLines]
      · right; simp [fastqStep, Fastq.fromLines]
      · by_cases h3 : pl.head? = some 43
        · obtain ⟨pl', rfl⟩ : ∃ pl', pl = 43 :: pl' := by
            cases pl with
            | nil => simp at h3
            | cons c t => simp at h3; exact ⟨t, by rw [h3]⟩
          rcases rest2 with _ | ⟨ql, rest⟩
          · right; simp [fastqStep, Fastq.fromLines]
          · by_cases hl : ql.length = sq.length
            · left; exact ⟨name, sq, pl', ql, rest, rfl, hl, by simp [fastqStep, hl], by simp [Fastq.fromLines, hl]⟩
            · right; exact ⟨by simp, by simp [fastqStep, hl], by simp [Fastq.fromLines, hl]⟩
        · right
          refine ⟨by simp, by simp [fastqStep, h3], ?_⟩
          rcases rest2 with _ | ⟨ql, rest⟩
          · simp [Fastq.fromLines]
          · exact Fastq.fromLines_no_plus e name sq pl ql rest h3
    · right; exact ⟨by simp, by simp [fastqStep, h1], Fastq.fromLines_no_at e l1 rest1 h1⟩

theorem fastq_read_nil (hF : GoSrc.fastq_read_Found = true) (e : Ending) :
    GoSrc.fastq_read [] e = some ((none, if e = .eof then GoErr.eof else GoErr.other), []) := by
  rw [fastq_read_spec hF, fastqStep_nil]

theorem fastq_read_ok (hF : GoSrc.fastq_read_Found = true) (e : Ending) (name sq pl ql : Bytes)
    (rest : List Bytes) (h : ql.length = sq.length) :
    GoSrc.fastq_read ((64 :: name) :: sq :: (43 :: pl) :: ql :: rest) e
      = some ((some (name, sq, ql), GoErr.nil), rest) := by
  rw [fastq_read_spec hF, fastqStep_ok e name sq pl ql rest h]

/-- `fastq_read` on anything else: an error other than `io.EOF` and no record (the tokens left
unread are `(fastqStep e ls).2`) -/
theorem fastq_read_err (hF : GoSrc.fastq_read_Found = true) (e : Ending) (ls : List Bytes) (hne : ls ≠ [])
    (hbad : ¬ ∃ name sq pl ql rest, ls = (64 :: name) :: sq :: (43 :: pl) :: ql :: rest ∧ ql.length = sq.length) :
    GoSrc.fastq_read ls e = some ((none, GoErr.other), (fastqStep e ls).2) := by
  rw [fastq_read_spec hF]
  rcases fastqStep_cases e ls with ⟨h, _⟩ | ⟨name, sq, pl, ql, rest, h, hl, _⟩ | ⟨_, h, _⟩
  · exact absurd h hne
  · exact absurd ⟨name, sq, pl, ql, rest, h, hl⟩ hbad
  · rw [← h]

/-! ## One `read` call in terms of the model items still to come -/

/-- the `(*Fasta, error)` pair the iterator hands to its consumer for an item of the model decode -/
def faRaw : Item Fasta.Fa → Option (Bytes × Bytes) × GoErr
  | .ok r => (some (r.name, r.seq), GoErr.nil)
  | .err => (none, GoErr.other)

/-- the model item of a `(*Fasta, error)` pair: a record, or (no record) an error -/
def faItem : Option (Bytes × Bytes) × GoErr → Item Fasta.Fa
  | (some (n, s), _) => .ok ⟨n, s⟩
  | (none, _) => .err

@[simp] theorem faItem_faRaw (it : Item Fasta.Fa) : faItem (faRaw it) = it := by
  cases it <;> rfl

def fqRaw : Item Fastq.Fq → Option (Bytes × Bytes × Bytes) × GoErr
  | .ok r => (some (r.name, r.seq, r.quals), GoErr.nil)
  | .err => (none, GoErr.other)

def fqItem : Option (Bytes × Bytes × Bytes) × GoErr → Item Fastq.Fq
  | (some (n, s, q), _) => .ok ⟨n, s, q⟩
  | (none, _) => .err

@[simp] theorem fqItem_fqRaw (it : Item Fastq.Fq) : fqItem (fqRaw it) = it := by
  cases it <;> rfl

/-- What a `read` call that returned `(r, err)` and left the reader in `s'` says about the items
`items s` an uninterrupted iteration from `s` delivers: a record is the next item (and the reader
moved on), `io.EOF` means there is none, any other error is the one last item. -/
def ReadStep {ρ σ τ : Type} (raw : Item τ → Option ρ × GoErr) (items : σ → List (Item τ))
    (size : σ → Nat) (s : σ) (r : Option ρ) (err : GoErr) (s' : σ) : Prop :=
  match err with
  | .nil => ∃ a, raw (.ok a) = (r, GoErr.nil) ∧ items s = .ok a :: items s' ∧ size s' < size s
  | .eof => items s = []
  | .other => items s = [.err]

theorem fasta_read_step (hF : GoSrc.fasta_read_Found = true) (e : Ending) (x : Bytes) :
    ∃ r err x', GoSrc.fasta_read x e = some ((r, err), x')
      ∧ ReadStep faRaw (Fasta.decodeSrc e) List.length x r err x' := by
  cases x with
  | nil =>
    refine ⟨none, endErr e, [], fasta_read_nil hF e, ?_⟩
    cases e <;> exact Fasta.decodeSrc_nil _
  | cons b rest =>
    rw [fasta_read_cons hF]
    by_cases h : (Fasta.readOne b rest).2 = [] ∧ e = Ending.fail
    · exact ⟨_, _, _, by rw [if_pos h], by rw [ReadStep, Fasta.decodeSrc_cons', if_pos h]⟩
    · refine ⟨_, _, _, by rw [if_neg h], ?_⟩
      exact ⟨(Fasta.readOne b rest).1, rfl, by rw [Fasta.decodeSrc_cons', if_neg h],
        Fasta.readOne_rest_lt b rest⟩

theorem fastq_read_step (hF : GoSrc.fastq_read_Found = true) (e : Ending) (ls : List Bytes) :
    ∃ r err ls', GoSrc.fastq_read ls e = some ((r, err), ls')
      ∧ ReadStep fqRaw (Fastq.fromLines e) List.length ls r err ls' := by
  rw [fastq_read_spec hF]
  rcases fastqStep_cases e ls with ⟨_, h1, h2⟩ | ⟨name, sq, pl, ql, rest, rfl, _, h1, h2⟩ | ⟨_, h1, h2⟩
  · exact ⟨_, _, _, congrArg some h1, by cases e <;> exact h2⟩
  · refine ⟨_, _, _, congrArg some h1, ?_⟩
    exact ⟨⟨name, sq, ql⟩, rfl, h2, by simp only [List.length_cons]; omega⟩
  · exact ⟨none, GoErr.other, (fastqStep e ls).2, congrArg some (Prod.ext h1 rfl), h2⟩

end Bio.GoSrcLemmas

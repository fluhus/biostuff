/-
  BED (property C04): the vocabulary of the statements (`textOK`, `inRange`, `truncate`, `WF`), the
  round trip of a field, of a record and of a line, the reader over lines (with the line parser as a
  parameter: `fromLinesP`), files.
-/
import Bio.Lemmas.Codec
import Bio.Model.Bed
namespace Bio.Bed

/-! ## Definitions that are part of the statements -/

/-- A text field the format can carry: no TAB, LF, CR.  Everything else
(double quotes, NUL, 0xFF, '#', spaces …) is allowed. -/
def textOK (s : Bytes) : Prop := ∀ b ∈ s, b ≠ 9 ∧ b ≠ 10 ∧ b ≠ 13

/-- Fits Go's `int` on a 64-bit platform. -/
def inRange (i : Int) : Prop := int64Min ≤ i ∧ i ≤ int64Max

/-- Zero the fields beyond the first `N` (what a reader of an N-field line reports). -/
def truncate (N : Nat) (b : Bed) : Bed :=
  { b with
    n := N
    name := if N > 3 then b.name else []
    score := if N > 4 then b.score else 0
    strand := if N > 5 then b.strand else []
    thickStart := if N > 6 then b.thickStart else 0
    thickEnd := if N > 7 then b.thickEnd else 0
    rgb := if N > 8 then b.rgb else (0, 0, 0)
    blockCount := if N > 9 then b.blockCount else 0
    blockSizes := if N > 10 then b.blockSizes else []
    blockStarts := if N > 11 then b.blockStarts else [] }

/-- Well-formed record with `N` fields.  The text and range clauses are asked of all twelve fields, written
or not; only the block clause depends on `N`. -/
def WF (N : Nat) (b : Bed) : Prop :=
  3 ≤ N ∧ N ≤ 12 ∧ b.n = N ∧
  textOK b.chrom ∧ b.chrom.head? ≠ some 35 ∧ textOK b.name ∧ validStrand b.strand = true ∧
  inRange b.chromStart ∧ inRange b.chromEnd ∧ inRange b.score ∧
  inRange b.thickStart ∧ inRange b.thickEnd ∧ inRange b.blockCount ∧
  (∀ i ∈ b.blockSizes, inRange i) ∧ (∀ i ∈ b.blockStarts, inRange i) ∧
  -- block consistency, as the reader checks it: a list is compared with the block
  -- count only when the line carries it (field 11 = sizes, field 12 = starts)
  (N > 10 → (b.blockSizes.length : Int) = b.blockCount) ∧
  (N > 11 → (b.blockStarts.length : Int) = b.blockCount)

instance (s : Bytes) : Decidable (textOK s) := by unfold textOK; infer_instance
instance (i : Int) : Decidable (inRange i) := by unfold inRange; infer_instance
instance (N : Nat) (b : Bed) : Decidable (WF N b) := by unfold WF; infer_instance

theorem WF.n_range {N : Nat} {b : Bed} (h : WF N b) : 3 ≤ b.n ∧ b.n ≤ 12 := by
  obtain ⟨h3, h12, hn, -⟩ := h
  omega

/-! ## Field-level round trips -/

theorem optInt_nil : optInt [] = some 0 := rfl

theorem optInt_itoa {i : Int} (h : inRange i) : optInt (itoa i) = some i := by
  rw [optInt, if_neg (itoa_ne_nil i)]
  exact atoi_itoa i h

theorem parseU8_natDigits (v : UInt8) : parseU8 (natDigits v.toNat) = some v := by
  by_cases hv : v.toNat = 0
  · have : v = 0 := UInt8.toNat_inj.mp hv
    subst this; decide +kernel
  · obtain ⟨d, r, hd, hne⟩ := natDigits_head_ne48 v.toNat (by omega)
    have hp := parseNat_natDigits v.toNat
    have hle : v.toNat ≤ 255 := by have := v.toNat_lt; omega
    rw [hd] at hp ⊢
    unfold parseU8
    split
    · rename_i h; cases h
    · rename_i h; cases h; exact absurd rfl hne
    · rename_i h; cases h; exact absurd rfl hne
    · simp only [hp, hle, if_true, UInt8.ofNat_toNat]

theorem natDigits_no_comma (n : Nat) : COMMA ∉ natDigits n := not_mem_natDigits n (by decide)

theorem rgbText_ne_nil (a b c : Nat) :
    natDigits a ++ COMMA :: natDigits b ++ COMMA :: natDigits c ≠ [] := by
  simp

theorem splitOn_rgbText (a b c : Nat) :
    splitOn COMMA (natDigits a ++ COMMA :: natDigits b ++ COMMA :: natDigits c)
      = [natDigits a, natDigits b, natDigits c] := by
  rw [List.append_assoc, List.cons_append, splitOn_append_sep (natDigits_no_comma a),
    splitOn_append_sep (natDigits_no_comma b), splitOn_of_not_mem (natDigits_no_comma c)]

theorem parseRGB_enc (r g b : UInt8) :
    parseRGB (natDigits r.toNat ++ COMMA :: natDigits g.toNat ++ COMMA :: natDigits b.toNat)
      = some (r, g, b) := by
  unfold parseRGB
  rw [if_neg (rgbText_ne_nil _ _ _), splitOn_rgbText]
  simp only [parseU8_natDigits]

theorem parseRGB_nil : parseRGB [] = some (0, 0, 0) := rfl

theorem mapM_atoi_itoa (l : List Int) (h : ∀ i ∈ l, inRange i) : (l.map itoa).mapM atoi = some l := by
  induction l with
  | nil => rfl
  | cons i l ih =>
    simp [List.mapM_cons, atoi_itoa i (h i (by simp)), ih (fun j hj => h j (by simp [hj]))]

theorem parseIntList_nil : parseIntList [] = some [] := rfl

theorem parseIntList_intList (l : List Int) (h : ∀ i ∈ l, inRange i) :
    parseIntList (intList l) = some l := by
  cases l with
  | nil => rfl
  | cons i l =>
    have hne : joinWith COMMA ((i :: l).map itoa) ≠ [] := by
      rw [List.map_cons, joinWith_cons]; simp [itoa_ne_nil]
    unfold parseIntList intList
    rw [if_neg hne, splitOn_joinWith COMMA _ (by simp)]
    · exact mapM_atoi_itoa (i :: l) h
    · intro p hp
      obtain ⟨j, -, rfl⟩ := List.mem_map.1 hp
      exact not_mem_itoa j (by decide)

theorem validStrand_nil : validStrand [] = true := rfl

/-! ## The twelve field texts of a well-formed record carry no TAB, LF, CR -/

theorem textOK_strand (s : Bytes) (h : validStrand s = true) : textOK s := by
  simp only [validStrand, Bool.or_eq_true, decide_eq_true_eq] at h
  rcases h with ((h | h) | h) | h <;> subst h <;> decide

theorem textOK_intList (l : List Int) : textOK (intList l) :=
  NoTabNL.joinWith (by decide) (fun p hp => by
    obtain ⟨j, -, rfl⟩ := List.mem_map.1 hp
    exact NoTabNL.itoa j)

theorem textOK_allFields (b : Bed) (hc : textOK b.chrom) (hn : textOK b.name)
    (hs : validStrand b.strand = true) : ∀ f ∈ allFields b, textOK f := by
  intro f hf
  simp only [allFields, List.mem_cons, List.not_mem_nil, or_false] at hf
  rcases hf with h | h | h | h | h | h | h | h | h | h | h | h <;> subst h
  · exact hc
  · exact NoTabNL.itoa _
  · exact NoTabNL.itoa _
  · exact hn
  · exact NoTabNL.itoa _
  · exact textOK_strand _ hs
  · exact NoTabNL.itoa _
  · exact NoTabNL.itoa _
  · have hcomma : COMMA ≠ 9 ∧ COMMA ≠ 10 ∧ COMMA ≠ 13 := by decide
    exact ((NoTabNL.natDigits _).append ((NoTabNL.natDigits _).cons hcomma)).append
      ((NoTabNL.natDigits _).cons hcomma)
  · exact NoTabNL.itoa _
  · exact textOK_intList _
  · exact textOK_intList _

theorem WF.textOK_allFields {N : Nat} {b : Bed} (h : WF N b) : ∀ f ∈ allFields b, textOK f :=
  Bed.textOK_allFields b h.2.2.2.1 h.2.2.2.2.2.1 h.2.2.2.2.2.2.1

/-! ## Record-level round trip -/

theorem allFields_length (b : Bed) : (allFields b).length = 12 := rfl

/-- `parseLine` accepts: every number parses, the strand is one of the four, the block lists agree
with the block count when the line carries them. -/
theorem parseLine_of_fields {fs : List Bytes} {cs ce sc ts te bc : Int} {rgb : UInt8 × UInt8 × UInt8}
    {bs bst : List Int} (h3 : 3 ≤ fs.length) (h12 : fs.length ≤ 12)
    (h1 : atoi (fs[1]?.getD []) = some cs) (h2 : atoi (fs[2]?.getD []) = some ce)
    (h4 : optInt (fs[4]?.getD []) = some sc) (h5 : validStrand (fs[5]?.getD []) = true)
    (h6 : optInt (fs[6]?.getD []) = some ts) (h7 : optInt (fs[7]?.getD []) = some te)
    (h8 : parseRGB (fs[8]?.getD []) = some rgb) (h9 : optInt (fs[9]?.getD []) = some bc)
    (h10 : parseIntList (fs[10]?.getD []) = some bs) (h11 : parseIntList (fs[11]?.getD []) = some bst)
    (hbs : fs.length > 10 → (bs.length : Int) = bc) (hbst : fs.length > 11 → (bst.length : Int) = bc) :
    parseLine fs = some ⟨fs.length, fs[0]?.getD [], cs, ce, fs[3]?.getD [], sc, fs[5]?.getD [], ts, te,
      rgb, bc, bs, bst⟩ := by
  unfold parseLine
  simp only [h1, h2, h4, h5, h6, h7, h8, h9, h10, h11]
  rw [if_neg (by omega), if_neg (by simp), if_neg (fun h => h.2 (hbs h.1)), if_neg (fun h => h.2 (hbst h.1))]

theorem getD_take (l : List Bytes) (N i : Nat) :
    ((l.take N)[i]?).getD [] = if i < N then (l[i]?).getD [] else [] := by
  rw [List.getElem?_take]
  split <;> rfl

/-- a parser of an optional field (the empty text gives the default `d`) on such a field -/
theorem parse_optField {α : Type} (p : Bytes → Option α) (c : Prop) [Decidable c] {s : Bytes} {x d : α}
    (hs : p s = some x) (hd : p [] = some d) :
    p (if c then s else []) = some (if c then x else d) := by
  split <;> assumption

theorem parseLine_allFields {N : Nat} {b : Bed} (h : WF N b) :
    parseLine ((allFields b).take N) = some (truncate N b) := by
  obtain ⟨h3, h12, -, -, -, -, hstrand, hcs, hce, hsc, hts, hte, hbc, hsz, hst, hbs, hbst⟩ := h
  have hlen : ((allFields b).take N).length = N := by
    rw [List.length_take, allFields_length]; omega
  have key := parseLine_of_fields (fs := (allFields b).take N)
    (cs := b.chromStart) (ce := b.chromEnd) (by omega) (by omega)
    (by rw [getD_take, if_pos (by omega)]; exact atoi_itoa _ hcs)
    (by rw [getD_take, if_pos (by omega)]; exact atoi_itoa _ hce)
    (by rw [getD_take]; exact parse_optField optInt _ (optInt_itoa hsc) optInt_nil)
    (by rw [getD_take]; split; exact hstrand; exact validStrand_nil)
    (by rw [getD_take]; exact parse_optField optInt _ (optInt_itoa hts) optInt_nil)
    (by rw [getD_take]; exact parse_optField optInt _ (optInt_itoa hte) optInt_nil)
    (by rw [getD_take]; exact parse_optField parseRGB _ (parseRGB_enc _ _ _) parseRGB_nil)
    (by rw [getD_take]; exact parse_optField optInt _ (optInt_itoa hbc) optInt_nil)
    (by rw [getD_take]; exact parse_optField parseIntList _ (parseIntList_intList _ hsz) parseIntList_nil)
    (by rw [getD_take]; exact parse_optField parseIntList _ (parseIntList_intList _ hst) parseIntList_nil)
    (by rw [hlen]; intro hN; rw [if_pos hN, if_pos (by omega)]; exact hbs hN)
    (by rw [hlen]; intro hN; rw [if_pos hN, if_pos (by omega)]; exact hbst hN)
  rw [key, hlen, getD_take, getD_take, getD_take, if_pos (by omega)]
  rfl

/-! ## The line written for a well-formed record -/

/-- All a reader needs to know about one record line. -/
structure LineOK (N : Nat) (line : Bytes) (r : Bed) : Prop where
  noNL : ∀ c ∈ line, c ≠ 10 ∧ c ≠ 13
  notSkipped : isSkipped line = false
  len : (splitOn TAB line).length = N
  parse : parseLine (splitOn TAB line) = some r

theorem encodeLine_eq (b : Bed) (N : Nat) (hn : b.n = N) (h3 : 3 ≤ N) (h12 : N ≤ 12) :
    encodeLine b = some (joinWith TAB ((allFields b).take N)) := by
  unfold encodeLine
  rw [if_neg (by omega), hn]
  rfl

theorem splitOn_line (b : Bed) (N : Nat) (h3 : 3 ≤ N) (hok : ∀ f ∈ allFields b, textOK f) :
    splitOn TAB (joinWith TAB ((allFields b).take N)) = (allFields b).take N := by
  apply splitOn_joinWith
  · intro h
    have := congrArg List.length h
    simp [allFields_length] at this
    omega
  · exact fun p hp => NoTabNL.tab (hok p (List.mem_of_mem_take hp))

theorem line_noNL (b : Bed) (N : Nat) (hok : ∀ f ∈ allFields b, textOK f) :
    ∀ c ∈ joinWith TAB ((allFields b).take N), c ≠ 10 ∧ c ≠ 13 :=
  forall_mem_joinWith (by decide) fun p hp => NoTabNL.noNL (hok p (List.mem_of_mem_take hp))

theorem isSkipped_eq_false {l : Bytes} : isSkipped l = false ↔ l ≠ [] ∧ l.head? ≠ some 35 := by
  match l with
  | [] => simp [isSkipped]
  | c :: cs =>
    by_cases hc : c = 35
    · subst hc; simp [isSkipped]
    · simp only [isSkipped, List.head?_cons, Option.some.injEq, ne_eq, hc, not_false_eq_true, and_true]
      split <;> simp_all

theorem WF.lineOK {N : Nat} {b : Bed} (h : WF N b) :
    LineOK N (joinWith TAB ((allFields b).take N)) (truncate N b) := by
  have hok := h.textOK_allFields
  have h3 : 3 ≤ N := h.1
  have hsplit := splitOn_line b N h3 hok
  refine ⟨line_noNL b N hok, isSkipped_eq_false.2 ?_, ?_, ?_⟩
  · obtain ⟨n, rfl⟩ : ∃ n, N = n + 2 := ⟨N - 2, by omega⟩
    have hhead : b.chrom.head? ≠ some 35 := h.2.2.2.2.1
    rw [show (allFields b).take (n + 2) = b.chrom :: itoa b.chromStart :: ((allFields b).drop 2).take n from rfl,
      joinWith]
    cases hc : b.chrom with
    | nil => simp [TAB]
    | cons c cs => rw [hc] at hhead; simpa using hhead
  · rw [hsplit, List.length_take, allFields_length]; have := h.2.1; omega
  · rw [hsplit]; exact parseLine_allFields h

/-- the line `Write` emits for a well-formed record, and what a reader needs to know about it -/
theorem WF.line {N : Nat} {b : Bed} (h : WF N b) :
    encodeLine b = some (joinWith TAB ((allFields b).take N)) ∧
    LineOK N (joinWith TAB ((allFields b).take N)) (truncate N b) :=
  ⟨encodeLine_eq b N h.2.2.1 h.1 h.2.1, h.lineOK⟩

/-- What a physical line contributes: a record (`some r`) or nothing. -/
def Spec (N : Nat) (l : Bytes) : Option Bed → Prop
  | none => (∀ c ∈ l, c ≠ 10 ∧ c ≠ 13) ∧ isSkipped l = true
  | some r => LineOK N l r

theorem Spec.noNL {N l o} (h : Spec N l o) : ∀ c ∈ l, c ≠ 10 ∧ c ≠ 13 := by
  cases o with
  | none => exact h.1
  | some r => exact LineOK.noNL h

theorem WF.spec {N : Nat} {b : Bed} (h : WF N b) :
    Spec N ((encodeLine b).getD []) (some (truncate N b)) := by
  rw [h.line.1]; exact h.line.2

end Bio.Bed

/-! ## The reader over lines, with the line parser as a parameter

`fromLinesP` is what the translated Go reader is compared with (`Bio.Lemmas.GoSrcBedRead`, whence the
namespace); it stands here so that the facts about `fromLines` are its instances at `parseLine`. -/

namespace Bio.GoSrcLemmas.BedIt
open Bio

def fromLinesP (P : List Bytes → Option Bed.Bed) (e : Ending) : Option Nat → List Bytes → List (Item Bed.Bed)
  | _, [] => Bed.endItems e
  | nf, l :: rest =>
    if Bed.isSkipped l then fromLinesP P e nf rest
    else
      if nf.isSome && nf != some (splitOn TAB l).length then [.err]
      else match P (splitOn TAB l) with
        | none => [.err]
        | some b => .ok b :: fromLinesP P e (some (splitOn TAB l).length) rest

variable (P : List Bytes → Option Bed.Bed) (e : Ending)

theorem fromLinesP_model (nf : Option Nat) (ls : List Bytes) :
    fromLinesP Bed.parseLine e nf ls = Bed.fromLines e nf ls := by
  induction ls generalizing nf with
  | nil => rfl
  | cons l ls ih =>
    simp only [fromLinesP, Bed.fromLines, ih]
    split
    · rfl
    · split
      · rfl
      · cases Bed.parseLine (splitOn TAB l) <;> rfl

theorem fromLinesP_skip {l : Bytes} (h : Bed.isSkipped l = true) (nf : Option Nat) (ls : List Bytes) :
    fromLinesP P e nf (l :: ls) = fromLinesP P e nf ls := by
  rw [fromLinesP, if_pos h]

/-- a record line: the field count must be the first record's, and the parser must accept -/
theorem fromLinesP_line {l : Bytes} (h : Bed.isSkipped l = false) (nf : Option Nat) (ls : List Bytes) :
    fromLinesP P e nf (l :: ls) =
      if nf.isSome && nf != some (splitOn TAB l).length then [.err]
      else match P (splitOn TAB l) with
        | none => [.err]
        | some b => .ok b :: fromLinesP P e (some (splitOn TAB l).length) ls := by
  rw [fromLinesP, if_neg (by simp [h])]

theorem fromLinesP_dropWhile (nf : Option Nat) (ls : List Bytes) :
    fromLinesP P e nf ls = fromLinesP P e nf (ls.dropWhile Bed.isSkipped) := by
  induction ls with
  | nil => rfl
  | cons l ls ih =>
    by_cases hs : Bed.isSkipped l = true
    · rw [fromLinesP_skip P e hs, List.dropWhile_cons, if_pos hs, ih]
    · rw [List.dropWhile_cons, if_neg hs]

theorem fromLinesP_congr {P Q : List Bytes → Option Bed.Bed} (ls : List Bytes)
    (h : ∀ l ∈ ls, P (splitOn TAB l) = Q (splitOn TAB l)) (nf : Option Nat) :
    fromLinesP P e nf ls = fromLinesP Q e nf ls := by
  induction ls generalizing nf with
  | nil => rfl
  | cons l ls ih =>
    have ih' := ih (fun m hm => h m (List.mem_cons_of_mem _ hm))
    simp only [fromLinesP, h l List.mem_cons_self, ih']

theorem fromLinesP_err_last : ∀ (ls : List Bytes) (nf : Option Nat) (i : Nat),
    (fromLinesP P e nf ls)[i]? = some .err → i + 1 = (fromLinesP P e nf ls).length := by
  have single : ∀ i : Nat, ([Item.err] : List (Item Bed.Bed))[i]? = some .err → i + 1 = 1 := by
    intro i h
    cases i with
    | zero => rfl
    | succ i => simp at h
  intro ls
  induction ls with
  | nil =>
    intro nf i h
    cases e with
    | eof => simp [fromLinesP, Bed.endItems] at h
    | fail => exact single i h
  | cons l ls ih =>
    intro nf i
    by_cases hs : Bed.isSkipped l = true
    · rw [fromLinesP_skip P e hs]; exact ih nf i
    · rw [fromLinesP_line P e (by simpa using hs)]
      split
      · exact single i
      · split
        · exact single i
        · intro h
          cases i with
          | zero => simp at h
          | succ i => rw [List.length_cons, ih _ i (by simpa using h)]

theorem fromLinesP_fail_last : ∀ (ls : List Bytes) (nf : Option Nat),
    (fromLinesP P .fail nf ls).getLast? = some .err := by
  intro ls
  induction ls with
  | nil => intro nf; rfl
  | cons l ls ih =>
    intro nf
    simp only [fromLinesP]
    split
    · exact ih nf
    · split
      · rfl
      · split
        · rfl
        · rw [List.getLast?_cons, ih]; rfl

end Bio.GoSrcLemmas.BedIt

namespace Bio.Bed
open Bio.GoSrcLemmas.BedIt

/-! ## The reader over lines -/

theorem fromLines_specs {α : Type} (e : Ending) (N : Nat) (line : α → Bytes) (out : α → Option Bed)
    (es : List α) (h : ∀ a ∈ es, Spec N (line a) (out a)) :
    ∀ nf, nf = none ∨ nf = some N →
      fromLines e nf (es.map line) = (es.filterMap out).map Item.ok ++ endItems e := by
  induction es with
  | nil => intro nf _; simp [fromLines]
  | cons a es ih =>
    intro nf hnf
    have ha := h a (by simp)
    have ih' := ih (fun x hx => h x (by simp [hx]))
    simp only [List.map_cons, fromLines]
    cases ho : out a with
    | none =>
      rw [ho] at ha
      simp [ha.2, ho, ih' nf hnf]
    | some r =>
      rw [ho] at ha
      have hcond : (nf.isSome && nf != some (splitOn TAB (line a)).length) = false := by
        rcases hnf with rfl | rfl <;> simp [ha.len]
      simp only [ha.notSkipped, hcond, ha.parse, List.filterMap_cons, ho]
      simp [ha.len, ih' (some N) (Or.inr rfl)]

theorem fromLines_err_last (e : Ending) (nf : Option Nat) (ls : List Bytes) (i : Nat)
    (h : (fromLines e nf ls)[i]? = some .err) : i + 1 = (fromLines e nf ls).length := by
  rw [← fromLinesP_model] at h ⊢
  exact fromLinesP_err_last _ e ls nf i h

/-! ## Files -/

def lineEnd (crlf : Bool) : Bytes := if crlf then [13, 10] else [10]

theorem scanLines_nil : scanLines [] = [] := rfl

theorem scanLines_append_lineEnd (l rest : Bytes) (crlf : Bool) (hl : ∀ b ∈ l, b ≠ 10 ∧ b ≠ 13) :
    scanLines (l ++ lineEnd crlf ++ rest) = l :: scanLines rest := by
  obtain ⟨hlf, hcr⟩ := plain_of_noNL hl
  cases crlf
  · simpa [lineEnd] using scanLines_append_LF hlf hcr rest
  · simpa [lineEnd] using scanLines_append_CRLF hlf rest

theorem scanLines_file {α : Type} (line : α → Bytes) (crlf : α → Bool) (es : List α)
    (h : ∀ a ∈ es, ∀ c ∈ line a, c ≠ 10 ∧ c ≠ 13) (last : Bytes) :
    scanLines ((es.map fun a => line a ++ lineEnd (crlf a)).flatten ++ last)
      = es.map line ++ scanLines last := by
  induction es with
  | nil => simp
  | cons a es ih =>
    simp only [List.map_cons, List.flatten_cons, List.append_assoc, List.cons_append]
    rw [← List.append_assoc, scanLines_append_lineEnd _ _ _ (h a (by simp)),
      ih (fun x hx => h x (by simp [hx]))]

theorem decode_file {α : Type} (N : Nat) (line : α → Bytes) (crlf : α → Bool) (out : α → Option Bed)
    (es : List α) (h : ∀ a ∈ es, Spec N (line a) (out a)) :
    decode (es.map fun a => line a ++ lineEnd (crlf a)).flatten = (es.filterMap out).map Item.ok := by
  have := scanLines_file line crlf es (fun a ha => (h a ha).noNL) []
  simp only [List.append_nil, scanLines_nil] at this
  simp only [decode, decodeSrc, textLines, this]
  simpa [endItems] using fromLines_specs .eof N line out es h none (Or.inl rfl)

/-- Same, with an unterminated record line at the end: it is one more entry (`Sum.inr ()`) of
`fromLines_specs`. -/
theorem decode_file_last {α : Type} (N : Nat) (line : α → Bytes) (crlf : α → Bool)
    (out : α → Option Bed) (es : List α) (h : ∀ a ∈ es, Spec N (line a) (out a))
    (last : Bytes) (r : Bed) (hlast : LineOK N last r) :
    decode ((es.map fun a => line a ++ lineEnd (crlf a)).flatten ++ last)
      = (es.filterMap out).map Item.ok ++ [Item.ok r] := by
  have hne : last ≠ [] := (isSkipped_eq_false.1 hlast.notSkipped).1
  have h1 := scanLines_file line crlf es (fun a ha => (h a ha).noNL) last
  rw [scanLines_single hne (plain_of_noNL hlast.noNL).1 (plain_of_noNL hlast.noNL).2] at h1
  simp only [decode, decodeSrc, textLines, h1]
  have h2 := fromLines_specs .eof N (fun x : α ⊕ Unit => match x with | .inl a => line a | .inr _ => last)
    (fun x => match x with | .inl a => out a | .inr _ => some r)
    (es.map Sum.inl ++ [Sum.inr ()])
    (by
      intro x hx
      simp only [List.mem_append, List.mem_map, List.mem_singleton] at hx
      rcases hx with ⟨a, ha, rfl⟩ | rfl
      · exact h a ha
      · exact hlast)
    none (Or.inl rfl)
  simpa [endItems, List.filterMap_append, List.filterMap_map, Function.comp_def] using h2

/-- Source failing after `k` bytes of a file of LF-terminated record lines. -/
theorem fault_prefix {α : Type} (N : Nat) (line : α → Bytes) (out : α → Bed) (es : List α)
    (h : ∀ a ∈ es, LineOK N (line a) (out a)) :
    ∀ nf, nf = none ∨ nf = some N → ∀ k, ∃ n,
      fromLines .fail nf (textLines .fail (((es.map fun a => line a ++ [10]).flatten).take k))
        = (es.take n).map (fun a => Item.ok (out a)) ++ [Item.err] := by
  intro nf hnf k
  have hplain : ∀ l ∈ es.map line, (10 : UInt8) ∉ l ∧ l.getLast? ≠ some 13 := by
    intro l hl
    obtain ⟨a, ha, rfl⟩ := List.mem_map.1 hl
    exact plain_of_noNL (h a ha).noNL
  obtain ⟨n, hn⟩ := textLines_fail_take_lfFile (es.map line) hplain k
  refine ⟨n, ?_⟩
  have hfile : (es.map fun a => line a ++ [10]).flatten = lfFile (es.map line) := by
    simp [lfFile, List.map_map, Function.comp_def]
  rw [hfile, hn, ← List.map_take,
    fromLines_specs .fail N line (fun a => some (out a)) (es.take n)
      (fun a ha => h a (List.mem_of_mem_take ha)) nf hnf]
  simp [endItems, Function.comp_def]

end Bio.Bed

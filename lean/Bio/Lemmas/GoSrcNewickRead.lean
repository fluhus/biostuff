/-
  `(*reader).read` and `Reader` of formats/newick/newick.go, translated from the Go source text on
  every run (`Bio.Generated.GoSrc.newick_read`, over an explicit heap of `Node` cells), against the
  hand-written model `Newick.readTree` / `Newick.decodeSrc`.  Part 3: the function-level statements
  (vocabulary: `Bio.Lemmas.GoSrcNewickRead1`; the loop: `Bio.Lemmas.GoSrcNewickRead2`).

  Guarded by the translator's `<f>_Found` flags as in `Bio.Lemmas.GoSrc`.
-/
import Bio.Lemmas.GoSrcNewickRead2
namespace Bio.GoSrcLemmas
open Bio Bio.GoRt Bio.Generated Bio.Newick

namespace NwkRd

/-- a `ParseFloat` built from a model distance parser: its value and `nil` where `pd` accepts, the
zero value and an error (`*strconv.NumError`, translated `other`) where it rejects -/
def pfOf (pd : Bytes → Option Dist) : PF := fun s _ =>
  match pd s with
  | some d => (d, GoErr.nil)
  | none => (none, GoErr.other)

/-- the parameter never returns `io.EOF` as its error (`strconv.ParseFloat` returns `*NumError`s) -/
def PFNoEof (pf : PF) : Prop := ∀ s, (pf s 64).2 ≠ GoErr.eof

/-- (instance search needs a larger budget than the default for this nested product) -/
instance instDecEqRes : DecidableEq Res := by
  set_option synthInstance.maxSize 1024 in
  exact inferInstance

end NwkRd
open NwkRd

theorem pfModel_pfOf (pd : Bytes → Option Dist) : PFModel (pfOf pd) pd := by
  intro s
  unfold pfOf
  cases h : pd s with
  | none => simp
  | some d => simp

theorem pfNoEof_pfOf (pd : Bytes → Option Dist) : PFNoEof (pfOf pd) := by
  intro s
  unfold pfOf
  cases h : pd s <;> simp

section
variable {pf : PF} {pd : Bytes → Option Dist}

/-- One call of the translated `read()` with `x.length + 1` fuel is the model's `readTree` (`Post`, with
`Ext h0 heap'` and `len h0` spelled out as the Props statements have them). -/
theorem newick_read_model (hR : GoSrc.newick_read_Found = true)
    (hT : GoSrc.newick_nextToken_Found = true) (hN : GoSrc.nameFromText_Found = true)
    (hQ : GoSrc.quoted_Found = true) (hpf : PFModel pf pd) (x : Bytes) (e : Ending) (h0 : Heap)
    (last : Option UInt8) (rb : Bytes) (fuel : Nat) (hf : x.length + 1 ≤ fuel) :
    match readTree pd e x with
    | .tree t rest => ∃ heap' last' rb',
        GoSrc.newick_read pf fuel h0 ⟨last, x, e⟩ rb
          = some ((h0.length : Int), GoErr.nil, heap', ⟨last', rest, e⟩, rb') ∧
        RepT heap' (h0.length : Int) t ∧ ∃ ext, heap' = h0 ++ ext
    | .eof => GoSrc.newick_read pf fuel h0 ⟨last, x, e⟩ rb
        = some (-1, GoErr.eof, h0 ++ [zero], ⟨none, [], e⟩, [])
    | .err => ∃ err heap' r' rb',
        GoSrc.newick_read pf fuel h0 ⟨last, x, e⟩ rb = some (-1, err, heap', r', rb') ∧
        err ≠ GoErr.nil ∧ (err = GoErr.other ∨ ∃ s, pd s = none ∧ err = (pf s 64).2) ∧
        (PFNoEof pf → err ≠ GoErr.eof) := by
  have hp := (newick_read_post (h0 := h0) (e := e) hR hT hN hQ hpf x last rb fuel).2 hf
  cases hr : readTree pd e x with
  | eof => simp only [hr, Post] at hp ⊢; exact hp.2
  | tree t rest => simp only [hr, Post] at hp ⊢; exact hp
  | err =>
    simp only [hr, Post] at hp ⊢
    obtain ⟨err, heap', r', rb', h1, h2, h3, _, _⟩ := hp
    refine ⟨err, heap', r', rb', h1, h2, h3, fun hne => ?_⟩
    rcases h3 with h3 | ⟨s, _, h3⟩
    · subst h3; decide
    · subst h3; exact hne s

/-- Whatever the fuel: if the translated `read()` returns at all, it returns what the model says. -/
theorem newick_read_partial (hR : GoSrc.newick_read_Found = true)
    (hT : GoSrc.newick_nextToken_Found = true) (hN : GoSrc.nameFromText_Found = true)
    (hQ : GoSrc.quoted_Found = true) (hpf : PFModel pf pd) (x : Bytes) (e : Ending) (h0 : Heap)
    (last : Option UInt8) (rb : Bytes) (fuel : Nat) (res : Res)
    (h : GoSrc.newick_read pf fuel h0 ⟨last, x, e⟩ rb = some res) :
    Post pf pd h0 e (h0 ++ [zero]) false (readTree pd e x) (some res) := by
  have hp := (newick_read_post (h0 := h0) (e := e) hR hT hN hQ hpf x last rb fuel).1
  rw [h] at hp
  rcases hp with hp | hp
  · cases hp
  · exact hp

end

/-- Frame, for an ARBITRARY `ParseFloat` and any fuel: whatever `read()` returns, the heap it hands
back is the initial heap with cells appended — no cell that existed before the call is written. -/
theorem newick_read_frame (hR : GoSrc.newick_read_Found = true)
    (hT : GoSrc.newick_nextToken_Found = true) (hN : GoSrc.nameFromText_Found = true)
    (hQ : GoSrc.quoted_Found = true) (pf : PF) (fuel : Nat) (h0 : Heap) (r : ByteRd) (rb : Bytes)
    (p : Int) (err : GoErr) (heap' : Heap) (r' : ByteRd) (rb' : Bytes)
    (h : GoSrc.newick_read pf fuel h0 r rb = some (p, err, heap', r', rb')) :
    ∃ ext, heap' = h0 ++ ext := by
  obtain ⟨last, x, e⟩ := r
  have hp := newick_read_partial hR hT hN hQ (pfModel_pdOf pf) x e h0 last rb fuel _ h
  cases hr : readTree (pdOf pf) e x with
  | eof =>
    simp only [hr, Post] at hp
    obtain ⟨_, hp⟩ := hp
    injection hp with hp
    injection hp with _ hp
    injection hp with _ hp
    injection hp with hp _
    exact ⟨[zero], hp⟩
  | tree t rest =>
    simp only [hr, Post] at hp
    obtain ⟨heap'', last', rb'', h1, _, h3⟩ := hp
    injection h1 with h1
    injection h1 with _ h1
    injection h1 with _ h1
    injection h1 with h1 _
    subst h1
    exact h3
  | err =>
    simp only [hr, Post] at hp
    obtain ⟨err', heap'', r'', rb'', h1, _, _, h3, _⟩ := hp
    injection h1 with h1
    injection h1 with _ h1
    injection h1 with _ h1
    injection h1 with h1 _
    subst h1
    exact h3

/-- For an ARBITRARY `ParseFloat`: with `x.length + 1` fuel the translated `read()` returns (no index
out of range, no `panic("unexpected state")`, no loop out of fuel). -/
theorem newick_read_isSome (hR : GoSrc.newick_read_Found = true)
    (hT : GoSrc.newick_nextToken_Found = true) (hN : GoSrc.nameFromText_Found = true)
    (hQ : GoSrc.quoted_Found = true) (pf : PF) (fuel : Nat) (h0 : Heap) (r : ByteRd) (rb : Bytes)
    (hf : r.rest.length + 1 ≤ fuel) : (GoSrc.newick_read pf fuel h0 r rb).isSome = true := by
  obtain ⟨last, x, e⟩ := r
  have hp := newick_read_model hR hT hN hQ (pfModel_pdOf pf) x e h0 last rb fuel hf
  cases hr : readTree (pdOf pf) e x with
  | eof => simp only [hr] at hp; rw [hp]; rfl
  | tree t rest =>
    simp only [hr] at hp
    obtain ⟨_, _, _, h1, _⟩ := hp
    rw [h1]; rfl
  | err =>
    simp only [hr] at hp
    obtain ⟨_, _, _, _, h1, _⟩ := hp
    rw [h1]; rfl

/-- The translated `Reader` is the model's `decodeSrc`. -/
theorem goNewickDecode_eq (hR : GoSrc.newick_read_Found = true)
    (hT : GoSrc.newick_nextToken_Found = true) (hN : GoSrc.nameFromText_Found = true)
    (hQ : GoSrc.quoted_Found = true) {pf : PF} {pd : Bytes → Option Dist} (hpf : PFModel pf pd)
    (x : Bytes) (e : Ending) (fuel : Nat) (hf : x.length + 1 ≤ fuel)
    (hH : (∀ s, pd s = none → (pf s 64).2 ≠ GoErr.eof) ∨ Item.err ∉ decodeSrc pd e x) :
    goNewickDecode pf fuel x e = some (decodeSrc pd e x) :=
  nwk_decode_loop hR hT hN hQ hpf fuel fuel x [] none [] hf hf hH

end Bio.GoSrcLemmas

/-
  Facts about the Go run-time vocabulary (`Bio.Model.GoRt`) that the lemma files about translated
  functions share: indices and slices at natural-number positions; loops — an index loop over a
  slice is a loop over its elements, counted loops with an invariant, loops that cannot panic, loops
  that run on fuel; a slice used as a stack.
-/
import Bio.Model.GoRt
namespace Bio.GoRt

/-! ## Indices, slices, casts -/

theorem idx_ofNat {α : Type} (l : List α) (n : Nat) : idx l (n : Int) = l[n]? := by
  unfold idx; simp; omega

theorem idx_IntofNat {α : Type} (l : List α) (n : Nat) : idx l (Int.ofNat n) = l[n]? :=
  idx_ofNat l n

theorem setIdx_ofNat {α : Type} (l : List α) (n : Nat) (v : α) :
    setIdx l (n : Int) v = if n < l.length then some (l.set n v) else none := by
  unfold setIdx
  have h1 : ¬ ((n : Int) < 0) := by omega
  simp [h1]

theorem setIdx_IntofNat {α : Type} (l : List α) (n : Nat) (v : α) :
    setIdx l (Int.ofNat n) v = if n < l.length then some (l.set n v) else none :=
  setIdx_ofNat l n v

theorem setIdx_lt {α : Type} (l : List α) (n : Nat) (v : α) (h : n < l.length) :
    setIdx l (n : Int) v = some (l.set n v) := by
  rw [setIdx_ofNat, if_pos h]

theorem setIdx_set {α : Type} (l : List α) (n : Nat) (v w : α) (h : n < l.length) :
    setIdx (l.set n v) (n : Int) w = some (l.set n w) := by
  rw [setIdx_ofNat, List.length_set, if_pos h, List.set_set]

theorem idx_set_self {α : Type} (l : List α) (n : Nat) (v : α) (h : n < l.length) :
    idx (l.set n v) (n : Int) = some v := by
  rw [idx_ofNat, List.getElem?_set_self h]

theorem idx_set_ne {α : Type} (l : List α) (n : Nat) (v : α) (i : Int) (h : i ≠ (n : Int)) :
    idx (l.set n v) i = idx l i := by
  unfold idx
  split
  · rfl
  · rw [List.getElem?_set_ne (by omega)]

theorem set_eq_of_idx {α : Type} {l : List α} {n : Nat} {v : α} (h : idx l (n : Int) = some v) :
    l.set n v = l := by
  obtain ⟨hn, hv⟩ := List.getElem?_eq_some_iff.mp (idx_ofNat l n ▸ h)
  rw [← hv]; exact List.set_getElem_self hn

theorem idx_pred_getD {α : Type} (l : List α) (i : Nat) (d : α) (h1 : 1 ≤ i) (h2 : i ≤ l.length) :
    idx l ((i : Int) - 1) = some (l.getD (i - 1) d) := by
  have h : i - 1 < l.length := by omega
  rw [show (i : Int) - 1 = ((i - 1 : Nat) : Int) by omega, idx_ofNat, List.getD_eq_getElem?_getD,
    List.getElem?_eq_getElem h, Option.getD_some]

theorem idx_some {α : Type} {l : List α} {i : Int} {v : α} (h : idx l i = some v) :
    0 ≤ i ∧ i < len l := by
  unfold idx at h
  unfold len
  split at h
  · cases h
  · have := (List.getElem?_eq_some_iff.mp h).1
    omega

theorem idx_append_lt {α : Type} (l m : List α) (i : Int) (h : i < len l) :
    idx (l ++ m) i = idx l i := by
  unfold idx
  unfold len at h
  split
  · rfl
  · rw [List.getElem?_append_left (by omega)]

theorem idx_append {α : Type} {l : List α} {i : Int} {v : α} (m : List α) (h : idx l i = some v) :
    idx (l ++ m) i = some v :=
  (idx_append_lt l m i (idx_some h).2).trans h

theorem len_append_one {α : Type} (l : List α) (c : α) : len (l ++ [c]) = len l + 1 := by
  simp [len]

theorem slice_ofNat {α : Type} (l : List α) (a b : Nat) (h : a ≤ b) (hb : b ≤ l.length) :
    slice l (a : Int) (b : Int) = some ((l.drop a).take (b - a)) := by
  unfold slice
  have h1 : (0 : Int) ≤ (a : Int) ∧ (a : Int) ≤ (b : Int) ∧ (b : Int) ≤ (l.length : Int) := by omega
  rw [if_pos h1]
  have : ((b : Int) - (a : Int)).toNat = b - a := by omega
  simp [this]

/-- `l[i:]` -/
theorem slice_to_len {α : Type} (l : List α) (i : Int) (h0 : 0 ≤ i) (h : i ≤ len l) :
    slice l i (len l) = some (l.drop i.toNat) := by
  unfold slice
  rw [if_pos ⟨h0, h, Int.le_refl _⟩]
  congr 1
  exact List.take_of_length_le (by unfold len at h ⊢; simp; omega)

theorem slice_from {α : Type} (l : List α) (i : Nat) :
    slice l (min (i : Int) (len l)) (len l) = some (l.drop i) := by
  unfold slice len
  have h1 : (0 : Int) ≤ min (i : Int) (l.length : Int) ∧ min (i : Int) (l.length : Int) ≤ (l.length : Int)
      ∧ (l.length : Int) ≤ (l.length : Int) := by omega
  rw [if_pos h1]
  congr 1
  by_cases h : i ≤ l.length
  · have e1 : (min (i : Int) (l.length : Int)).toNat = i := by omega
    have e2 : ((l.length : Int) - min (i : Int) (l.length : Int)).toNat = l.length - i := by omega
    rw [e1, e2]
    exact List.take_of_length_le (by simp)
  · have e1 : (min (i : Int) (l.length : Int)).toNat = l.length := by omega
    rw [e1, List.drop_of_length_le (Nat.le_refl _), List.drop_of_length_le (by omega)]
    simp

/-- `l[a:min(a+w, len(l))]`: the next `w` items from `a` on, fewer at the end. -/
theorem slice_window {α : Type} (l : List α) (a w : Nat) (h : a ≤ l.length) :
    slice l (a : Int) (min ((a : Int) + (w : Int)) (len l)) = some ((l.drop a).take w) := by
  unfold slice len
  by_cases hw : a + w ≤ l.length
  · rw [Int.min_eq_left (by omega), if_pos (by omega), Int.toNat_natCast, Int.add_comm,
      Int.add_sub_cancel, Int.toNat_natCast]
  · rw [Int.min_eq_right (by omega), if_pos (by omega), Int.toNat_natCast, Int.toNat_sub,
      List.take_of_length_le (by simp), List.take_of_length_le (by simp; omega)]

theorem slice_upto3 {α : Type} (l : List α) :
    slice l 0 (Int.tdiv (len l) 3 * 3) = some (l.take (l.length / 3 * 3)) := by
  unfold slice len
  have e : (l.length : Int).tdiv 3 = ((l.length / 3 : Nat) : Int) := by
    rw [Int.natCast_tdiv_eq_ediv]; omega
  rw [e]
  have h1 : (0 : Int) ≤ 0 ∧ (0 : Int) ≤ ((l.length / 3 : Nat) : Int) * 3
      ∧ ((l.length / 3 : Nat) : Int) * 3 ≤ (l.length : Int) := by omega
  rw [if_pos h1]
  have e2 : (((l.length / 3 : Nat) : Int) * 3 - 0).toNat = l.length / 3 * 3 := by omega
  rw [e2]
  rfl

theorem shl8_ofNat (x : UInt8) (n : Nat) (h : n < 8) : shl8 x (n : Int) = some (x <<< UInt8.ofNat n) := by
  unfold shl8
  have h1 : ¬ ((n : Int) < 0) := by omega
  have h2 : ¬ ((n : Int) ≥ 8) := by omega
  simp [h1, h2]

theorem upTo_len {α : Type} (l : List α) : upTo (len l) = (List.range' 0 l.length).map Int.ofNat := by
  simp [upTo, len, List.range_eq_range']

theorem downFrom_len {α : Type} (l : List α) :
    downFrom (len l - 1) = (List.range l.length).reverse.map Int.ofNat := by
  unfold downFrom len
  have : ((l.length : Int) - 1 + 1).toNat = l.length := by omega
  rw [this, List.map_reverse]

theorem natCast_succ_beq_zero (n : Nat) : (((n + 1 : Nat) : Int) == 0) = false := by
  rw [beq_eq_false_iff_ne]; omega

theorem natCast_succ_beq_one (n : Nat) : (((n + 1 : Nat) : Int) == 1) = decide (n = 0) := by
  rw [Bool.eq_iff_iff, beq_iff_eq, decide_eq_true_eq]; omega

/-! ## Loops over slices -/

theorem forIn_congr_mem {α β : Type} (l : List α) (s : β) (f g : α → β → Option (ForInStep β))
    (h : ∀ a ∈ l, ∀ b, f a b = g a b) : forIn l s f = forIn l s g := by
  induction l generalizing s with
  | nil => rfl
  | cons a as ih =>
    simp only [List.forIn_cons]
    rw [h a (by simp)]
    congr 1
    funext r
    cases r with
    | done b => rfl
    | yield b => exact ih b (fun a ha b => h a (by simp [ha]) b)

/-- a loop over the indices `n-1 … 0` of `pre` reading `(pre ++ suf)[i]` is a loop over `pre` reversed -/
theorem forIn_range_reverse_getElem {α β : Type} (pre suf : List α) (s : β)
    (f : α → β → Option (ForInStep β)) :
    forIn (List.range pre.length).reverse s (fun i s => ((pre ++ suf)[i]?).bind fun x => f x s)
      = forIn pre.reverse s f := by
  generalize hn : pre.length = n
  induction n generalizing pre suf s with
  | zero =>
    have : pre = [] := List.length_eq_zero_iff.mp hn
    subst this; rfl
  | succ n ih =>
    rcases List.eq_nil_or_concat pre with h | ⟨pre', a, h⟩
    · subst h; simp at hn
    · subst h
      have hl : pre'.length = n := by simpa using hn
      simp only [List.concat_eq_append, List.range_succ, List.reverse_append,
        List.reverse_cons, List.reverse_nil, List.nil_append, List.singleton_append, List.forIn_cons]
      have h1 : (pre' ++ [a] ++ suf)[n]? = some a := by simp [← hl]
      rw [h1]
      simp only [Option.bind_some]
      congr 1
      funext r
      cases r with
      | done b => rfl
      | yield b =>
        have := ih pre' (a :: suf) b hl
        simpa using this

/-- `for i := len(l)-1; i >= 0; i-- { x := l[i]; … }` is a loop over `l` reversed -/
theorem forIn_downFrom_idx {α β : Type} (l : List α) (s : β) (f : α → β → Option (ForInStep β)) :
    forIn (downFrom (len l - 1)) s (fun i s => (idx l i).bind fun x => f x s) = forIn l.reverse s f := by
  rw [downFrom_len, List.forIn_map]
  have := forIn_range_reverse_getElem l [] s f
  simp only [List.append_nil] at this
  rw [← this]
  apply forIn_congr_mem
  intro a _ b
  show (idx l (Int.ofNat a)).bind _ = _
  rw [show Int.ofNat a = (a : Int) from rfl, idx_ofNat]

theorem forIn_range'_idx {α β : Type} (f : α → β → Option (ForInStep β)) (suf : List α) :
    ∀ (pre : List α) (s : β),
    forIn ((List.range' pre.length suf.length).map Int.ofNat) s
        (fun i s => (idx (pre ++ suf) i).bind fun x => f x s) = forIn suf s f := by
  induction suf with
  | nil => intro pre s; rfl
  | cons a suf ih =>
    intro pre s
    simp only [List.length_cons, List.range'_succ, List.map_cons, List.forIn_cons]
    have h1 : idx (pre ++ a :: suf) (Int.ofNat pre.length) = some a := by
      rw [show Int.ofNat pre.length = (pre.length : Int) from rfl, idx_ofNat]; simp
    rw [h1]
    simp only [Option.bind_some]
    congr 1
    funext r
    cases r with
    | done b => rfl
    | yield b =>
      have := ih (pre ++ [a]) b
      simpa using this

/-- `for i := 0; i < len(l); i++ { x := l[i]; … }` is a loop over `l` -/
theorem forIn_upTo_idx {α β : Type} (l : List α) (s : β) (f : α → β → Option (ForInStep β)) :
    forIn (upTo (len l)) s (fun i s => (idx l i).bind fun x => f x s) = forIn l s f := by
  have := forIn_range'_idx f l [] s
  simpa [upTo, len, List.range_eq_range'] using this

/-- An `enum` loop whose body implements `step` and preserves `inv`.  The recursion `aux` the loop is
compared with is a parameter (given by its two equations), so that a model function defined by
recursion on the list can be plugged in as it stands. -/
theorem forIn_enum_step {α σ : Type} (src : List α) (inv : Nat → σ → Prop)
    (step : Nat → σ → α → Option σ) (aux : Nat → σ → List α → Option σ)
    (haux_nil : ∀ i s, aux i s [] = some s)
    (haux_cons : ∀ i s a rest, aux i s (a :: rest) = (step i s a).bind fun d => aux (i + 1) d rest)
    (hinv : ∀ i s a d, inv i s → step i s a = some d → inv (i + 1) d)
    (body : Int × α → σ → Option (ForInStep σ))
    (hbody : ∀ i s a, inv i s → body ((i : Int), a) s = (step i s a).map ForInStep.yield)
    (k : Nat) (s : σ) (h : inv k s) :
    forIn ((src.zipIdx k).map fun p => ((p.2 : Int), p.1)) s body = aux k s src := by
  induction src generalizing k s with
  | nil => simp [haux_nil]
  | cons a rest ih =>
    simp only [List.zipIdx_cons, List.map_cons, List.forIn_cons, haux_cons]
    rw [hbody k s a h]
    cases hs : step k s a with
    | none => simp
    | some d => simpa using ih (k + 1) d (hinv k s a d h hs)

/-- an index loop `for i := 0; i < N; i++` whose body never panics or breaks and steps an invariant -/
theorem forIn_range_inv {σ : Type} (inv : Nat → σ → Prop) (body : Int → σ → Option (ForInStep σ))
    (N : Nat)
    (hstep : ∀ j s, j < N → inv j s → ∃ s', body (Int.ofNat j) s = some (ForInStep.yield s') ∧ inv (j + 1) s') :
    ∀ (c a : Nat) (s : σ), a + c = N → inv a s →
      ∃ s', forIn ((List.range' a c).map Int.ofNat) s body = some s' ∧ inv N s' := by
  intro c
  induction c with
  | zero =>
    intro a s ha hi
    have : a = N := by omega
    subst this
    exact ⟨s, by simp, hi⟩
  | succ c ih =>
    intro a s ha hi
    obtain ⟨s', hb, hi'⟩ := hstep a s (by omega) hi
    obtain ⟨s'', hf, hi''⟩ := ih (a + 1) s' (by omega) hi'
    refine ⟨s'', ?_, hi''⟩
    rw [List.range'_succ, List.map_cons, List.forIn_cons, hb]
    exact hf

theorem forIn_upTo_inv {σ : Type} (inv : Nat → σ → Prop) (body : Int → σ → Option (ForInStep σ))
    (N : Nat)
    (hstep : ∀ j s, j < N → inv j s → ∃ s', body (Int.ofNat j) s = some (ForInStep.yield s') ∧ inv (j + 1) s')
    (s : σ) (h0 : inv 0 s) :
    ∃ s', forIn (upTo (N : Int)) s body = some s' ∧ inv N s' := by
  have := forIn_range_inv inv body N hstep N 0 s (by omega) h0
  unfold upTo
  rw [List.range_eq_range']
  simpa using this

/-- a loop whose body cannot panic -/
def loopT {α σ : Type} (f : α → σ → ForInStep σ) : List α → σ → σ
  | [], s => s
  | a :: l, s =>
    match f a s with
    | .done s' => s'
    | .yield s' => loopT f l s'

theorem forIn_total {α σ : Type} (f : α → σ → ForInStep σ) (body : α → σ → Option (ForInStep σ))
    (hb : ∀ a s, body a s = some (f a s)) (l : List α) (s : σ) :
    forIn l s body = some (loopT f l s) := by
  induction l generalizing s with
  | nil => rfl
  | cons a l ih =>
    rw [List.forIn_cons, hb a s, loopT]
    cases f a s with
    | done s' => rfl
    | yield s' => exact ih s'

/-- `for _, x := range l { acc = append(acc, f(x)) }` -/
theorem forIn_append_map {α β : Type} (f : α → β) (l : List α) : ∀ acc : List β,
    forIn l acc (fun x r => (some (ForInStep.yield (r ++ [f x])) : Option _)) = some (acc ++ l.map f) := by
  induction l with
  | nil => intro acc; simp
  | cons a l ih => intro acc; simp [ih]

/-! ## Loops on fuel

A `for { … }` loop of the Go source runs at most `fuel` times in the translation.  Two ways to reason
about one: against a measure (`forIn_fuel_le`: enough fuel, the run returns; `forIn_fuel_short`: too
little, it runs out), or against a specification that recurs on the fuel itself (`forIn_fuelSpec`).

In the first, the machine's states `a : τ` are seen through `enc`; `μ a` = iterations still needed from
`a`, `res a` = what the run from `a` returns; `fin` = the code after the loop (it reports `none` when
the loop did not end by itself). -/

/-- what an iteration that ends the loop makes the function return (`none` if it does not end it) -/
def doneWith {σ ρ : Type} (fin : σ → Option ρ) : Option (ForInStep σ) → Option ρ
  | some (.done s) => fin s
  | _ => none

section fuel
variable {α σ τ ρ : Type} (body : α → σ → Option (ForInStep σ)) (fin : σ → Option ρ)
  (enc : τ → σ) (I : τ → Prop) (μ : τ → Nat) (res : τ → ρ)

/-- enough fuel: the run returns `res` (the loop counter `k` handed to the body plays no part) -/
theorem forIn_fuel_le (hpos : ∀ a, I a → 0 < μ a)
    (hstep : ∀ k a, I a → doneWith fin (body k (enc a)) = some (res a) ∨
      ∃ a', body k (enc a) = some (.yield (enc a')) ∧ I a' ∧ μ a' < μ a ∧ res a' = res a)
    (l : List α) (a : τ) (ha : I a) (hl : μ a ≤ l.length) :
    (forIn l (enc a) body).bind fin = some (res a) := by
  induction l generalizing a with
  | nil => have := hpos a ha; simp at hl; omega
  | cons k l ih =>
    rw [List.forIn_cons]
    rcases hstep k a ha with hd | ⟨a', hb, ha', hμ, hr⟩
    · cases hb : body k (enc a) with
      | none => rw [hb] at hd; cases hd
      | some st =>
        rw [hb] at hd
        cases st with
        | done s' => exact hd
        | yield s' => cases hd
    · rw [hb, ← hr]
      exact ih a' ha' (by simp at hl; omega)

/-- too little fuel, and no step ends the run early: out of fuel.  A state with `μ a ≤ 1` is one whose
next step would end the run; it cannot be reached with fuel left below `μ`. -/
theorem forIn_fuel_short (hfin : ∀ a, I a → fin (enc a) = none)
    (hstep : ∀ k a, I a → μ a ≤ 1 ∨
      ∃ a', body k (enc a) = some (.yield (enc a')) ∧ I a' ∧ μ a ≤ μ a' + 1)
    (l : List α) (a : τ) (ha : I a) (hl : l.length < μ a) :
    (forIn l (enc a) body).bind fin = none := by
  induction l generalizing a with
  | nil => exact hfin a ha
  | cons k l ih =>
    rw [List.forIn_cons]
    rcases hstep k a ha with h1 | ⟨a', hb, ha', hμ⟩
    · simp at hl; omega
    · rw [hb]
      exact ih a' ha' (by simp at hl; omega)

end fuel

/-- A `for { … }` loop run on fuel, against a specification `spec` by recursion on the fuel.  The loop
state is the value returned so far (`none` while the loop runs) and the variables `σ`.  It is enough
to compare ONE iteration with one unfolding of `spec`: the body panics and so does `spec`; the body
returns `r` and so does `spec`; or the body goes on in state `s'` and `spec` recurs on `s'`.  `post` is
the code after the loop, which in the translation returns what the loop returned (`hpost`). -/
theorem forIn_fuelSpec {ρ σ : Type} (body : Nat → Option ρ × σ → Option (ForInStep (Option ρ × σ)))
    (spec : Nat → σ → Option ρ) (post : Option ρ × σ → Option ρ) (hpost : ∀ st, post st = st.1)
    (h0 : ∀ s, spec 0 s = none)
    (hstep : ∀ i o s n,
      match body i (o, s) with
      | none => spec (n + 1) s = none
      | some (.done (some r, _)) => spec (n + 1) s = some r
      | some (.yield (none, s')) => spec (n + 1) s = spec n s'
      | _ => False)
    (l : List Nat) (s : σ) :
    (forIn l ((none, s) : Option ρ × σ) body).bind post = spec l.length s := by
  induction l generalizing s with
  | nil => simp [hpost, h0]
  | cons a l ih =>
    have hs := hstep a none s l.length
    rw [List.forIn_cons, List.length_cons]
    split at hs
    · rename_i hb; rw [hb, hs]; rfl
    · rename_i hb; rw [hb, hs]; simp [hpost]
    · rename_i hb; rw [hb, hs, ← ih]; rfl
    · exact hs.elim

end Bio.GoRt

namespace Bio.GoSrcLemmas
open Bio.GoRt

/-! ## A Go slice used as a stack: the LAST element is the top -/

theorem len_snoc_pos {α : Type} (A : List α) (x : α) : decide (len (A ++ [x]) > 0) = true := by
  simp [len]

theorem len_nil_pos {α : Type} : decide (len ([] : List α) > 0) = false := by
  simp [len]

theorem len_snoc_sub {α : Type} (A : List α) (x : α) : len (A ++ [x]) - 1 = (A.length : Int) := by
  simp [len]

theorem len_snoc2_sub {α : Type} (A : List α) (x y : α) :
    len (A ++ [x] ++ [y]) - 2 = (A.length : Int) := by
  simp [len]

theorem len_snoc2_ne_one {α : Type} (A : List α) (x y : α) : (len (A ++ [x] ++ [y]) == 1) = false := by
  simp [len]; omega

theorem idx_snoc_last {α : Type} (A : List α) (x : α) : idx (A ++ [x]) (A.length : Int) = some x := by
  rw [idx_ofNat]; simp

theorem idx_snoc2 {α : Type} (A : List α) (x y : α) :
    idx (A ++ [x] ++ [y]) (A.length : Int) = some x := by
  rw [idx_ofNat]; simp

theorem setIdx_snoc_last {α : Type} (A : List α) (x v : α) :
    setIdx (A ++ [x]) (A.length : Int) v = some (A ++ [v]) := by
  rw [setIdx_ofNat]; simp

theorem setIdx_snoc2 {α : Type} (A : List α) (x y v : α) :
    setIdx (A ++ [x] ++ [y]) (A.length : Int) v = some (A ++ [v] ++ [y]) := by
  rw [setIdx_ofNat]; simp

theorem slice_snoc {α : Type} (A : List α) (x : α) :
    slice (A ++ [x]) 0 (A.length : Int) = some A := by
  have := slice_ofNat (A ++ [x]) 0 A.length (Nat.zero_le _) (by simp)
  simpa using this

theorem int_beq_natCast (i j : Nat) : ((i : Int) == (j : Int)) = (i == j) := by
  rw [Bool.eq_iff_iff]; simp; omega

theorem int_beq_zero (i : Nat) : ((i : Int) == 0) = (i == 0) := by
  have := int_beq_natCast i 0
  simpa using this

end Bio.GoSrcLemmas

/-
  An executable test that the entries of a list are pairwise distinct, for the kernel to run on the
  regenerated byte-quoting table (`Props/C20Inst`): map every entry to a `Nat` key, sort the keys,
  check that they strictly increase.  `List.Nodup` decided by its instance compares all pairs, and
  core's `mergeSort` is by well-founded recursion, which the kernel does not unfold; the sort below
  recurses on fuel.
-/
namespace Bio.Distinct

/-- Merge; `fuel ≥ xs.length + ys.length` lets it run to the end. -/
def merge : Nat → List Nat → List Nat → List Nat
  | _, [], ys => ys
  | _, xs, [] => xs
  | 0, xs, ys => xs ++ ys
  | n + 1, x :: xs, y :: ys =>
    if x ≤ y then x :: merge n xs (y :: ys) else y :: merge n (x :: xs) ys

/-- Merge sort by halving, to depth `d`.  Soundness only needs that the result is a rearrangement,
so what happens when `d` is too small does not matter. -/
def sort : Nat → List Nat → List Nat
  | d + 1, l@(_ :: _ :: _) =>
    merge l.length (sort d (l.take (l.length / 2))) (sort d (l.drop (l.length / 2)))
  | _, l => l

def increasing : List Nat → Bool
  | x :: y :: r => x < y && increasing (y :: r)
  | _ => true

def distinctNat (l : List Nat) : Bool := increasing (sort l.length l)

theorem merge_perm (n : Nat) (xs ys : List Nat) : (merge n xs ys).Perm (xs ++ ys) := by
  fun_induction merge n xs ys with
  | case1 => exact .refl _
  | case2 => rw [List.append_nil]
  | case3 => exact .refl _
  | case4 n x xs y ys _ ih => exact ih.cons x
  | case5 n x xs y ys _ ih => exact (ih.cons y).trans List.perm_middle.symm

theorem sort_perm (d : Nat) (l : List Nat) : (sort d l).Perm l := by
  fun_induction sort d l with
  | case1 d a b t ih1 ih2 =>
    exact (merge_perm _ _ _).trans ((ih1.append ih2).trans (by rw [List.take_append_drop]))
  | case2 => exact .refl _

theorem pairwise_of_increasing {l : List Nat} (h : increasing l = true) : l.Pairwise (· < ·) := by
  fun_induction increasing l with
  | case1 x y r ih =>
    rw [Bool.and_eq_true, decide_eq_true_eq] at h
    have ih := ih h.2
    refine List.pairwise_cons.2 ⟨?_, ih⟩
    intro z hz
    rcases List.mem_cons.1 hz with rfl | hz
    · exact h.1
    · exact Nat.lt_trans h.1 ((List.pairwise_cons.1 ih).1 z hz)
  | case2 l hl =>
    match l, hl with
    | [], _ => exact .nil
    | [x], _ => exact List.pairwise_singleton _ _
    | x :: y :: r, hl => exact absurd rfl (hl x y r)

/-- Entries with pairwise distinct keys are pairwise distinct, whatever the key function. -/
theorem nodup_of_distinctNat {α : Type} (key : α → Nat) (l : List α)
    (h : distinctNat (l.map key) = true) : l.Nodup :=
  List.Pairwise.of_map key (fun _ _ hne he => hne (congrArg key he)) <|
    (sort_perm _ _).nodup_iff.1 ((pairwise_of_increasing h).imp Nat.ne_of_lt)

end Bio.Distinct

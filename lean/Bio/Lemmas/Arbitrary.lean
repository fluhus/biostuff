/-
  Helper lemmas and specification vocabulary for `Bio/Props/C11Arbitrary.lean`: what the
  FASTQ / SAM / BED / FASTA decoders do on ARBITRARY byte strings.
-/
import Bio.Lemmas.Fastq
import Bio.Lemmas.Fasta
import Bio.Lemmas.Sam
import Bio.Lemmas.Bed

/-! ## FASTQ -/
namespace Bio.Fastq

/-- Record `i` of the output is the `i`-th group of four lines; all earlier items are records. -/
theorem fromLines_ok_lines (e : Ending) (ls : List Bytes) : ∀ (i : Nat) (r : Fq),
    (fromLines e ls)[i]? = some (Item.ok r) →
    (∃ pl, (ls.drop (4 * i)).take 4 = [64 :: r.name, r.seq, 43 :: pl, r.quals]) ∧
    r.seq.length = r.quals.length ∧
    ∀ j < i, ∃ r', (fromLines e ls)[j]? = some (Item.ok r') := by
  induction ls using fromLines_induct e with
  | nil => rw [fromLines_nil]; intro i r hi; cases e <;> cases i <;> simp at hi
  | rec name sq pl ql rest hl h ih =>
    rw [h]; intro i r hi
    cases i with
    | zero =>
      simp only [List.getElem?_cons_zero, Option.some.injEq, Item.ok.injEq] at hi
      subst hi
      exact ⟨⟨pl, by simp⟩, hl.symm, by simp⟩
    | succ i =>
      obtain ⟨⟨pl', h1⟩, h2, h3⟩ := ih i r (by simpa using hi)
      refine ⟨⟨pl', by rw [show 4 * (i + 1) = 4 * i + 4 by omega]; simpa using h1⟩, h2, fun j hj => ?_⟩
      cases j with
      | zero => exact ⟨_, rfl⟩
      | succ j => simpa using h3 j (by omega)
  | bad ls _ h => rw [h]; intro i r hi; cases i <;> simp at hi

theorem fromLines_length_le (e : Ending) (ls : List Bytes) :
    (fromLines e ls).length ≤ ls.length / 4 + 1 := by
  induction ls using fromLines_induct e with
  | nil => rw [fromLines_nil]; cases e <;> simp
  | rec name sq pl ql rest hl h ih => rw [h]; simp only [List.length_cons]; omega
  | bad ls _ h => rw [h]; simp

theorem fromLines_complete (ls : List Bytes) (h : Item.err ∉ fromLines .eof ls) :
    (fromLines .eof ls).length * 4 = ls.length := by
  induction ls using fromLines_induct .eof with
  | nil => rw [fromLines_nil]; rfl
  | rec name sq pl ql rest hl h' ih =>
    rw [h'] at h ⊢
    have := ih (fun hm => h (List.mem_cons_of_mem _ hm))
    simp only [List.length_cons]; omega
  | bad ls _ h' => rw [h'] at h; simp at h

end Bio.Fastq

/-! ## SAM -/
namespace Bio.Sam

/-- The `Reader` item of one record line. -/
def recItem (pf : Bytes → Option Bytes) (l : Bytes) : Item Sam :=
  match parseLine pf (splitOn TAB l) with
  | some s => .ok s
  | none => .err

/-- A line the `Reader` answers with an item: non-empty and not starting with `'@'`. -/
def isRecLine (l : Bytes) : Bool := l ≠ [] && l.head? ≠ some 64

theorem decodeHeader_eq (pf : Bytes → Option Bytes) (x : Bytes) :
    decodeHeader pf x = ((scanLines x).filter (· ≠ [])).map (lineItem pf) := by
  simp [decodeHeader, decodeHeaderSrc, itemsOfLines, textLines, endItems]

theorem dropHeaders_map_lineItem (pf : Bytes → Option Bytes) (ls : List Bytes) :
    dropHeaders (ls.map (lineItem pf)) =
      (ls.filter (fun l => l.head? ≠ some 64)).map (recItem pf) := by
  induction ls with
  | nil => rfl
  | cons l ls ih =>
    by_cases h : l.head? = some 64
    · simp [lineItem_hdr pf h, dropHeaders, ih, h]
    · rw [List.map_cons, lineItem_not_hdr pf h]
      simp only [h, ne_eq, not_false_eq_true, decide_true, List.filter_cons_of_pos, List.map_cons,
        recItem]
      split <;> rename_i heq <;> simp [dropHeaders, ih, heq]

theorem decode_eq_recLines (pf : Bytes → Option Bytes) (x : Bytes) :
    decode pf x = ((scanLines x).filter isRecLine).map (recItem pf) := by
  rw [decode, decodeSrc, ← decodeHeader, decodeHeader_eq, dropHeaders_map_lineItem,
    List.filter_filter]
  congr 1
  apply List.filter_congr
  intro l _
  simp [isRecLine, Bool.and_comm]

theorem hdr_mem (pf : Bytes → Option Bytes) (x : Bytes) (h : Bytes)
    (hm : Item.ok (Entry.hdr h) ∈ decodeHeader pf x) : h ∈ scanLines x ∧ h.head? = some 64 := by
  rw [decodeHeader_eq] at hm
  obtain ⟨l, hl, he⟩ := List.mem_map.mp hm
  have hl' := (List.mem_filter.mp hl).1
  by_cases hh : l.head? = some 64
  · rw [lineItem_hdr pf hh] at he
    cases he
    exact ⟨hl', hh⟩
  · rw [lineItem_not_hdr pf hh] at he
    split at he <;> cases he

end Bio.Sam

/-! ## BED -/
namespace Bio.Bed

/-- The lines the reader parses: not blank, not a `#` comment. -/
def kept (x : Bytes) : List Bytes := (scanLines x).filter (fun l => !isSkipped l)

/-- Field count of a line. -/
def nFields (l : Bytes) : Nat := (splitOn TAB l).length

/-- The record item of a line that parses (nothing otherwise). -/
def lineRec (l : Bytes) : Option (Item Bed) := (parseLine (splitOn TAB l)).map Item.ok

/-- A line the reader accepts when the field count is fixed to `c`. -/
def goodLine (c : Nat) (l : Bytes) : Bool := nFields l == c && (parseLine (splitOn TAB l)).isSome

/-- Items for kept lines `K` under a fixed field count `c`. -/
def itemsFor (c : Nat) (K : List Bytes) : List (Item Bed) :=
  (K.takeWhile (goodLine c)).filterMap lineRec ++
    if (K.takeWhile (goodLine c)).length < K.length then [Item.err] else []

theorem itemsFor_nil (c : Nat) : itemsFor c [] = [] := by simp [itemsFor]

theorem itemsFor_cons_bad (c : Nat) (l : Bytes) (K : List Bytes) (h : goodLine c l = false) :
    itemsFor c (l :: K) = [Item.err] := by
  simp [itemsFor, h]

theorem itemsFor_cons_good (c : Nat) (l : Bytes) (K : List Bytes) (b : Bed)
    (h : goodLine c l = true) (hp : parseLine (splitOn TAB l) = some b) :
    itemsFor c (l :: K) = Item.ok b :: itemsFor c K := by
  simp [itemsFor, h, lineRec, hp]

theorem fromLines_some (c : Nat) (ls : List Bytes) :
    fromLines .eof (some c) ls = itemsFor c (ls.filter (fun l => !isSkipped l)) := by
  induction ls with
  | nil => simp [fromLines, endItems, itemsFor_nil]
  | cons l ls ih =>
    rw [fromLines]
    by_cases hs : isSkipped l = true
    · simp [hs, ih]
    · simp only [hs, Bool.false_eq_true, ↓reduceIte, Bool.not_false, List.filter_cons_of_pos]
      by_cases hc : (splitOn TAB l).length = c
      · cases hp : parseLine (splitOn TAB l) with
        | none =>
          rw [itemsFor_cons_bad _ _ _ (by simp [goodLine, hp])]
          simp [hc]
        | some b =>
          rw [itemsFor_cons_good _ _ _ b (by simp [goodLine, nFields, hc, hp]) hp]
          simp [hc, ih]
      · rw [itemsFor_cons_bad _ _ _ (by simp [goodLine, nFields, hc])]
        have : (some c != some (splitOn TAB l).length) = true := by
          simp [bne_iff_ne]; exact fun e => hc e.symm
        simp [this]

theorem fromLines_none (ls : List Bytes) :
    fromLines .eof none ls =
      itemsFor (nFields ((ls.filter (fun l => !isSkipped l)).head?.getD []))
        (ls.filter (fun l => !isSkipped l)) := by
  induction ls with
  | nil => simp [fromLines, endItems, itemsFor_nil]
  | cons l ls ih =>
    rw [fromLines]
    by_cases hs : isSkipped l = true
    · simp [hs, ih]
    · simp only [hs, Bool.false_eq_true, ↓reduceIte, Bool.not_false, List.filter_cons_of_pos,
        List.head?_cons, Option.getD_some]
      cases hp : parseLine (splitOn TAB l) with
      | none =>
        rw [itemsFor_cons_bad _ _ _ (by simp [goodLine, hp])]
        simp
      | some b =>
        rw [itemsFor_cons_good _ _ _ b (by simp [goodLine, hp]) hp]
        simp [fromLines_some, nFields]


theorem takeWhile_eq_take_length {α : Type} (p : α → Bool) (l : List α) :
    l.takeWhile p = l.take (l.takeWhile p).length :=
  List.prefix_iff_eq_take.1 (List.takeWhile_prefix p)

theorem mem_takeWhile_true {α : Type} (p : α → Bool) (l : List α) (a : α)
    (h : a ∈ l.takeWhile p) : p a = true := by
  induction l with
  | nil => simp at h
  | cons b l ih =>
    by_cases hb : p b = true
    · simp [hb] at h
      rcases h with rfl | h
      · exact hb
      · exact ih h
    · simp [hb] at h

theorem takeWhile_next_false {α : Type} (p : α → Bool) (l : List α) (a : α)
    (h : l[(l.takeWhile p).length]? = some a) : p a = false := by
  induction l with
  | nil => simp at h
  | cons b l ih =>
    by_cases hb : p b = true
    · simp [hb] at h; exact ih h
    · simp [hb] at h; subst h; simpa using hb

theorem itemsFor_spec (c : Nat) (K : List Bytes) :
    ∃ n, n ≤ K.length ∧
      itemsFor c K = (K.take n).filterMap lineRec ++ (if n < K.length then [Item.err] else []) ∧
      (∀ l ∈ K.take n, goodLine c l = true) ∧
      (∀ l, K[n]? = some l → goodLine c l = false) := by
  refine ⟨(K.takeWhile (goodLine c)).length, (List.takeWhile_sublist _).length_le, ?_, ?_, ?_⟩
  · rw [← takeWhile_eq_take_length]; rfl
  · rw [← takeWhile_eq_take_length]
    intro l hl
    exact mem_takeWhile_true _ _ _ hl
  · intro l hl
    exact takeWhile_next_false _ _ _ hl

theorem goodLine_lineRec_isSome {c : Nat} {l : Bytes} (h : goodLine c l = true) :
    (lineRec l).isSome = true := by
  simp only [goodLine, Bool.and_eq_true] at h
  simp [lineRec, h.2]

theorem decode_eq_itemsFor (x : Bytes) :
    decode x = itemsFor (nFields ((kept x).head?.getD [])) (kept x) := by
  simp only [decode, decodeSrc, textLines, kept]
  exact fromLines_none _

end Bio.Bed

/-! ## FASTA -/
namespace Bio.Fasta

/-- All name and sequence bytes of the delivered records, in order. -/
def payload : List (Item Fa) → Bytes
  | [] => []
  | .ok r :: rest => r.name ++ r.seq ++ payload rest
  | .err :: rest => payload rest

/-- The input without its line-break bytes and without the `'>'` bytes that stand at the start
of the input or directly after a line break.  `atLineStart` = nothing but line breaks since the
beginning of the input / the last line break. -/
def stripAux (atLineStart : Bool) : Bytes → Bytes
  | [] => []
  | b :: rest =>
    if isNL b then stripAux true rest
    else if atLineStart && b == 62 then stripAux false rest
    else b :: stripAux false rest

def strip (x : Bytes) : Bytes := stripAux true x

/-- Number of `'>'` bytes that directly follow a line-break byte. -/
def gtAfterNL : Bytes → Nat
  | a :: b :: rest => (if isNL a && b == 62 then 1 else 0) + gtAfterNL (b :: rest)
  | _ => 0

@[simp] theorem beq_newline_newline : (St.newline == St.newline) = true := by decide
@[simp] theorem beq_name_newline : (St.name == St.newline) = false := by decide
@[simp] theorem beq_seq_newline : (St.seq == St.newline) = false := by decide

theorem loop_name_nil (st : St) (y : Bytes) (h : st ≠ .name) : (loop st y).1 = [] := by
  induction st, y using loop_ind with
  | nil st => rfl
  | gt b rest => rfl
  | nl st b rest _ ih => exact ih (by simp)
  | seq b rest _ ih => exact ih h
  | name b rest => exact absurd rfl h
  | other b rest _ _ ih => exact ih (by simp)

theorem gt_not_isNL {b : UInt8} (h : (b == 62) = true) : isNL b = false := by
  rw [eq_of_beq h]; rfl

theorem isNL_not_gt {b : UInt8} (h : isNL b = true) : (b == 62) = false :=
  Bool.eq_false_iff.mpr fun hb => by rw [gt_not_isNL hb] at h; cases h

theorem startState_beq (b : UInt8) : (startState b == .newline) = isNL b := by
  unfold startState
  by_cases h : (b == 62) = true
  · rw [if_pos h, gt_not_isNL h]; rfl
  · rw [if_neg h]; cases hn : isNL b <;> simp

/-- What `loop` collects, and what is collected from the rest it leaves, is the input without line
breaks and record-introducing `'>'`. -/
theorem loop_strip (st : St) (y : Bytes) :
    (loop st y).1 ++ (loop st y).2.1 ++ stripAux true (loop st y).2.2 =
      stripAux (st == .newline) y := by
  induction st, y using loop_ind with
  | nil st => rfl
  | gt b rest => rfl
  | nl st b rest hnl ih => simpa [stripAux, hnl] using ih
  | seq b rest hnl ih => simpa [stripAux, hnl, loop_name_nil .seq rest (by simp)] using ih
  | name b rest hnl ih => simpa [stripAux, hnl] using ih
  | other b rest hnl hb ih => simpa [stripAux, hnl, hb, loop_name_nil .seq rest (by simp)] using ih

theorem readOne_strip (b : UInt8) (rest : Bytes) :
    (readOne b rest).1.name ++ (readOne b rest).1.seq ++ stripAux true (readOne b rest).2 =
      stripAux true (b :: rest) := by
  have hl := loop_strip (startState b) rest
  rw [startState_beq] at hl
  simp only [readOne, startSeq, startState] at hl ⊢
  by_cases hb : (b == 62) = true
  · simpa [stripAux, hb, gt_not_isNL hb] using hl
  · cases hnl : isNL b with
    | true => simpa [stripAux, hb, hnl] using hl
    | false => simpa [stripAux, hb, hnl, loop_name_nil .seq rest (by simp)] using hl

theorem payload_decodeSrc (x : Bytes) : payload (decodeSrc .eof x) = stripAux true x := by
  induction x using decodeSrc_ind .eof with
  | empty => rfl
  | last b rest h => simpa [payload, h, stripAux] using readOne_strip b rest
  | more b rest _ ih => rw [payload, ih]; exact readOne_strip b rest

/-- State-machine form of `gtAfterNL`. -/
def cntAux (afterNL : Bool) : Bytes → Nat
  | [] => 0
  | b :: rest => (if afterNL && b == 62 then 1 else 0) + cntAux (isNL b) rest

theorem gtAfterNL_cons (a : UInt8) (y : Bytes) : gtAfterNL (a :: y) = cntAux (isNL a) y := by
  induction y generalizing a with
  | nil => simp [gtAfterNL, cntAux]
  | cons b rest ih => simp [gtAfterNL, cntAux, ih]

/-- Records still to come when the unread rest is `r`. -/
def nRec (r : Bytes) : Nat := if r = [] then 0 else 1 + gtAfterNL r

theorem nRec_cons (b : UInt8) (rest : Bytes) : nRec (b :: rest) = 1 + cntAux (isNL b) rest := by
  simp [nRec, gtAfterNL_cons]

/-- The records counted in what `loop` leaves are the `'>'` at a line start of its whole input. -/
theorem loop_cnt (st : St) (y : Bytes) :
    nRec (loop st y).2.2 = cntAux (st == .newline) y := by
  induction st, y using loop_ind with
  | nil st => rfl
  | gt b rest hnl hb => simp [nRec_cons, cntAux, hb]
  | nl st b rest hnl ih =>
    simpa [cntAux, hnl, isNL_not_gt hnl] using ih
  | seq b rest hnl ih => simpa [cntAux, hnl] using ih
  | name b rest hnl ih => simpa [cntAux, hnl] using ih
  | other b rest hnl hb ih => simpa [cntAux, hnl, hb] using ih

theorem decodeSrc_length (x : Bytes) : (decodeSrc .eof x).length = nRec x := by
  induction x using decodeSrc_ind .eof with
  | empty => rfl
  | last b rest h =>
    have := loop_cnt (startState b) rest
    rw [startState_beq, show (loop (startState b) rest).2.2 = [] from h] at this
    rw [nRec_cons, ← this]; rfl
  | more b rest _ ih =>
    have := loop_cnt (startState b) rest
    rw [startState_beq] at this
    rw [List.length_cons, ih, nRec_cons, ← this, Nat.add_comm]; rfl

theorem gtAfterNL_lt (x : Bytes) (h : x ≠ []) : gtAfterNL x < x.length := by
  induction x with
  | nil => exact absurd rfl h
  | cons a y ih =>
    cases y with
    | nil => simp [gtAfterNL]
    | cons b rest =>
      have := ih (by simp)
      simp only [gtAfterNL, List.length_cons] at this ⊢
      split <;> omega

end Bio.Fasta

namespace Bio.Fasta

theorem stripAux_sublist (a : Bool) (y : Bytes) : (stripAux a y).Sublist y := by
  induction y generalizing a with
  | nil => simp [stripAux]
  | cons b rest ih =>
    simp only [stripAux]
    split
    · exact (ih _).cons _
    · split
      · exact (ih _).cons _
      · exact (ih _).cons_cons _

theorem stripAux_length (a : Bool) (y : Bytes) :
    (stripAux a y).length + (y.filter isNL).length + cntAux a y = y.length := by
  fun_induction stripAux a y with
  | case1 => rfl
  | case2 a b rest hnl ih =>
    simp only [cntAux, hnl, isNL_not_gt hnl, List.filter_cons_of_pos, List.length_cons, Bool.and_false,
      Bool.false_eq_true, if_false]
    omega
  | case3 a b rest hnl h62 ih =>
    simp only [cntAux, h62, if_true, List.filter_cons, hnl, List.length_cons, Bool.false_eq_true, if_false]
    omega
  | case4 a b rest hnl h62 ih =>
    simp only [cntAux, h62, if_false, List.filter_cons, hnl, List.length_cons, Bool.false_eq_true]
    omega
theorem cntAux_true (x : Bytes) :
    cntAux true x = (if x.head? = some 62 then 1 else 0) + gtAfterNL x := by
  cases x with
  | nil => simp [cntAux, gtAfterNL]
  | cons b rest => simp [cntAux, gtAfterNL_cons]

end Bio.Fasta

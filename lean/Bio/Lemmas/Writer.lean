/-
  Failing writers.  `runWriter` is the model side (C07): a byte budget.  `wrWriteAll` is the same thing
  on the abstract `io.Writer` of the translated Go (`GoRt.Wr`, one `fmt.Fprintf` = one `wrWrite`).
  `Runs K calls` says that a piece of translated code `K` is "perform `calls` in order, return the
  first error"; the lemmas below build that fact for a whole `Write` method from its statements, last
  statement first, because that is how the `do` translation nests them (each statement's continuation
  is a `have __do_jp`).
-/
import Bio.Model.GoRt
namespace Bio

/-- Process the `Write` calls in order against a byte budget `k`.  A call that fits is
accepted whole; the first call that does not fit is accepted partially (the remaining
budget) and returns an error, after which no further call is made.  Result: the bytes
accepted and `true` iff every call returned `nil`. -/
def runWriter : Nat → List Bytes → Bytes × Bool
  | _, [] => ([], true)
  | k, c :: cs =>
    if c.length ≤ k then ((c ++ (runWriter (k - c.length) cs).1), (runWriter (k - c.length) cs).2)
    else (c.take k, false)

theorem runWriter_ok_iff (k : Nat) (calls : List Bytes) :
    (runWriter k calls).2 = true ↔ calls.flatten.length ≤ k := by
  induction calls generalizing k with
  | nil => simp [runWriter]
  | cons c cs ih =>
    rw [runWriter]
    split
    · simp only [List.flatten_cons, List.length_append, ih]; omega
    · simp only [List.flatten_cons, List.length_append, Bool.false_eq_true, false_iff]; omega

theorem runWriter_bytes (k : Nat) (calls : List Bytes) :
    (runWriter k calls).1 = calls.flatten.take k := by
  induction calls generalizing k with
  | nil => simp [runWriter]
  | cons c cs ih =>
    rw [runWriter]
    split
    · rename_i h
      rw [List.flatten_cons, ih, List.take_append, List.take_of_length_le h]
    · rw [List.flatten_cons, List.take_append_of_le_length (by omega)]

end Bio

namespace Bio.GoSrcLemmas
open Bio Bio.GoRt

/-- perform the `Write` calls in order on the abstract writer, stopping at the first error -/
def wrWriteAll : Wr → List Bytes → Wr × GoErr
  | w, [] => (w, GoErr.nil)
  | w, c :: cs => if (wrWrite w c).2 = GoErr.nil then wrWriteAll (wrWrite w c).1 cs else wrWrite w c

theorem wrWriteAll_runWriter' (k : Nat) (o : Bytes) (calls : List Bytes) :
    wrWriteAll ⟨k, o⟩ calls
      = (⟨k - (runWriter k calls).1.length, o ++ (runWriter k calls).1⟩,
         if (runWriter k calls).2 then GoErr.nil else GoErr.other) := by
  induction calls generalizing k o with
  | nil => simp [wrWriteAll, runWriter]
  | cons c cs ih =>
    rw [wrWriteAll, runWriter]
    by_cases h : c.length ≤ k
    · simp only [wrWrite, h, if_true, ih, List.length_append, List.append_assoc]
      congr 2
      omega
    · have hk : k ≤ c.length := by omega
      simp [wrWrite, h, List.length_take, Nat.min_eq_left hk]

theorem wrWriteAll_runWriter (k : Nat) (calls : List Bytes) :
    wrWriteAll ⟨k, []⟩ calls
      = (⟨k - (runWriter k calls).1.length, (runWriter k calls).1⟩,
         if (runWriter k calls).2 then GoErr.nil else GoErr.other) := by
  simpa using wrWriteAll_runWriter' k [] calls

theorem wrWriteAll_singleton (w : Wr) (c : Bytes) : wrWriteAll w [c] = wrWrite w c := by
  simp only [wrWriteAll]
  split
  · rename_i h; exact Prod.ext rfl h.symm
  · rfl

theorem wrWriteAll_append (w : Wr) (a b : List Bytes) :
    wrWriteAll w (a ++ b) = if (wrWriteAll w a).2 = GoErr.nil then wrWriteAll (wrWriteAll w a).1 b else wrWriteAll w a := by
  induction a generalizing w with
  | nil => simp [wrWriteAll]
  | cons c cs ih =>
    simp only [List.cons_append, wrWriteAll]
    by_cases h : (wrWrite w c).2 = GoErr.nil
    · simp only [h, if_true, ih]
    · simp [h]

/-- on a writer that accepts `k` more bytes: the first `k` bytes of the text, an error iff the text is longer -/
theorem wrWriteAll_take (k : Nat) (o : Bytes) (calls : List Bytes) :
    wrWriteAll ⟨k, o⟩ calls
      = (⟨k - (calls.flatten.take k).length, o ++ calls.flatten.take k⟩,
         if calls.flatten.length ≤ k then GoErr.nil else GoErr.other) := by
  rw [wrWriteAll_runWriter', runWriter_bytes]
  congr 1
  by_cases h : calls.flatten.length ≤ k
  · simp only [(runWriter_ok_iff k calls).2 h, h, ↓reduceIte]
  · have : (runWriter k calls).2 = false := by
      cases hb : (runWriter k calls).2
      · rfl
      · exact absurd ((runWriter_ok_iff k calls).1 hb) h
    simp only [this, h, ↓reduceIte, Bool.false_eq_true]

/-! ## Translated code that writes -/

/-- the rest of a `Write` method, as a function of the writer it starts with -/
abbrev WrK := Wr → Option (GoErr × Wr)

/-- `K` performs `calls` in order on the writer it is given, stops at the first error and returns it;
it never panics -/
def Runs (K : WrK) (calls : List Bytes) : Prop :=
  ∀ w, K w = some ((wrWriteAll w calls).2, (wrWriteAll w calls).1)

/-- the state of a translated loop with a `return err` in its body: the value returned, if any, and
the writer -/
abbrev WrSt := Option (GoErr × Wr) × Wr

/-- How a translated loop with an early `return` ends.  Polymorphic so that the `match` is compiled
to the very matcher the `do` translation uses; with a matcher of its own the lemmas below would not
unify with the translated code. -/
def orElse {ρ σ : Type} (s : Option ρ × σ) (K : σ → Option ρ) : Option ρ :=
  match s.1 with
  | some r => pure r
  | none => K s.2

/-- what the body of such a loop does with the result of its one `Fprintf` -/
def wrStep (r : Wr × GoErr) : ForInStep WrSt :=
  if r.2 = GoErr.nil then .yield (none, r.1) else .done (some (r.2, r.1), r.1)

theorem wrStep_eq (r : Wr × GoErr) :
    (match r with
      | (w', err) =>
        if (err != GoErr.nil) = true then pure (ForInStep.done (some (err, w'), w'))
        else pure (ForInStep.yield ((none : Option (GoErr × Wr)), w'))) = some (wrStep r) := by
  by_cases h : r.2 = GoErr.nil <;> simp [wrStep, h]

theorem Runs.nil : Runs (fun w => pure (GoErr.nil, w)) [] := fun _ => rfl

/-- `if _, err := fmt.Fprintf(w, p); err != nil { return err }`, then `K` -/
theorem Runs.cons {K : WrK} {calls : List Bytes} (p : Bytes) (h : Runs K calls) :
    Runs (fun w => match wrWrite w p with
      | (w', err) => if (err != GoErr.nil) = true then pure (err, w') else K w') (p :: calls) := by
  intro w
  simp only [wrWriteAll]
  by_cases he : (wrWrite w p).2 = GoErr.nil
  · simp [he, h _]
  · simp [he]

/-- `if c { Fprintf(pre…); … return }` in front of code that makes the calls `calls` either way. -/
theorem Runs.when {K₁ K : WrK} {pre calls : List Bytes} (c : Prop) [Decidable c]
    (h₁ : Runs K₁ (pre ++ calls)) (h : Runs K calls) :
    Runs (fun w => if c then K₁ w else K w) ((if c then pre else []) ++ calls) := by
  by_cases hc : c
  · simpa [hc] using h₁
  · simpa [hc] using h

/-- `if c { if _, err := fmt.Fprintf(w, p); err != nil { return err } }`, then `K` -/
theorem Runs.guard {K : WrK} {calls : List Bytes} (c : Prop) [Decidable c] (p : Bytes) (h : Runs K calls) :
    Runs (fun w => if c then (match wrWrite w p with
      | (w', err) => if (err != GoErr.nil) = true then pure (err, w') else K w') else K w)
      ((if c then [p] else []) ++ calls) :=
  .when c (.cons p h) h

/-- `for _, x := range xs { if _, err := fmt.Fprintf(w, call x); err != nil { return err } }`, then `K` -/
theorem Runs.loop {α : Type} {K : WrK} {calls : List Bytes} (xs : List α) (call : α → Bytes)
    (body : α → WrSt → Option (ForInStep WrSt))
    (hbody : ∀ x, x ∈ xs → ∀ o w, body x (o, w) = some (wrStep (wrWrite w (call x)))) (h : Runs K calls) :
    Runs (fun w => (forIn xs ((none, w) : WrSt) body).bind fun s => orElse s K) (xs.map call ++ calls) := by
  induction xs with
  | nil => intro w; simpa [orElse] using h w
  | cons x xs ih =>
    intro w
    have ih := ih (fun y hy => hbody y (List.mem_cons_of_mem x hy)) (wrWrite w (call x)).1
    simp only [List.forIn_cons, hbody x List.mem_cons_self, wrStep, List.map_cons, List.cons_append, wrWriteAll]
    by_cases hw : (wrWrite w (call x)).2 = GoErr.nil
    · simpa [hw] using ih
    · simp [hw, orElse]

theorem Runs.congr {K K' : WrK} {calls : List Bytes} (h : Runs K calls) (e : ∀ w, K' w = K w) :
    Runs K' calls := fun w => (e w).trans (h w)

theorem Runs.of_eq {K : WrK} {calls calls' : List Bytes} (h : Runs K calls) (e : calls' = calls) :
    Runs K calls' := e ▸ h

end Bio.GoSrcLemmas

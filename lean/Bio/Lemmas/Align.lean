/-
  Facts about the alignment model (`Bio/Model/Align.lean`).  What is said about a table goes through
  the four recurrences `cellAt_*` and their normal form `cell_cases`; what is said about `rescore` goes
  through the relation `Aligns`.
-/
import Bio.Model.Align

namespace Bio.Align.Opt

/-- Row `i` of a table (empty out of range): what `cellAt` reads its cell from. -/
def rowAt (t : List (List Cell)) (i : Nat) : List Cell := (t[i]?).getD []

theorem cellAt_eq (t : List (List Cell)) (i j : Nat) :
    cellAt t i j = ((rowAt t i)[j]?).getD ⟨0, .none⟩ := rfl

end Bio.Align.Opt

namespace Bio.Align
open Opt (rowAt cellAt_eq)

/-- Gap-open is charged when a gap step of kind `kind` follows a step `prev` of another kind; the model
(`rowAux`, `rescore`) spells this `if` out. -/
def openIf (m : Mat) (prev kind : Step) : Int := if prev != kind then m GAP GAP else 0

theorem row0Aux_length (m : Mat) (loc : Bool) (b : Bytes) :
    ∀ prev first, (row0Aux m loc prev first b).length = b.length := by
  induction b with
  | nil => intros; rfl
  | cons y ys ih => intro prev first; simp [row0Aux, ih]

theorem row0_length (m : Mat) (loc : Bool) (b : Bytes) : (row0 m loc b).length = b.length + 1 := by
  simp [row0, row0Aux_length]

theorem row0_zero (m : Mat) (loc : Bool) (b : Bytes) : (row0 m loc b)[0]? = some ⟨0, .none⟩ := by
  simp [row0]

theorem rowAux_length (m : Mat) (loc : Bool) (x : UInt8) :
    ∀ (ys : Bytes) (left diag : Cell) (ups : List Cell), ups.length = ys.length →
      (rowAux m loc x left diag ups ys).length = ys.length := by
  intro ys
  induction ys with
  | nil => intro left diag ups h; cases ups <;> simp [rowAux]
  | cons y ys ih =>
    intro left diag ups h
    cases ups with
    | nil => simp at h
    | cons up ups =>
      simp only [rowAux, List.length_cons]
      rw [ih]; simpa using h

theorem nextRow_length (m : Mat) (loc : Bool) (x : UInt8) (first : Bool) (prev : List Cell)
    (b : Bytes) (h : prev.length = b.length + 1) :
    (nextRow m loc x first prev b).length = b.length + 1 := by
  cases prev with
  | nil => simp at h
  | cons up0 ups =>
    simp only [nextRow, List.length_cons]
    rw [rowAux_length]; simpa using h

/-- Stated for `c :: row0Aux … c.score …` so that the cell to the left of the first one is in the list. -/
theorem row0Aux_get (m : Mat) (loc : Bool) :
    ∀ (ys : Bytes) (c : Cell) (first : Bool) (j : Nat) (hj : j < ys.length),
      ((c :: row0Aux m loc c.score first ys)[j + 1]?).getD ⟨0, .none⟩ =
        clamp loc ⟨(((c :: row0Aux m loc c.score first ys)[j]?).getD ⟨0, .none⟩).score
          + m GAP ys[j] + (if j = 0 then (if first then m GAP GAP else 0) else 0), .ins⟩ := by
  intro ys
  induction ys with
  | nil => intro c first j hj; simp at hj
  | cons y ys ih =>
    intro c first j hj
    cases j with
    | zero => rfl
    | succ j =>
      have := ih (clamp loc ⟨c.score + m GAP y + (if first then m GAP GAP else 0), .ins⟩) false j
        (by simpa using hj)
      simp only [row0Aux, List.getElem?_cons_succ] at this ⊢
      rw [this]
      simp

/-- Stated for `left :: rowAux …` and `diag :: ups` for the same reason; `rowAux` stops when `ups` runs out,
hence `_hu`. -/
theorem rowAux_get (m : Mat) (loc : Bool) (x : UInt8) :
    ∀ (ys : Bytes) (left diag : Cell) (ups : List Cell) (j : Nat) (hj : j < ys.length)
      (_hu : ups.length = ys.length),
      ((left :: rowAux m loc x left diag ups ys)[j + 1]?).getD ⟨0, .none⟩ =
        clamp loc (decideOnStep
          ((((diag :: ups)[j]?).getD ⟨0, .none⟩).score + m x ys[j])
          ((((diag :: ups)[j + 1]?).getD ⟨0, .none⟩).score + m x GAP +
            openIf m (((diag :: ups)[j + 1]?).getD ⟨0, .none⟩).step .del)
          ((((left :: rowAux m loc x left diag ups ys)[j]?).getD ⟨0, .none⟩).score + m GAP ys[j] +
            openIf m (((left :: rowAux m loc x left diag ups ys)[j]?).getD ⟨0, .none⟩).step .ins)) := by
  intro ys
  induction ys with
  | nil => intro left diag ups j hj; simp at hj
  | cons y ys ih =>
    intro left diag ups j hj hu
    cases ups with
    | nil => simp at hu
    | cons up ups =>
      cases j with
      | zero => rfl
      | succ j =>
        have := ih (clamp loc (decideOnStep (diag.score + m x y)
            (up.score + m x GAP + (if up.step != .del then m GAP GAP else 0))
            (left.score + m GAP y + (if left.step != .ins then m GAP GAP else 0)))) up ups j
          (by simpa using hj) (by simpa using hu)
        simp only [rowAux, List.getElem?_cons_succ] at this ⊢
        rw [this]
        simp


theorem tableAux_row (m : Mat) (loc : Bool) (b : Bytes) :
    ∀ (xs : Bytes) (prev : List Cell) (first : Bool) (k : Nat) (hk : k < xs.length),
      rowAt (prev :: tableAux m loc b prev first xs) (k + 1) =
        nextRow m loc xs[k] (if k = 0 then first else false)
          (rowAt (prev :: tableAux m loc b prev first xs) k) b := by
  intro xs
  induction xs with
  | nil => intro prev first k hk; simp at hk
  | cons x xs ih =>
    intro prev first k hk
    cases k with
    | zero => rfl
    | succ k =>
      have := ih (nextRow m loc x first prev b) false k (by simpa using hk)
      simp only [rowAt, tableAux, List.getElem?_cons_succ] at this ⊢
      rw [this]
      simp

theorem rowAt_zero (m : Mat) (loc : Bool) (a b : Bytes) :
    rowAt (table m loc a b) 0 = row0 m loc b := by
  simp [rowAt, table]

theorem rowAt_succ (m : Mat) (loc : Bool) (a b : Bytes) (i : Nat) (hi : i < a.length) :
    rowAt (table m loc a b) (i + 1) =
      nextRow m loc a[i] (decide (i = 0)) (rowAt (table m loc a b) i) b := by
  have := tableAux_row m loc b a (row0 m loc b) true i hi
  simp only [table]
  rw [this]
  by_cases h : i = 0 <;> simp [h]

theorem rowAt_length (m : Mat) (loc : Bool) (a b : Bytes) :
    ∀ i, i ≤ a.length → (rowAt (table m loc a b) i).length = b.length + 1 := by
  intro i
  induction i with
  | zero => intro _; rw [rowAt_zero, row0_length]
  | succ i ih =>
    intro hi
    rw [rowAt_succ m loc a b i hi]
    exact nextRow_length _ _ _ _ _ _ (ih (Nat.le_of_succ_le hi))

theorem cellAt_zero_zero (m : Mat) (loc : Bool) (a b : Bytes) :
    cellAt (table m loc a b) 0 0 = ⟨0, .none⟩ := by
  rw [cellAt_eq, rowAt_zero, row0_zero]; rfl

theorem cellAt_zero_succ (m : Mat) (loc : Bool) (a b : Bytes) (j : Nat) (hj : j < b.length) :
    cellAt (table m loc a b) 0 (j + 1) =
      clamp loc ⟨(cellAt (table m loc a b) 0 j).score + m GAP b[j] +
        (if j = 0 then m GAP GAP else 0), .ins⟩ := by
  simp only [cellAt_eq, rowAt_zero, row0]
  have := row0Aux_get m loc b ⟨0, .none⟩ true j hj
  simp only at this
  rw [this]; simp

theorem cellAt_succ_zero (m : Mat) (loc : Bool) (a b : Bytes) (i : Nat) (hi : i < a.length) :
    cellAt (table m loc a b) (i + 1) 0 =
      clamp loc ⟨(cellAt (table m loc a b) i 0).score + m a[i] GAP +
        (if i = 0 then m GAP GAP else 0), .del⟩ := by
  simp only [cellAt_eq]
  rw [rowAt_succ m loc a b i hi]
  have hl := rowAt_length m loc a b i (Nat.le_of_lt hi)
  generalize rowAt (table m loc a b) i = prev at hl
  cases prev with
  | nil => simp at hl
  | cons up0 ups => by_cases h : i = 0 <;> simp [nextRow, h]

theorem cellAt_succ_succ (m : Mat) (loc : Bool) (a b : Bytes) (i j : Nat)
    (hi : i < a.length) (hj : j < b.length) :
    cellAt (table m loc a b) (i + 1) (j + 1) =
      clamp loc (decideOnStep
        ((cellAt (table m loc a b) i j).score + m a[i] b[j])
        ((cellAt (table m loc a b) i (j + 1)).score + m a[i] GAP +
          openIf m (cellAt (table m loc a b) i (j + 1)).step .del)
        ((cellAt (table m loc a b) (i + 1) j).score + m GAP b[j] +
          openIf m (cellAt (table m loc a b) (i + 1) j).step .ins)) := by
  have hl := rowAt_length m loc a b i (Nat.le_of_lt hi)
  obtain ⟨up0, ups, hp⟩ : ∃ up0 ups, rowAt (table m loc a b) i = up0 :: ups := by
    cases h : rowAt (table m loc a b) i with
    | nil => simp [h] at hl
    | cons up0 ups => exact ⟨_, _, rfl⟩
  have hu : ups.length = b.length := by simpa [hp] using hl
  simp only [cellAt_eq, rowAt_succ m loc a b i hi, hp, nextRow]
  exact rowAux_get m loc a[i] b _ up0 ups j hj hu

theorem table_length (m : Mat) (loc : Bool) (a b : Bytes) :
    (table m loc a b).length = a.length + 1 := by
  have : ∀ (xs : Bytes) prev first, (tableAux m loc b prev first xs).length = xs.length := by
    intro xs
    induction xs with
    | nil => intros; rfl
    | cons x xs ih => intros; simp [tableAux, ih]
  simp [table, this]

theorem table_row_length (m : Mat) (loc : Bool) (a b : Bytes) :
    ∀ r ∈ table m loc a b, r.length = b.length + 1 := by
  intro r hr
  obtain ⟨i, hi, rfl⟩ := List.mem_iff_getElem.1 hr
  have := rowAt_length m loc a b i (by rw [table_length] at hi; omega)
  simpa [rowAt, hi] using this

/-- In range `cellAt` is the `j`-th entry of the `i`-th row, not its default. -/
theorem cellAt_spec (m : Mat) (loc : Bool) (a b : Bytes) (i j : Nat) (hi : i ≤ a.length)
    (hj : j ≤ b.length) :
    ∃ r, (table m loc a b)[i]? = some r ∧ r[j]? = some (cellAt (table m loc a b) i j) := by
  have hlt : i < (table m loc a b).length := by rw [table_length]; omega
  have hl := table_row_length m loc a b _ (List.getElem_mem hlt)
  refine ⟨_, List.getElem?_eq_getElem hlt, ?_⟩
  simp [cellAt, hlt, List.getElem?_eq_getElem (show j < (table m loc a b)[i].length by omega)]

theorem cellAt_of_getElem? (t : List (List Cell)) (i j : Nat) (row : List Cell) (c : Cell)
    (hi : t[i]? = some row) (hj : row[j]? = some c) : cellAt t i j = c := by
  simp [cellAt, hi, hj]

theorem eq_decideOnStep {x y z : Int} {c : Cell} (h : c = decideOnStep x y z) :
    c = ⟨x, .mch⟩ ∨ c = ⟨y, .del⟩ ∨ c = ⟨z, .ins⟩ := by
  unfold decideOnStep at h
  split at h
  · exact Or.inl h
  · split at h
    · exact Or.inr (Or.inl h)
    · exact Or.inr (Or.inr h)

theorem decideOnStep_ge (x y z : Int) :
    x ≤ (decideOnStep x y z).score ∧ y ≤ (decideOnStep x y z).score ∧
      z ≤ (decideOnStep x y z).score := by
  unfold decideOnStep; split
  · simp; omega
  · split <;> simp <;> omega

@[simp] theorem clamp_false (c : Cell) : clamp false c = c := by simp [clamp]

theorem clamp_true (c : Cell) : clamp true c = if c.score < 0 then ⟨0, .none⟩ else c := by
  simp [clamp]

theorem eq_clamp {loc : Bool} {c d : Cell} (h : d = clamp loc c) :
    d = c ∨ loc = true ∧ d = ⟨0, .none⟩ := by
  cases loc
  · exact Or.inl h
  · rw [clamp_true] at h; split at h
    · exact Or.inr ⟨rfl, h⟩
    · exact Or.inl h

theorem clamp_ge (loc : Bool) (c : Cell) : c.score ≤ (clamp loc c).score := by
  cases loc
  · rw [clamp_false]; exact Int.le_refl _
  · rw [clamp_true]; split
    · exact Int.le_of_lt ‹_›
    · exact Int.le_refl _

theorem clamp_true_nonneg (c : Cell) : 0 ≤ (clamp true c).score := by
  rw [clamp_true]; split
  · exact Int.le_refl _
  · omega

theorem clamp_true_of_nonpos (c : Cell) (h : c.score ≤ 0) : (clamp true c).score = 0 := by
  rw [clamp_true]; split
  · rfl
  · omega

/-- In the global table the border cells, too, charge gap-open by their neighbour's stored step. -/
theorem border_open_ins (m : Mat) (a b : Bytes) (j : Nat) (hj : j ≤ b.length) :
    (if j = 0 then m GAP GAP else 0) = openIf m (cellAt (table m false a b) 0 j).step .ins := by
  cases j with
  | zero => rw [cellAt_zero_zero]; rfl
  | succ j => rw [cellAt_zero_succ m false a b j hj, clamp_false]; rfl

theorem border_open_del (m : Mat) (a b : Bytes) (i : Nat) (hi : i ≤ a.length) :
    (if i = 0 then m GAP GAP else 0) = openIf m (cellAt (table m false a b) i 0).step .del := by
  cases i with
  | zero => rw [cellAt_zero_zero]; rfl
  | succ i => rw [cellAt_succ_zero m false a b i hi, clamp_false]; rfl

/-- The last alternative is the border of the local table: it is filled without looking at the
neighbour's stored step, so only the stored step is known there. -/
theorem cell_cases (m : Mat) (loc : Bool) (a b : Bytes) {i j : Nat} (hi : i ≤ a.length)
    (hj : j ≤ b.length) :
    (cellAt (table m loc a b) i j = ⟨0, .none⟩ ∧ (i = 0 ∧ j = 0 ∨ loc = true)) ∨
    (∃ i' j', ∃ (_ : i' < a.length) (_ : j' < b.length), i = i' + 1 ∧ j = j' + 1 ∧
      cellAt (table m loc a b) i j = ⟨(cellAt (table m loc a b) i' j').score + m a[i'] b[j'], .mch⟩) ∨
    (∃ i', ∃ (_ : i' < a.length), i = i' + 1 ∧ cellAt (table m loc a b) i j =
      ⟨(cellAt (table m loc a b) i' j).score + m a[i'] GAP
        + openIf m (cellAt (table m loc a b) i' j).step .del, .del⟩) ∨
    (∃ j', ∃ (_ : j' < b.length), j = j' + 1 ∧ cellAt (table m loc a b) i j =
      ⟨(cellAt (table m loc a b) i j').score + m GAP b[j']
        + openIf m (cellAt (table m loc a b) i j').step .ins, .ins⟩) ∨
    (loc = true ∧ (i = 0 ∧ 1 ≤ j ∧ (cellAt (table m loc a b) i j).step = .ins ∨
      j = 0 ∧ 1 ≤ i ∧ (cellAt (table m loc a b) i j).step = .del)) := by
  match i, j with
  | 0, 0 => exact Or.inl ⟨cellAt_zero_zero .., Or.inl ⟨rfl, rfl⟩⟩
  | 0, j + 1 =>
    rcases eq_clamp (cellAt_zero_succ m loc a b j hj) with h | ⟨hl, h⟩
    · cases loc
      · exact Or.inr (Or.inr (Or.inr (Or.inl ⟨j, hj, rfl, by rw [h, border_open_ins m a b j (Nat.le_of_succ_le hj)]⟩)))
      · exact Or.inr (Or.inr (Or.inr (Or.inr ⟨rfl, Or.inl ⟨rfl, Nat.le_add_left 1 j, by rw [h]⟩⟩)))
    · exact Or.inl ⟨h, Or.inr hl⟩
  | i + 1, 0 =>
    rcases eq_clamp (cellAt_succ_zero m loc a b i hi) with h | ⟨hl, h⟩
    · cases loc
      · exact Or.inr (Or.inr (Or.inl ⟨i, hi, rfl, by rw [h, border_open_del m a b i (Nat.le_of_succ_le hi)]⟩))
      · exact Or.inr (Or.inr (Or.inr (Or.inr ⟨rfl, Or.inr ⟨rfl, Nat.le_add_left 1 i, by rw [h]⟩⟩)))
    · exact Or.inl ⟨h, Or.inr hl⟩
  | i + 1, j + 1 =>
    rcases eq_clamp (cellAt_succ_succ m loc a b i j hi hj) with h | ⟨hl, h⟩
    · rcases eq_decideOnStep h with h | h | h
      · exact Or.inr (Or.inl ⟨i, j, hi, hj, rfl, rfl, h⟩)
      · exact Or.inr (Or.inr (Or.inl ⟨i, hi, rfl, h⟩))
      · exact Or.inr (Or.inr (Or.inr (Or.inl ⟨j, hj, rfl, h⟩)))
    · exact Or.inl ⟨h, Or.inr hl⟩

theorem step_shape (m : Mat) (loc : Bool) (a b : Bytes) {i j : Nat} (hi : i ≤ a.length)
    (hj : j ≤ b.length) :
    (cellAt (table m loc a b) i j = ⟨0, .none⟩ ∧ (i = 0 ∧ j = 0 ∨ loc = true)) ∨
    ((cellAt (table m loc a b) i j).step = .mch ∧ ∃ i' j', i = i' + 1 ∧ j = j' + 1) ∨
    ((cellAt (table m loc a b) i j).step = .del ∧ ∃ i', i = i' + 1) ∨
    ((cellAt (table m loc a b) i j).step = .ins ∧ ∃ j', j = j' + 1) := by
  rcases cell_cases m loc a b hi hj with h | ⟨i', j', _, _, hi', hj', h⟩ | ⟨i', _, hi', h⟩ |
    ⟨j', _, hj', h⟩ | ⟨_, ⟨_, h1, h⟩ | ⟨_, h1, h⟩⟩
  · exact Or.inl h
  · exact Or.inr (Or.inl ⟨by rw [h], i', j', hi', hj'⟩)
  · exact Or.inr (Or.inr (Or.inl ⟨by rw [h], i', hi'⟩))
  · exact Or.inr (Or.inr (Or.inr ⟨by rw [h], j', hj'⟩))
  · exact Or.inr (Or.inr (Or.inr ⟨h, j - 1, by omega⟩))
  · exact Or.inr (Or.inr (Or.inl ⟨h, i - 1, by omega⟩))

theorem global_step_shape (m : Mat) (a b : Bytes) (i j : Nat) (hi : i ≤ a.length)
    (hj : j ≤ b.length) (hij : ¬ (i = 0 ∧ j = 0)) :
    ((cellAt (table m false a b) i j).step = .mch ∧ ∃ i' j', i = i' + 1 ∧ j = j' + 1) ∨
    ((cellAt (table m false a b) i j).step = .del ∧ ∃ i', i = i' + 1) ∨
    ((cellAt (table m false a b) i j).step = .ins ∧ ∃ j', j = j' + 1) :=
  (step_shape m false a b hi hj).resolve_left fun h => h.2.elim hij (by simp)

/-- So the `.none` branch of `traceL` (where the Go loop would spin until the fuel ends) is never taken at
a cell of non-zero score. -/
theorem local_step_shape (m : Mat) (a b : Bytes) (i j : Nat) (hi : i ≤ a.length)
    (hj : j ≤ b.length) (hne : (cellAt (table m true a b) i j).score ≠ 0) :
    ((cellAt (table m true a b) i j).step = .mch ∧ ∃ i' j', i = i' + 1 ∧ j = j' + 1) ∨
    ((cellAt (table m true a b) i j).step = .del ∧ ∃ i', i = i' + 1) ∨
    ((cellAt (table m true a b) i j).step = .ins ∧ ∃ j', j = j' + 1) :=
  (step_shape m true a b hi hj).resolve_left fun h => hne (by rw [h.1])

theorem local_cell_nonneg (m : Mat) (a b : Bytes) (i j : Nat) (hi : i ≤ a.length)
    (hj : j ≤ b.length) : 0 ≤ (cellAt (table m true a b) i j).score := by
  match i, j with
  | 0, 0 => rw [cellAt_zero_zero]; exact Int.le_refl _
  | 0, j + 1 => rw [cellAt_zero_succ m true a b j hj]; exact clamp_true_nonneg _
  | i + 1, 0 => rw [cellAt_succ_zero m true a b i hi]; exact clamp_true_nonneg _
  | i + 1, j + 1 =>
    rw [cellAt_succ_succ m true a b i j hi hj]; exact clamp_true_nonneg _

/-- The step preceding position `|p|` when `p` has been applied after `prev`. -/
def lastStep (prev : Step) (p : List Step) : Step := p.getLast?.getD prev

@[simp] theorem lastStep_nil (prev : Step) : lastStep prev [] = prev := rfl
@[simp] theorem lastStep_cons (prev s : Step) (p : List Step) :
    lastStep prev (s :: p) = lastStep s p := by
  cases p with
  | nil => simp [lastStep]
  | cons t p =>
    simp only [lastStep, List.getLast?_cons_cons]
    rcases h : (t :: p).getLast? with _ | v
    · simp at h
    · simp

theorem lastStep_append_singleton (prev s : Step) (p : List Step) : lastStep prev (p ++ [s]) = s := by
  simp [lastStep]

theorem lastStep_reverse (prev : Step) (p : List Step) :
    lastStep prev p.reverse = p.head?.getD prev := by
  simp [lastStep]

theorem rescore_nil (m : Mat) (prev : Step) (a b : Bytes) : rescore m prev a b [] = some (0, a, b) := by
  simp [rescore]

theorem rescore_mch (m : Mat) (prev : Step) (x y : UInt8) (a b : Bytes) (s : List Step) :
    rescore m prev (x :: a) (y :: b) (.mch :: s) =
      (rescore m .mch a b s).map fun r => (m x y + r.1, r.2) := by
  simp [rescore]

theorem rescore_del (m : Mat) (prev : Step) (x : UInt8) (a b : Bytes) (s : List Step) :
    rescore m prev (x :: a) b (.del :: s) =
      (rescore m .del a b s).map fun r => (m x GAP + openIf m prev .del + r.1, r.2) := by
  cases b <;> simp [rescore, openIf]

theorem rescore_ins (m : Mat) (prev : Step) (y : UInt8) (a b : Bytes) (s : List Step) :
    rescore m prev a (y :: b) (.ins :: s) =
      (rescore m .ins a b s).map fun r => (m GAP y + openIf m prev .ins + r.1, r.2) := by
  cases a <;> simp [rescore, openIf]

/-- `Aligns m p a b s v ra rb`: after a step `p`, the steps `s` can be applied to `a` and `b`; they score
`v` and leave `ra`, `rb`.  This is `rescore m p a b s = some (v, ra, rb)` (`rescore_eq_some`), in the
form that can be inducted on. -/
inductive Aligns (m : Mat) : Step → Bytes → Bytes → List Step → Int → Bytes → Bytes → Prop
  | nil (p : Step) (a b : Bytes) : Aligns m p a b [] 0 a b
  | mch (p : Step) (x y : UInt8) {a b : Bytes} {s : List Step} {v : Int} {ra rb : Bytes} :
      Aligns m .mch a b s v ra rb → Aligns m p (x :: a) (y :: b) (.mch :: s) (m x y + v) ra rb
  | del (p : Step) (x : UInt8) {a b : Bytes} {s : List Step} {v : Int} {ra rb : Bytes} :
      Aligns m .del a b s v ra rb →
      Aligns m p (x :: a) b (.del :: s) (m x GAP + openIf m p .del + v) ra rb
  | ins (p : Step) (y : UInt8) {a b : Bytes} {s : List Step} {v : Int} {ra rb : Bytes} :
      Aligns m .ins a b s v ra rb →
      Aligns m p a (y :: b) (.ins :: s) (m GAP y + openIf m p .ins + v) ra rb

theorem rescore_eq_some {m : Mat} {p : Step} {a b : Bytes} {s : List Step} {v : Int} {ra rb : Bytes} :
    rescore m p a b s = some (v, ra, rb) ↔ Aligns m p a b s v ra rb := by
  constructor
  · intro h
    induction s generalizing p a b v with
    | nil => rw [rescore_nil] at h; cases h; exact .nil ..
    | cons st s ih =>
      match st, a, b with
      | .mch, x :: a, y :: b =>
        rw [rescore_mch, Option.map_eq_some_iff] at h
        obtain ⟨⟨_, _, _⟩, hr, he⟩ := h; cases he; exact .mch _ _ _ (ih hr)
      | .del, x :: a, b =>
        rw [rescore_del, Option.map_eq_some_iff] at h
        obtain ⟨⟨_, _, _⟩, hr, he⟩ := h; cases he; exact .del _ _ (ih hr)
      | .ins, a, y :: b =>
        rw [rescore_ins, Option.map_eq_some_iff] at h
        obtain ⟨⟨_, _, _⟩, hr, he⟩ := h; cases he; exact .ins _ _ (ih hr)
      | .none, a, b => cases a <;> cases b <;> simp [rescore] at h
      | .mch, [], b => cases b <;> simp [rescore] at h
      | .mch, _ :: _, [] => simp [rescore] at h
      | .del, [], b => cases b <;> simp [rescore] at h
      | .ins, a, [] => cases a <;> simp [rescore] at h
  · intro h
    induction h with
    | nil => exact rescore_nil ..
    | mch _ _ _ _ ih => rw [rescore_mch, ih]; rfl
    | del _ _ _ ih => rw [rescore_del, ih]; rfl
    | ins _ _ _ ih => rw [rescore_ins, ih]; rfl

namespace Aligns
variable {m : Mat} {p : Step} {a b : Bytes} {s : List Step} {v : Int} {ra rb : Bytes}

theorem cast {v' : Int} (h : Aligns m p a b s v ra rb) (e : v = v') : Aligns m p a b s v' ra rb :=
  e ▸ h

theorem frame (h : Aligns m p a b s v ra rb) (a' b' : Bytes) :
    Aligns m p (a ++ a') (b ++ b') s v (ra ++ a') (rb ++ b') := by
  induction h with
  | nil => exact .nil ..
  | mch _ _ _ _ ih => exact .mch _ _ _ ih
  | del _ _ _ ih => exact .del _ _ ih
  | ins _ _ _ ih => exact .ins _ _ ih

theorem append {s' : List Step} {v' : Int} {a' b' : Bytes} (h : Aligns m p a b s v a' b')
    (h' : Aligns m (lastStep p s) a' b' s' v' ra rb) : Aligns m p a b (s ++ s') (v + v') ra rb := by
  induction h with
  | nil => simpa using h'
  | mch _ _ _ _ ih => exact (Aligns.mch _ _ _ (ih (by simpa using h'))).cast (by omega)
  | del _ _ _ ih => exact (Aligns.del _ _ (ih (by simpa using h'))).cast (by omega)
  | ins _ _ _ ih => exact (Aligns.ins _ _ (ih (by simpa using h'))).cast (by omega)

theorem consumes (h : Aligns m p a b s v ra rb) :
    .none ∉ s ∧ a.length = ra.length + s.count .mch + s.count .del ∧
      b.length = rb.length + s.count .mch + s.count .ins := by
  induction h with
  | nil => simp
  | mch _ _ _ _ ih => simp [ih.1]; omega
  | del _ _ _ ih => simp [ih.1]; omega
  | ins _ _ _ ih => simp [ih.1]; omega

end Aligns

theorem rescore_snoc_mch {m : Mat} {p : Step} {a b : Bytes} {s : List Step} {v : Int}
    (h : rescore m p a b s = some (v, [], [])) (x y : UInt8) :
    rescore m p (a ++ [x]) (b ++ [y]) (s ++ [.mch]) = some (v + m x y, [], []) := by
  rw [rescore_eq_some] at h ⊢
  exact ((h.frame [x] [y]).append (.mch _ x y (.nil ..))).cast (by omega)

theorem rescore_snoc_del {m : Mat} {p : Step} {a b : Bytes} {s : List Step} {v : Int}
    (h : rescore m p a b s = some (v, [], [])) (x : UInt8) :
    rescore m p (a ++ [x]) b (s ++ [.del]) =
      some (v + m x GAP + openIf m (lastStep p s) .del, [], []) := by
  rw [rescore_eq_some] at h ⊢
  have := (h.frame [x] []).append (.del _ x (.nil ..))
  rw [List.append_nil] at this
  exact this.cast (by omega)

theorem rescore_snoc_ins {m : Mat} {p : Step} {a b : Bytes} {s : List Step} {v : Int}
    (h : rescore m p a b s = some (v, [], [])) (y : UInt8) :
    rescore m p a (b ++ [y]) (s ++ [.ins]) =
      some (v + m GAP y + openIf m (lastStep p s) .ins, [], []) := by
  rw [rescore_eq_some] at h ⊢
  have := (h.frame [] [y]).append (.ins _ y (.nil ..))
  rw [List.append_nil] at this
  exact this.cast (by omega)

/-- `a[i..i')`. -/
def seg (a : Bytes) (i i' : Nat) : Bytes := (a.drop i).take (i' - i)

theorem seg_self (a : Bytes) (i : Nat) : seg a i i = [] := by simp [seg]

theorem seg_snoc (a : Bytes) (i i' : Nat) (h : i ≤ i') (h' : i' < a.length) :
    seg a i (i' + 1) = seg a i i' ++ [a[i']] := by
  unfold seg
  have : i' + 1 - i = (i' - i) + 1 := by omega
  rw [this, List.take_add_one, List.getElem?_drop, show i + (i' - i) = i' by omega,
    List.getElem?_eq_getElem h']
  rfl

theorem seg_append_drop (a : Bytes) (i i' : Nat) (h : i ≤ i') :
    seg a i i' ++ a.drop i' = a.drop i := by
  unfold seg
  have : a.drop i' = (a.drop i).drop (i' - i) := by rw [List.drop_drop]; congr 1; omega
  rw [this, List.take_append_drop]

theorem rescore_seg_drop {m : Mat} {p : Step} {a b : Bytes} {i i' j j' : Nat} {s : List Step} {v : Int}
    (h : rescore m p (seg a i i') (seg b j j') s = some (v, [], [])) (hi : i ≤ i') (hj : j ≤ j') :
    rescore m p (a.drop i) (b.drop j) s = some (v, a.drop i', b.drop j') := by
  have := (rescore_eq_some.1 h).frame (a.drop i') (b.drop j')
  rw [seg_append_drop a i i' hi, seg_append_drop b j j' hj] at this
  exact rescore_eq_some.2 this

theorem traceG_zero (t : List (List Cell)) (fuel : Nat) : traceG t fuel 0 0 = [] := by
  cases fuel <;> simp [traceG]

theorem traceG_step (t : List (List Cell)) (fuel i j : Nat) (h : ¬ (i = 0 ∧ j = 0)) :
    traceG t (fuel + 1) i j =
      match (cellAt t i j).step with
      | .mch => .mch :: traceG t fuel (i - 1) (j - 1)
      | .del => .del :: traceG t fuel (i - 1) j
      | .ins => .ins :: traceG t fuel i (j - 1)
      | .none => [] := by
  have : (i == 0 && j == 0) = false := by
    simp only [Bool.and_eq_false_iff, beq_eq_false_iff_ne]; omega
  simp only [traceG, this]
  cases (cellAt t i j).step <;> simp

/-- Induction on the fuel of the traceback (`i + j ≤ fuel`), not over the cells: `cell_cases` gives the
shape of the cell, the induction hypothesis the path to its neighbour.  The second conjunct is what turns
the `openIf` of the neighbour's stored step into the `openIf (lastStep …)` that `rescore_snoc_del/ins` charge. -/
theorem global_inv (m : Mat) (a b : Bytes) : ∀ (fuel i j : Nat), i ≤ a.length → j ≤ b.length →
    i + j ≤ fuel →
    rescore m .none (a.take i) (b.take j) (traceG (table m false a b) fuel i j).reverse =
        some ((cellAt (table m false a b) i j).score, [], []) ∧
      lastStep .none (traceG (table m false a b) fuel i j).reverse =
        (cellAt (table m false a b) i j).step := by
  intro fuel
  induction fuel with
  | zero =>
    intro i j _ _ h
    obtain ⟨rfl, rfl⟩ : i = 0 ∧ j = 0 := by omega
    simp [traceG_zero, cellAt_zero_zero, rescore_nil]
  | succ fuel ih =>
    intro i j hi hj hf
    rcases cell_cases m false a b hi hj with ⟨_, h⟩ | ⟨i, j, hi', hj', rfl, rfl, hc⟩ |
      ⟨i, hi', rfl, hc⟩ | ⟨j, hj', rfl, hc⟩ | ⟨h, _⟩
    · obtain ⟨rfl, rfl⟩ := h.resolve_right (by simp)
      simp [traceG_zero, cellAt_zero_zero, rescore_nil]
    · obtain ⟨ih1, _⟩ := ih i j (Nat.le_of_succ_le hi) (Nat.le_of_succ_le hj) (by omega)
      rw [traceG_step _ _ _ _ (fun h => Nat.add_one_ne_zero _ h.1), hc]
      simp only [Nat.add_sub_cancel, List.reverse_cons]
      rw [List.take_succ_eq_append_getElem hi', List.take_succ_eq_append_getElem hj']
      exact ⟨rescore_snoc_mch ih1 _ _, lastStep_append_singleton ..⟩
    · obtain ⟨ih1, ih2⟩ := ih i j (Nat.le_of_succ_le hi) hj (by omega)
      rw [traceG_step _ _ _ _ (fun h => Nat.add_one_ne_zero _ h.1), hc]
      simp only [Nat.add_sub_cancel, List.reverse_cons]
      rw [List.take_succ_eq_append_getElem hi', ← ih2]
      exact ⟨rescore_snoc_del ih1 _, lastStep_append_singleton ..⟩
    · obtain ⟨ih1, ih2⟩ := ih i j hi (Nat.le_of_succ_le hj) (by omega)
      rw [traceG_step _ _ _ _ (fun h => Nat.add_one_ne_zero _ h.2), hc]
      simp only [Nat.add_sub_cancel, List.reverse_cons]
      rw [List.take_succ_eq_append_getElem hj', ← ih2]
      exact ⟨rescore_snoc_ins ih1 _, lastStep_append_singleton ..⟩
    · cases h

theorem argmaxRow_nil (i j0 : Nat) (best : Nat × Nat × Int) : argmaxRow [] i j0 best = best := rfl

theorem argmaxRow_cons (c : Cell) (cs : List Cell) (i j0 : Nat) (best : Nat × Nat × Int) :
    argmaxRow (c :: cs) i j0 best =
      argmaxRow cs i (j0 + 1) (if c.score > best.2.2 then (i, j0, c.score) else best) := rfl

theorem argmaxRow_spec (i : Nat) : ∀ (row : List Cell) (j0 : Nat) (best : Nat × Nat × Int),
    best.2.2 ≤ (argmaxRow row i j0 best).2.2 ∧
    (∀ (k : Nat) (c : Cell), row[k]? = some c → c.score ≤ (argmaxRow row i j0 best).2.2) ∧
    (argmaxRow row i j0 best = best ∨
      ∃ (k : Nat) (c : Cell), row[k]? = some c ∧ argmaxRow row i j0 best = (i, j0 + k, c.score))
  | [], j0, best => by simp [argmaxRow_nil]
  | c :: cs, j0, best => by
    rw [argmaxRow_cons]
    obtain ⟨h1, h2, h3⟩ := argmaxRow_spec i cs (j0 + 1)
      (if c.score > best.2.2 then (i, j0, c.score) else best)
    have hb : best.2.2 ≤ (if c.score > best.2.2 then (i, j0, c.score) else best).2.2 ∧
        c.score ≤ (if c.score > best.2.2 then (i, j0, c.score) else best).2.2 := by
      split <;> simp <;> omega
    refine ⟨by omega, fun k c' hk => ?_, ?_⟩
    · cases k with
      | zero => cases hk; omega
      | succ k => exact h2 k c' hk
    · rcases h3 with h3 | ⟨k, c', hk, h3⟩
      · rw [h3]; split
        · exact Or.inr ⟨0, c, rfl, rfl⟩
        · exact Or.inl rfl
      · exact Or.inr ⟨k + 1, c', hk, by rw [h3, Nat.add_right_comm, Nat.add_assoc]⟩

/-- `argmax` with the running row index and best cell exposed, so that it can be inducted on. -/
def argmaxAux (rows : List (List Cell)) (i0 : Nat) (best : Nat × Nat × Int) : Nat × Nat × Int :=
  (rows.foldl (fun (st : Nat × (Nat × Nat × Int)) row =>
      (st.1 + 1, argmaxRow row st.1 0 st.2)) (i0, best)).2

theorem argmax_eq (t : List (List Cell)) : argmax t = argmaxAux t 0 (0, 0, (cellAt t 0 0).score) := rfl

theorem argmaxAux_nil (i0 : Nat) (best : Nat × Nat × Int) : argmaxAux [] i0 best = best := rfl

theorem argmaxAux_cons (row : List Cell) (rows : List (List Cell)) (i0 : Nat)
    (best : Nat × Nat × Int) :
    argmaxAux (row :: rows) i0 best = argmaxAux rows (i0 + 1) (argmaxRow row i0 0 best) := rfl

theorem argmaxAux_spec : ∀ (rows : List (List Cell)) (i0 : Nat) (best : Nat × Nat × Int),
    best.2.2 ≤ (argmaxAux rows i0 best).2.2 ∧
    (∀ (k : Nat) (row : List Cell) (j : Nat) (c : Cell), rows[k]? = some row → row[j]? = some c →
      c.score ≤ (argmaxAux rows i0 best).2.2) ∧
    (argmaxAux rows i0 best = best ∨
      ∃ (k : Nat) (row : List Cell) (j : Nat) (c : Cell), rows[k]? = some row ∧ row[j]? = some c ∧
        argmaxAux rows i0 best = (i0 + k, j, c.score))
  | [], i0, best => by simp [argmaxAux_nil]
  | row :: rows, i0, best => by
    rw [argmaxAux_cons]
    obtain ⟨h1, h2, h3⟩ := argmaxAux_spec rows (i0 + 1) (argmaxRow row i0 0 best)
    obtain ⟨r1, r2, r3⟩ := argmaxRow_spec i0 row 0 best
    refine ⟨by omega, fun k row' j c hk hj => ?_, ?_⟩
    · cases k with
      | zero => cases hk; have := r2 j c hj; omega
      | succ k => exact h2 k row' j c hk hj
    · rcases h3 with h3 | ⟨k, row', j, c, hk, hj, h3⟩
      · rw [h3]
        rcases r3 with r3 | ⟨j, c, hj, r3⟩
        · exact Or.inl r3
        · exact Or.inr ⟨0, row, j, c, rfl, hj, by rw [r3, Nat.zero_add]; rfl⟩
      · exact Or.inr ⟨k + 1, row', j, c, hk, hj, by rw [h3, Nat.add_right_comm, Nat.add_assoc]⟩

theorem argmax_spec (t : List (List Cell)) :
    (argmax t).2.2 = (cellAt t (argmax t).1 (argmax t).2.1).score ∧
    (cellAt t 0 0).score ≤ (argmax t).2.2 ∧
    (∀ (i : Nat) (row : List Cell) (j : Nat) (c : Cell), t[i]? = some row → row[j]? = some c → c.score ≤ (argmax t).2.2) ∧
    (((argmax t).1 = 0 ∧ (argmax t).2.1 = 0) ∨
      ∃ (row : List Cell) (c : Cell), t[(argmax t).1]? = some row ∧ row[(argmax t).2.1]? = some c) := by
  rw [argmax_eq]
  obtain ⟨h1, h2, h3⟩ := argmaxAux_spec t 0 (0, 0, (cellAt t 0 0).score)
  refine ⟨?_, h1, h2, ?_⟩ <;> rcases h3 with h3 | ⟨k, row, j, c, hk, hj, h3⟩ <;> rw [h3]
  · rw [Nat.zero_add, cellAt_of_getElem? t k j row c hk hj]
  · exact Or.inl ⟨rfl, rfl⟩
  · rw [Nat.zero_add]; exact Or.inr ⟨row, c, hk, hj⟩

theorem argmax_table_in_range (m : Mat) (loc : Bool) (a b : Bytes) :
    (argmax (table m loc a b)).1 ≤ a.length ∧ (argmax (table m loc a b)).2.1 ≤ b.length := by
  rcases (argmax_spec (table m loc a b)).2.2.2 with ⟨h1, h2⟩ | ⟨row, c, hr, hc⟩
  · omega
  · have h1 := (List.getElem?_eq_some_iff.mp hr).1
    have h2 := (List.getElem?_eq_some_iff.mp hc).1
    rw [table_row_length m loc a b row (List.mem_of_getElem? hr)] at h2
    rw [table_length] at h1
    omega

theorem argmax_table_max (m : Mat) (loc : Bool) (a b : Bytes) (i j : Nat) (hi : i ≤ a.length)
    (hj : j ≤ b.length) :
    (cellAt (table m loc a b) i j).score ≤ (argmax (table m loc a b)).2.2 := by
  obtain ⟨r, hr, hc⟩ := cellAt_spec m loc a b i j hi hj
  exact (argmax_spec (table m loc a b)).2.2.1 i r j _ hr hc

/-- The hypothesis of the results about `Local`: gap-open and the gap scores of the letters that occur are
≤ 0.  Then a gap step never raises the score, which is what makes the local walk end after a match. -/
def gapScoresNonPos (m : Mat) (a b : Bytes) : Prop :=
  m GAP GAP ≤ 0 ∧ (∀ x ∈ a, m x GAP ≤ 0) ∧ (∀ y ∈ b, m GAP y ≤ 0)

theorem openIf_nonpos (m : Mat) (h : m GAP GAP ≤ 0) (p k : Step) : openIf m p k ≤ 0 := by
  unfold openIf; split <;> omega

theorem argmax_local_nonneg (m : Mat) (a b : Bytes) : 0 ≤ (argmax (table m true a b)).2.2 := by
  have := (argmax_spec (table m true a b)).2.1
  rwa [cellAt_zero_zero] at this

theorem argmax_local_zero_iff (m : Mat) (a b : Bytes) :
    (argmax (table m true a b)).2.2 = 0 ↔
      ∀ i j, i ≤ a.length → j ≤ b.length → (cellAt (table m true a b) i j).score ≤ 0 := by
  constructor
  · intro h i j hi hj
    have := argmax_table_max m true a b i j hi hj
    omega
  · intro h
    obtain ⟨hmi, hmj⟩ := argmax_table_in_range m true a b
    have hs := (argmax_spec (table m true a b)).1
    have hnn := argmax_local_nonneg m a b
    have := h _ _ hmi hmj
    omega

theorem local_row0_zero (m : Mat) (a b : Bytes) (hg : gapScoresNonPos m a b) :
    ∀ j, j ≤ b.length → (cellAt (table m true a b) 0 j).score = 0
  | 0, _ => by rw [cellAt_zero_zero]
  | j + 1, hj => by
    have h0 := local_row0_zero m a b hg j (Nat.le_of_succ_le hj)
    have h1 := hg.2.2 b[j] (List.getElem_mem hj)
    have h2 := hg.1
    rw [cellAt_zero_succ m true a b j hj]
    apply clamp_true_of_nonpos
    simp only [h0]
    split <;> omega

theorem local_col0_zero (m : Mat) (a b : Bytes) (hg : gapScoresNonPos m a b) :
    ∀ i, i ≤ a.length → (cellAt (table m true a b) i 0).score = 0
  | 0, _ => by rw [cellAt_zero_zero]
  | i + 1, hi => by
    have h0 := local_col0_zero m a b hg i (Nat.le_of_succ_le hi)
    have h1 := hg.2.1 a[i] (List.getElem_mem hi)
    have h2 := hg.1
    rw [cellAt_succ_zero m true a b i hi]
    apply clamp_true_of_nonpos
    simp only [h0]
    split <;> omega

theorem traceL_of_zero (t : List (List Cell)) (fuel i j : Nat) (last : Nat × Nat)
    (h : (cellAt t i j).score = 0) : traceL t fuel i j last = ([], last) := by
  cases fuel with
  | zero => rfl
  | succ fuel => simp [traceL, h]

theorem traceL_step (t : List (List Cell)) (fuel i j : Nat) (last : Nat × Nat)
    (hij : ¬ (i = 0 ∧ j = 0)) (h : (cellAt t i j).score ≠ 0) :
    traceL t (fuel + 1) i j last =
      (match (cellAt t i j).step with
        | .mch => traceL t fuel (i - 1) (j - 1) (i, j)
        | .del => traceL t fuel (i - 1) j (i, j)
        | .ins => traceL t fuel i (j - 1) (i, j)
        | .none => ([], (i, j))).map ((cellAt t i j).step :: ·) id := by
  have h1 : (i == 0 && j == 0) = false := by
    simp only [Bool.and_eq_false_iff, beq_eq_false_iff_ne]; omega
  have h2 : ((cellAt t i j).score == 0) = false := by simpa using h
  cases hs : (cellAt t i j).step <;> simp [traceL, h1, h2, hs, Prod.map]

theorem traceL_last_le (t : List (List Cell)) (A B : Nat) :
    ∀ (fuel i j : Nat) (last : Nat × Nat), i ≤ A → j ≤ B → last.1 ≤ A → last.2 ≤ B →
      (traceL t fuel i j last).2.1 ≤ A ∧ (traceL t fuel i j last).2.2 ≤ B
  | 0, _, _, _, _, _, h1, h2 => ⟨h1, h2⟩
  | fuel + 1, i, j, last, hi, hj, h1, h2 => by
    by_cases hz : (cellAt t i j).score = 0
    · rw [traceL_of_zero _ _ _ _ _ hz]; exact ⟨h1, h2⟩
    by_cases hij : i = 0 ∧ j = 0
    · obtain ⟨rfl, rfl⟩ := hij
      simp [traceL, h1, h2]
    rw [traceL_step _ _ _ _ _ hij hz]
    cases (cellAt t i j).step
    · exact ⟨hi, hj⟩
    · exact traceL_last_le t A B fuel _ _ _ (Nat.le_trans (Nat.sub_le _ _) hi)
        (Nat.le_trans (Nat.sub_le _ _) hj) hi hj
    · exact traceL_last_le t A B fuel _ _ _ (Nat.le_trans (Nat.sub_le _ _) hi) hj hi hj
    · exact traceL_last_le t A B fuel _ _ _ hi (Nat.le_trans (Nat.sub_le _ _) hj) hi hj

/-- A positive cell reached by a gap step has a positive neighbour, because gap scores are ≤ 0; so the
walk can only end below a diagonal step, at a cell of score 0, and the path begins with a match.  The
border is excluded by `local_row0_zero`, `local_col0_zero`; `last` plays no role. -/
theorem local_inv (m : Mat) (a b : Bytes) (hg : gapScoresNonPos m a b) :
    ∀ (fuel i j : Nat) (last : Nat × Nat), i ≤ a.length → j ≤ b.length → i + j ≤ fuel →
    0 < (cellAt (table m true a b) i j).score →
    ∃ p li lj, traceL (table m true a b) fuel i j last = (p.reverse, (li + 1, lj + 1)) ∧
      li < i ∧ lj < j ∧
      rescore m .none (seg a li i) (seg b lj j) p =
        some ((cellAt (table m true a b) i j).score, [], []) ∧
      lastStep .none p = (cellAt (table m true a b) i j).step ∧ p.head? = some .mch := by
  intro fuel
  induction fuel with
  | zero =>
    intro i j _ _ _ h hpos
    obtain ⟨rfl, rfl⟩ : i = 0 ∧ j = 0 := by omega
    rw [cellAt_zero_zero] at hpos; exact absurd hpos (by decide)
  | succ fuel ih =>
    intro i j last hi hj hf hpos
    have hne : (cellAt (table m true a b) i j).score ≠ 0 := by omega
    rcases cell_cases m true a b hi hj with ⟨h, _⟩ | ⟨i, j, hi', hj', rfl, rfl, hc⟩ |
      ⟨i, hi', rfl, hc⟩ | ⟨j, hj', rfl, hc⟩ | ⟨_, ⟨rfl, _⟩ | ⟨rfl, _⟩⟩
    · rw [h] at hpos; exact absurd hpos (by decide)
    · rw [traceL_step _ _ _ _ _ (fun h => Nat.add_one_ne_zero _ h.1) hne, hc]
      by_cases hD : (cellAt (table m true a b) i j).score = 0
      · refine ⟨[.mch], i, j, ?_, Nat.lt_succ_self i, Nat.lt_succ_self j, ?_, rfl, rfl⟩
        · simp only [Nat.add_sub_cancel, traceL_of_zero _ _ _ _ _ hD, Prod.map]; rfl
        · rw [seg_snoc a i i (Nat.le_refl _) hi', seg_snoc b j j (Nat.le_refl _) hj', seg_self,
            seg_self, hD]
          exact rescore_snoc_mch (rescore_nil ..) _ _
      · have hDpos : 0 < (cellAt (table m true a b) i j).score := by
          have := local_cell_nonneg m a b i j (Nat.le_of_succ_le hi) (Nat.le_of_succ_le hj); omega
        obtain ⟨p, li, lj, hp, h1, h2, h3, _, h5⟩ :=
          ih i j (i + 1, j + 1) (Nat.le_of_succ_le hi) (Nat.le_of_succ_le hj) (by omega) hDpos
        refine ⟨p ++ [.mch], li, lj, ?_, Nat.lt_succ_of_lt h1, Nat.lt_succ_of_lt h2, ?_, lastStep_append_singleton ..,
          by simp [h5]⟩
        · simp only [Nat.add_sub_cancel, hp, Prod.map, List.reverse_append]; rfl
        · rw [seg_snoc a li i (Nat.le_of_lt h1) hi', seg_snoc b lj j (Nat.le_of_lt h2) hj']
          exact rescore_snoc_mch h3 _ _
    · have := openIf_nonpos m hg.1 (cellAt (table m true a b) i j).step .del
      have := hg.2.1 a[i] (List.getElem_mem hi')
      have hUpos : 0 < (cellAt (table m true a b) i j).score := by
        rw [hc] at hpos; simp only at hpos; omega
      obtain ⟨p, li, lj, hp, h1, h2, h3, h4, h5⟩ := ih i j (i + 1, j) (Nat.le_of_succ_le hi) hj (by omega) hUpos
      rw [traceL_step _ _ _ _ _ (fun h => Nat.add_one_ne_zero _ h.1) hne, hc]
      refine ⟨p ++ [.del], li, lj, ?_, Nat.lt_succ_of_lt h1, h2, ?_, lastStep_append_singleton .., by simp [h5]⟩
      · simp only [Nat.add_sub_cancel, hp, Prod.map, List.reverse_append]; rfl
      · rw [seg_snoc a li i (Nat.le_of_lt h1) hi', ← h4]
        exact rescore_snoc_del h3 _
    · have := openIf_nonpos m hg.1 (cellAt (table m true a b) i j).step .ins
      have := hg.2.2 b[j] (List.getElem_mem hj')
      have hLpos : 0 < (cellAt (table m true a b) i j).score := by
        rw [hc] at hpos; simp only at hpos; omega
      obtain ⟨p, li, lj, hp, h1, h2, h3, h4, h5⟩ := ih i j (i, j + 1) hi (Nat.le_of_succ_le hj) (by omega) hLpos
      rw [traceL_step _ _ _ _ _ (fun h => Nat.add_one_ne_zero _ h.2) hne, hc]
      refine ⟨p ++ [.ins], li, lj, ?_, h1, Nat.lt_succ_of_lt h2, ?_, lastStep_append_singleton .., by simp [h5]⟩
      · simp only [Nat.add_sub_cancel, hp, Prod.map, List.reverse_append]; rfl
      · rw [seg_snoc b lj j (Nat.le_of_lt h2) hj', ← h4]
        exact rescore_snoc_ins h3 _
    · exact absurd (local_row0_zero m a b hg j hj) hne
    · exact absurd (local_col0_zero m a b hg i hi) hne

/-- The `traceL` call inside `localT`. -/
def localTrace (m : Mat) (a b : Bytes) : List Step × (Nat × Nat) :=
  traceL (table m true a b) (a.length + b.length + 1) (argmax (table m true a b)).1
    (argmax (table m true a b)).2.1 ((argmax (table m true a b)).1, (argmax (table m true a b)).2.1)

theorem localTrace_le (m : Mat) (a b : Bytes) :
    (localTrace m a b).2.1 ≤ a.length ∧ (localTrace m a b).2.2 ≤ b.length :=
  traceL_last_le _ _ _ _ _ _ _ (argmax_table_in_range m true a b).1 (argmax_table_in_range m true a b).2
    (argmax_table_in_range m true a b).1 (argmax_table_in_range m true a b).2

theorem localT_of_zero (m : Mat) (a b : Bytes) (h : (argmax (table m true a b)).2.2 = 0) :
    localT m a b = ([], -1, -1, 0) := by
  simp [localT, h]

theorem localT_of_ne_zero (m : Mat) (a b : Bytes) (h : (argmax (table m true a b)).2.2 ≠ 0) :
    localT m a b = ((localTrace m a b).1.reverse, ((localTrace m a b).2.1 : Int) - 1,
      ((localTrace m a b).2.2 : Int) - 1, (argmax (table m true a b)).2.2) := by
  simp [localT, localTrace, h]

theorem localT_score (m : Mat) (a b : Bytes) :
    (localT m a b).2.2.2 = (argmax (table m true a b)).2.2 := by
  by_cases h : (argmax (table m true a b)).2.2 = 0
  · rw [localT_of_zero m a b h, h]
  · rw [localT_of_ne_zero m a b h]

theorem localT_eq_empty_iff (m : Mat) (a b : Bytes) :
    localT m a b = ([], -1, -1, 0) ↔ (argmax (table m true a b)).2.2 = 0 :=
  ⟨fun h => by rw [← localT_score, h], localT_of_zero m a b⟩

theorem localT_cases (m : Mat) (a b : Bytes) (hg : gapScoresNonPos m a b) :
    localT m a b = ([], -1, -1, 0) ∨
    ∃ (p : List Step) (li lj mi mj : Nat) (s : Int),
      localT m a b = (p, (li : Int), (lj : Int), s) ∧ 0 < s ∧
      li < mi ∧ mi ≤ a.length ∧ lj < mj ∧ mj ≤ b.length ∧
      s = (cellAt (table m true a b) mi mj).score ∧
      rescore m .none (seg a li mi) (seg b lj mj) p = some (s, [], []) ∧ p.head? = some .mch := by
  by_cases h0 : (argmax (table m true a b)).2.2 = 0
  · exact Or.inl (localT_of_zero m a b h0)
  · obtain ⟨hmi, hmj⟩ := argmax_table_in_range m true a b
    have hs := (argmax_spec (table m true a b)).1
    have hnn := argmax_local_nonneg m a b
    obtain ⟨p, li, lj, hp, h1, h2, h3, _, h5⟩ := local_inv m a b hg (a.length + b.length + 1) _ _
      ((argmax (table m true a b)).1, (argmax (table m true a b)).2.1) hmi hmj (by omega)
      (by omega)
    refine Or.inr ⟨p, li, lj, _, _, _, ?_, by omega, h1, hmi, h2, hmj, hs, hs ▸ h3, h5⟩
    rw [localT_of_ne_zero m a b h0, localTrace, hp]
    simp

theorem localT_attained (m : Mat) (a b : Bytes) (hg : gapScoresNonPos m a b) :
    ∃ i i' j j' s, i ≤ i' ∧ i' ≤ a.length ∧ j ≤ j' ∧ j' ≤ b.length ∧
      rescore m .none (seg a i i') (seg b j j') s = some ((localT m a b).2.2.2, [], []) := by
  rcases localT_cases m a b hg with h | ⟨p, li, lj, mi, mj, s, h, _, h1, h2, h3, h4, _, hr, _⟩
  · exact ⟨0, 0, 0, 0, [], Nat.le_refl _, Nat.zero_le _, Nat.le_refl _, Nat.zero_le _,
      by rw [h]; exact rescore_nil ..⟩
  · exact ⟨li, mi, lj, mj, p, Nat.le_of_lt h1, h2, Nat.le_of_lt h3, h4, by rw [h]; exact hr⟩

theorem mem_needed (a b : Bytes) (p : UInt8 × UInt8) :
    p ∈ needed a b ↔
      (p = (GAP, GAP) ∧ (a ≠ [] ∨ b ≠ [])) ∨ (∃ x ∈ a, p = (x, GAP)) ∨ (∃ y ∈ b, p = (GAP, y)) ∨
      (∃ x ∈ a, ∃ y ∈ b, p = (x, y)) := by
  have h1 : p ∈ (if (a.isEmpty && b.isEmpty) = true then [] else [(GAP, GAP)]) ↔
      p = (GAP, GAP) ∧ (a ≠ [] ∨ b ≠ []) := by
    cases a <;> cases b <;> simp
  have h2 : p ∈ (if b.isEmpty = true then [] else a.flatMap fun x => b.map fun y => (x, y)) ↔
      ∃ x ∈ a, ∃ y ∈ b, p = (x, y) := by
    cases b <;> simp [eq_comm]
  simp only [needed, List.mem_append, List.mem_map, h1, h2, or_assoc, @eq_comm _ _ p]

theorem globalP_isSome (pm : PMat) (a b : Bytes) (h : ∀ p ∈ needed a b, (pm p.1 p.2).isSome) :
    globalP pm a b = some (globalT (total pm) a b) :=
  if_pos (List.all_eq_true.2 h)

theorem localP_isSome (pm : PMat) (a b : Bytes) (h : ∀ p ∈ needed a b, (pm p.1 p.2).isSome) :
    localP pm a b = some (localT (total pm) a b) :=
  if_pos (List.all_eq_true.2 h)

theorem row0Aux_congr (m m' : Mat) (loc : Bool) : ∀ (b : Bytes) (prev : Int) (first : Bool),
    (∀ y ∈ b, m GAP y = m' GAP y) → (b ≠ [] → m GAP GAP = m' GAP GAP) →
    row0Aux m loc prev first b = row0Aux m' loc prev first b
  | [], _, _, _, _ => rfl
  | y :: ys, prev, first, h1, h2 => by
    have hy := h1 y (by simp)
    have hg := h2 (by simp)
    simp only [row0Aux, hy, hg]
    rw [row0Aux_congr m m' loc ys _ _ (fun z hz => h1 z (by simp [hz])) (fun _ => hg)]

theorem rowAux_congr (m m' : Mat) (loc : Bool) (x : UInt8) (hxg : m x GAP = m' x GAP)
    (hgg : m GAP GAP = m' GAP GAP) :
    ∀ (ups : List Cell) (ys : Bytes) (left diag : Cell),
      (∀ y ∈ ys, m x y = m' x y ∧ m GAP y = m' GAP y) →
      rowAux m loc x left diag ups ys = rowAux m' loc x left diag ups ys
  | [], _, _, _, _ => by simp [rowAux]
  | _ :: _, [], _, _, _ => by simp [rowAux]
  | up :: ups, y :: ys, left, diag, h => by
    obtain ⟨h1, h2⟩ := h y (by simp)
    simp only [rowAux, hxg, hgg, h1, h2]
    rw [rowAux_congr m m' loc x hxg hgg ups ys _ _ (fun z hz => h z (by simp [hz]))]

theorem nextRow_congr (m m' : Mat) (loc : Bool) (x : UInt8) (first : Bool) (prev : List Cell)
    (b : Bytes) (hxg : m x GAP = m' x GAP) (hgg : m GAP GAP = m' GAP GAP)
    (h : ∀ y ∈ b, m x y = m' x y ∧ m GAP y = m' GAP y) :
    nextRow m loc x first prev b = nextRow m' loc x first prev b := by
  cases prev with
  | nil => rfl
  | cons up0 ups =>
    simp only [nextRow, hxg, hgg]
    rw [rowAux_congr m m' loc x hxg hgg ups b _ _ h]

theorem tableAux_congr (m m' : Mat) (loc : Bool) (b : Bytes) (hgg : m GAP GAP = m' GAP GAP)
    (hb : ∀ y ∈ b, m GAP y = m' GAP y) :
    ∀ (a : Bytes) (prev : List Cell) (first : Bool),
      (∀ x ∈ a, m x GAP = m' x GAP ∧ ∀ y ∈ b, m x y = m' x y) →
      tableAux m loc b prev first a = tableAux m' loc b prev first a
  | [], _, _, _ => rfl
  | x :: xs, prev, first, h => by
    obtain ⟨h1, h2⟩ := h x (by simp)
    simp only [tableAux]
    rw [nextRow_congr m m' loc x first prev b h1 hgg (fun y hy => ⟨h2 y hy, hb y hy⟩),
      tableAux_congr m m' loc b hgg hb xs _ _ (fun z hz => h z (by simp [hz]))]

theorem table_congr (m m' : Mat) (loc : Bool) (a b : Bytes)
    (h : ∀ p ∈ needed a b, m p.1 p.2 = m' p.1 p.2) : table m loc a b = table m' loc a b := by
  have hb : ∀ y ∈ b, m GAP y = m' GAP y := fun y hy =>
    h (GAP, y) ((mem_needed a b _).2 (Or.inr (Or.inr (Or.inl ⟨y, hy, rfl⟩))))
  have hgg : a ≠ [] ∨ b ≠ [] → m GAP GAP = m' GAP GAP := fun hne =>
    h (GAP, GAP) ((mem_needed a b _).2 (Or.inl ⟨rfl, hne⟩))
  have hr0 : row0 m loc b = row0 m' loc b := by
    simp only [row0]
    rw [row0Aux_congr m m' loc b _ _ hb (fun hne => hgg (Or.inr hne))]
  simp only [table, hr0]
  cases a with
  | nil => rfl
  | cons x xs =>
    rw [tableAux_congr m m' loc b (hgg (Or.inl (by simp))) hb]
    intro z hz
    exact ⟨h (z, GAP) ((mem_needed _ b _).2 (Or.inr (Or.inl ⟨z, hz, rfl⟩))),
      fun y hy => h (z, y) ((mem_needed _ b _).2 (Or.inr (Or.inr (Or.inr ⟨z, hz, y, hy, rfl⟩))))⟩

theorem globalT_congr (m m' : Mat) (a b : Bytes)
    (h : ∀ p ∈ needed a b, m p.1 p.2 = m' p.1 p.2) : globalT m a b = globalT m' a b := by
  simp only [globalT, table_congr m m' false a b h]

theorem localT_congr (m m' : Mat) (a b : Bytes)
    (h : ∀ p ∈ needed a b, m p.1 p.2 = m' p.1 p.2) : localT m a b = localT m' a b := by
  simp only [localT, table_congr m m' true a b h]

end Bio.Align

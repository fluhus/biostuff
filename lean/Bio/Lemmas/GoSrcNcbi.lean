/-
  `ReadNCBI` and `extractSingleChar` of formats/smtext/smtext.go, translated from the Go SOURCE
  TEXT on every run into `Bio.Generated.GoSrc.smtext_ReadNCBI` / `extractSingleChar`.

  The three loops of `ReadNCBI` are written as total functions (`hdrStep`, `valGo`, `stepGo`, run by
  `GoRt.loopT`); `ReadNCBI_eq` shows that the translated function is `some (finish …)` of them on
  EVERY input (every `idx` / `slice` is guarded by a length check), and `loop_refines` relates the
  scan loop to the hand model on the tokens of the lines: the Go map is lookup-equivalent to the
  model's association list, and `chars == nil` (translated as `len chars == 0`) is the model's `none`.

  Proofs about `GoSrc.*` open with `first | exact absurd hF (by decide) | (…)`: see `Bio.Lemmas.GoSrc`.
-/
import Bio.Lemmas.GoSrcMatrix
set_option linter.unusedVariables false
namespace Bio.GoSrcLemmas
namespace NcbiGo
open Bio Bio.GoRt Bio.Generated Bio.GoSrcLemmas.MxGo

/-- what `extractSingleChar` returns: the byte (`*` is the gap, 255) and `nil`, or `0` and an error -/
def esc (s : Bytes) : UInt8 × GoErr :=
  match Matrix.singleChar s with
  | some c => (c, GoErr.nil)
  | none => (0, GoErr.other)

theorem extractSingleChar_eq (hF : GoSrc.extractSingleChar_Found = true) (s : Bytes) :
    GoSrc.extractSingleChar s = some (esc s) := by
  first
  | exact absurd hF (by decide)
  | (unfold GoSrc.extractSingleChar esc Matrix.singleChar len
     match s with
     | [] => simp
     | [c] =>
       by_cases h : c = 42
       · subst h; simp
       · have h0 : idx [c] 0 = some c := rfl
         simp [h, h0]
     | a :: b :: r =>
       simp
       intro h
       omega)

theorem esc_nil_iff (s : Bytes) : (esc s).2 = GoErr.nil ↔ (Matrix.singleChar s).isSome := by
  unfold esc; cases Matrix.singleChar s <;> simp

theorem esc_some {s : Bytes} {c : UInt8} (h : Matrix.singleChar s = some c) : esc s = (c, GoErr.nil) := by
  unfold esc; rw [h]

theorem esc_none {s : Bytes} (h : Matrix.singleChar s = none) : esc s = (0, GoErr.other) := by
  unfold esc; rw [h]

theorem isSpaceRe_eq (b : UInt8) : isSpaceRe b = Matrix.isSpace b := rfl

theorem nonSpaceFieldsAux_eq (s cur : Bytes) (hc : ∀ b ∈ cur, Matrix.isSpace b = false) :
    nonSpaceFieldsAux s cur = Matrix.fields (cur ++ s) := by
  induction s generalizing cur with
  | nil =>
    rw [nonSpaceFieldsAux, List.append_nil]
    cases cur with
    | nil => rfl
    | cons a r => rw [Matrix.fields_tok ⟨by simp, hc⟩]; rfl
  | cons b rest ih =>
    rw [nonSpaceFieldsAux, isSpaceRe_eq]
    by_cases hb : Matrix.isSpace b = true
    · rw [if_pos hb]
      cases cur with
      | nil =>
        rw [ih [] (by simp)]
        simp [Matrix.fields_cons_space hb]
      | cons a r =>
        rw [ih [] (by simp), Matrix.fields_tok_append ⟨by simp, hc⟩ (by simpa using hb),
          Matrix.fields_cons_space hb]
        rfl
    · rw [if_neg hb, ih (cur ++ [b])]
      · simp
      · intro x hx
        rcases List.mem_append.1 hx with hx | hx
        · exact hc x hx
        · simp at hx; subst hx; simpa using hb

theorem nonSpaceFields_eq (s : Bytes) : nonSpaceFields s = Matrix.fields s := by
  unfold nonSpaceFields
  rw [nonSpaceFieldsAux_eq s [] (by simp)]
  rfl

/-- the value `ReadNCBI` returns -/
abbrev Res := GM × GoErr
/-- the state of the scan loop: pending early return, `m`, `chars` -/
abbrev St := Option Res × GM × List UInt8

/-- one iteration of the header loop `for _, char := range charStrs` -/
def hdrStep (char : Bytes) (s : Option Res × List UInt8) : ForInStep (Option Res × List UInt8) :=
  if (esc char).2 != GoErr.nil then .done (some ([], (esc char).2), s.2)
  else .yield (none, s.2 ++ [(esc char).1])

/-- the loop `for i, val := range valStrs[1:]` over the remaining `chars` and values; `64` is the
`bitSize` argument of `strconv.ParseFloat`.  In the case `[], _ :: _` (more values than columns) Go
would panic on `chars[i]`; the length check before the loop makes it unreachable (`val_loop`). -/
def valGo (pf : Bytes → Int → Int × GoErr) (c : UInt8) : List UInt8 → List Bytes → GM → Option Res × GM
  | _, [], m => (none, m)
  | [], _ :: _, m => (none, m)
  | ch :: chs, v :: vs, m =>
    if (pf v 64).2 != GoErr.nil then (some ([], GoErr.other), m)
    else valGo pf c chs vs (mapSet m [c, ch] (pf v 64).1)

theorem val_loop (pf : Bytes → Int → Int × GoErr) (c : UInt8) (chars : List UInt8)
    (body : Int × Bytes → Option Res × GM → Option (ForInStep (Option Res × GM)))
    (hbody : ∀ i val s, body (i, val) s =
      if ((pf val 64).2 != GoErr.nil) = true then some (ForInStep.done (some ([], GoErr.other), s.2))
      else (idx chars i).bind fun ch => some (ForInStep.yield (none, mapSet s.2 [c, ch] (pf val 64).1)))
    (vs : List Bytes) (k : Nat) (chs : List UInt8) (hk : chars.drop k = chs) (hlen : vs.length ≤ chs.length)
    (m : GM) :
    forIn ((vs.zipIdx k).map fun p => ((p.2 : Int), p.1)) (none, m) body = some (valGo pf c chs vs m) := by
  induction vs generalizing k chs m with
  | nil => simp [valGo]
  | cons v vs ih =>
    cases chs with
    | nil => simp at hlen
    | cons ch chs =>
      have hch : idx chars (k : Int) = some ch := by
        rw [idx_ofNat]
        have := congrArg (fun l => l[0]?) hk
        simpa using this
      have hk' : chars.drop (k + 1) = chs := by
        have := congrArg (fun l => l.drop 1) hk
        simpa using this
      simp only [List.zipIdx_cons, List.map_cons, List.forIn_cons, hbody, valGo]
      by_cases he : ((pf v 64).2 != GoErr.nil) = true
      · simp only [he, if_true]; rfl
      · simp only [he, hch, Option.bind_some]
        exact ih (k + 1) chs hk' (by simpa using hlen) _

/-- a line the scan loop skips -/
abbrev Skip (row : Bytes) : Prop := row = [] ∨ row.head? = some 35

/-- one iteration of the scan loop on the line `row`, with the current `m` and `chars` -/
def stepGo (pf : Bytes → Int → Int × GoErr) (row : Bytes) (m : GM) (chars : List UInt8) : ForInStep St :=
  if Skip row then .yield (none, m, chars)
  else if chars = [] then
    match loopT hdrStep (Matrix.fields row) (none, chars) with
    | (some r, cs) => .done (some r, m, cs)
    | (none, cs) => .yield (none, m, cs)
  else
    match Matrix.fields row with
    | [] => .done (some ([], GoErr.other), m, chars)
    | lab :: vals =>
      if vals.length ≠ chars.length then .done (some ([], GoErr.other), m, chars)
      else if (esc lab).2 != GoErr.nil then .done (some ([], (esc lab).2), m, chars)
      else
        match valGo pf (esc lab).1 chars vals m with
        | (some r, m') => .done (some r, m', chars)
        | (none, m') => .yield (none, m', chars)

def stepF (pf : Bytes → Int → Int × GoErr) (row : Bytes) (s : St) : ForInStep St := stepGo pf row s.2.1 s.2.2

theorem stepGo_skip (pf : Bytes → Int → Int × GoErr) {row : Bytes} (h : Skip row) (m : GM)
    (chars : List UInt8) : stepGo pf row m chars = .yield (none, m, chars) := if_pos h

theorem stepGo_hdr (pf : Bytes → Int → Int × GoErr) {row : Bytes} (h : ¬ Skip row) (m : GM) :
    stepGo pf row m [] =
      match loopT hdrStep (Matrix.fields row) (none, []) with
      | (some r, cs) => .done (some r, m, cs)
      | (none, cs) => .yield (none, m, cs) := by
  rw [stepGo, if_neg h, if_pos rfl]

theorem stepGo_row (pf : Bytes → Int → Int × GoErr) {row : Bytes} (h : ¬ Skip row) (m : GM)
    {chars : List UInt8} (hc : chars ≠ []) :
    stepGo pf row m chars =
      match Matrix.fields row with
      | [] => .done (some ([], GoErr.other), m, chars)
      | lab :: vals =>
        if vals.length ≠ chars.length then .done (some ([], GoErr.other), m, chars)
        else if (esc lab).2 != GoErr.nil then .done (some ([], (esc lab).2), m, chars)
        else
          match valGo pf (esc lab).1 chars vals m with
          | (some r, m') => .done (some r, m', chars)
          | (none, m') => .yield (none, m', chars) := by
  rw [stepGo, if_neg h, if_neg hc]

/-- after the loop: a pending early return, else `sc.Err()`, else the matrix -/
def finish (e : Ending) (s : St) : Res :=
  match s.1 with
  | some r => r
  | none => if scanErr e != GoErr.nil then ([], scanErr e) else (s.2.1, GoErr.nil)

theorem len_eq_zero {α : Type} (l : List α) : (len l == 0) = decide (l = []) := by
  cases l <;> simp [len] <;> omega

/-- The translated `ReadNCBI` never panics: it is `some` of total functions, on every input. -/
theorem ReadNCBI_eq (hF : GoSrc.smtext_ReadNCBI_Found = true) (hE : GoSrc.extractSingleChar_Found = true)
    (pf : Bytes → Int → Int × GoErr) (r : ScanRd) :
    GoSrc.smtext_ReadNCBI pf r = some (finish r.ending (loopT (stepF pf) r.lines (none, [], []))) := by
  first
  | exact absurd hF (by decide)
  | (unfold GoSrc.smtext_ReadNCBI
     simp only [Option.pure_def, Option.bind_eq_bind]
     rw [forIn_total (stepF pf) _ _ r.lines]
     · -- after the loop: `if sc.Err() != nil …; return m, nil`, or the pending early return
       simp only [Option.bind_some, finish]
       generalize loopT (stepF pf) r.lines (none, [], []) = st
       obtain ⟨r0, m, cs⟩ := st
       cases r0 with
       | some r1 => rfl
       | none => simp only []; split <;> rfl
     · -- the loop body on one line `row` is `stepF`
       intro row s
       obtain ⟨r0, m, chars⟩ := s
       simp only [stepF, stepGo, nonSpaceFields_eq, extractSingleChar_eq hE, Option.bind_some, len_eq_zero]
       -- `for _, char := range charStrs` is `loopT hdrStep`
       have hhdr : ∀ cs : List UInt8,
           (forIn (Matrix.fields row) ((none : Option Res), cs) fun char __s =>
             if ((esc char).snd != GoErr.nil) = true then
               some (ForInStep.done (some (([] : GM), (esc char).snd), __s.snd))
             else some (ForInStep.yield (none, __s.snd ++ [(esc char).fst])))
           = some (loopT hdrStep (Matrix.fields row) (none, cs)) := by
         intro cs
         apply forIn_total
         intro a s
         unfold hdrStep
         split <;> rfl
       -- `if row == "" || row[0] == '#' { continue }`
       cases row with
       | nil => rfl
       | cons b rest =>
         have h0 : idx (b :: rest) 0 = some b := rfl
         have hne : ((b :: rest) == []) = false := rfl
         simp only [hne, h0, Option.bind_some, Bool.false_eq_true, if_false]
         by_cases hb : b = 35
         · subst hb; rfl
         · have hb' : ((b == 35) = true) = False := by simpa using hb
           have hb2 : (b :: rest = [] ∨ (b :: rest).head? = some 35) = False := by simpa using hb
           simp only [hb', hb2, if_false]
           -- `if chars == nil`: the header line
           by_cases hc : chars = []
           · simp only [hc, decide_true, if_true, hhdr, Option.bind_some]
             generalize loopT hdrStep (Matrix.fields (b :: rest)) (none, []) = st
             obtain ⟨r1, cs⟩ := st
             cases r1 <;> rfl
           · -- a data line: `if len(valStrs) != len(chars)+1`, with `valStrs[0]`, `valStrs[1:]` defined after it
             simp only [hc, decide_false, Bool.false_eq_true, if_false]
             cases hf : Matrix.fields (b :: rest) with
             | nil =>
               have : (len ([] : List Bytes) != len chars + 1) = true := by
                 simp only [len, List.length_nil, bne_iff_ne, ne_eq]; omega
               simp only [this, if_true]
             | cons lab vals =>
               have h0 : idx (lab :: vals) 0 = some lab := rfl
               have hs : slice (lab :: vals) 1 (len (lab :: vals)) = some vals := by
                 have := slice_ofNat (lab :: vals) 1 (vals.length + 1) (by omega) (by simp)
                 simpa [len] using this
               have hl : (len (lab :: vals) != len chars + 1) = decide (vals.length ≠ chars.length) := by
                 simp only [len, List.length_cons]
                 by_cases h : vals.length = chars.length
                 · simp [h]
                 · simp [h]
                   omega
               simp only [hl, h0, hs, Option.bind_some, decide_eq_true_eq]
               by_cases hlen : vals.length ≠ chars.length
               · simp only [hlen, if_true, ne_eq, not_false_eq_true]
               · simp only [hlen, if_false]
                 -- `c, err := extractSingleChar(valStrs[0]); if err != nil`
                 by_cases he : ((esc lab).snd != GoErr.nil) = true
                 · simp only [he, if_true]
                 · -- `for i, val := range valStrs[1:]` is `valGo`
                   simp only [he]
                   rw [enum, val_loop pf (esc lab).fst chars _ (fun i val s => rfl) vals 0 chars rfl
                     (by omega) m]
                   simp only [Option.bind_some]
                   generalize valGo pf (esc lab).fst chars vals m = st
                   obtain ⟨r1, m'⟩ := st
                   cases r1 <;> rfl)

/-- `Matrix.readRows` with the score parser as a parameter (`readRowsP_parseQuarter`).  It repeats
the text of `readRows`, which has `parseQuarter` built in, because the theorems of `Props/C20NcbiGo`
about an arbitrary `strconv.ParseFloat` are stated against it; in the proofs both are
`Matrix.readToks` on the lines' tokens. -/
def readRowsP (pf : Bytes → Option Int) : Option (List UInt8) → List Bytes → Matrix.M → Option Matrix.M
  | _, [], m => some m
  | chars, row :: rows, m =>
    match row with
    | [] => readRowsP pf chars rows m
    | 35 :: _ => readRowsP pf chars rows m
    | _ =>
      match chars with
      | none =>
        match (Matrix.fields row).mapM Matrix.singleChar with
        | none => none
        | some cs => readRowsP pf (if cs.isEmpty then none else some cs) rows m
      | some cs =>
        match Matrix.fields row with
        | [] => none
        | lab :: vals =>
          if vals.length != cs.length then none
          else match Matrix.singleChar lab, vals.mapM pf with
            | some c, some vs => readRowsP pf (some cs) rows (Matrix.rowInsert c cs vs m)
            | _, _ => none

theorem readRowsP_nil (pf : Bytes → Option Int) (chars : Option (List UInt8)) (m : Matrix.M) :
    readRowsP pf chars [] m = some m := by rw [readRowsP.eq_def]

theorem readRowsP_eq_readToks (pf : Bytes → Option Int) (chars : Option (List UInt8)) (ls : List Bytes)
    (m : Matrix.M) :
    readRowsP pf chars ls m = Matrix.readToks pf chars (ls.filterMap Matrix.lineToks) m := by
  fun_induction readRowsP pf chars ls m <;>
    simp [Matrix.readToks, List.filterMap_cons, Matrix.lineToks_nil, Matrix.lineToks_comment,
      Matrix.lineToks_other, -List.isEmpty_iff, *]

theorem readRowsP_parseQuarter (chars : Option (List UInt8)) (ls : List Bytes) (m : Matrix.M) :
    readRowsP Matrix.parseQuarter chars ls m = Matrix.readRows chars ls m := by
  rw [readRowsP_eq_readToks, Matrix.readRows_eq_readToks]

/-- same map: well-formed on the Go side and equal at every key -/
def Rel (gm : GM) (m : Matrix.M) : Prop := WF gm ∧ Rep gm m

theorem Rel_nil : Rel [] [] := ⟨WF_nil, fun k => rfl⟩

theorem Rel_set {gm : GM} {m : Matrix.M} (h : Rel gm m) (a b : UInt8) (v : Int) :
    Rel (mapSet gm [a, b] v) (Matrix.insert (a, b) v m) :=
  ⟨WF_mapSet h.1 rfl v, Rep_mapSet h.2 (a, b) v⟩

/-- the score parser as the model sees it -/
def pfO (pf : Bytes → Int → Int × GoErr) (s : Bytes) : Option Int :=
  if (pf s 64).2 = GoErr.nil then some (pf s 64).1 else none

/-- The value loop is `mapM` of the score parser: the first token that does not parse ends it with
an error, otherwise the row has been stored. -/
theorem valGo_spec (pf : Bytes → Int → Int × GoErr) (c : UInt8) (cs : List UInt8) :
    ∀ (vals : List Bytes) (gm : GM) (m : Matrix.M), Rel gm m → vals.length = cs.length →
      ∃ gm', match vals.mapM (pfO pf) with
        | some vs => valGo pf c cs vals gm = (none, gm') ∧ Rel gm' (Matrix.rowInsert c cs vs m)
        | none => valGo pf c cs vals gm = (some ([], GoErr.other), gm') := by
  induction cs with
  | nil =>
    intro vals gm m hr hl
    cases List.length_eq_zero_iff.1 hl
    exact ⟨gm, rfl, hr⟩
  | cons ch chs ih =>
    intro vals gm m hr hl
    match vals, hl with
    | v :: vals, hl =>
      rw [List.mapM_cons, valGo]
      by_cases hp : (pf v 64).2 = GoErr.nil
      · obtain ⟨gm', h'⟩ := ih vals _ _ (Rel_set hr c ch (pf v 64).1) (Nat.succ.inj hl)
        refine ⟨gm', ?_⟩
        simp only [pfO, hp, if_true, bne_self_eq_false, Bool.false_eq_true, if_false, Option.pure_def,
          Option.bind_eq_bind, Option.bind_some]
        cases hm : List.mapM (pfO pf) vals with
        | none => rw [hm] at h'; exact h'
        | some vs => rw [hm] at h'; exact h'
      · refine ⟨gm, ?_⟩
        simp [pfO, hp]

theorem hdr_loop (ts : List Bytes) (cs : List UInt8) :
    ∃ cs'', loopT hdrStep ts (none, cs) =
      match ts.mapM Matrix.singleChar with
      | some cs' => (none, cs ++ cs')
      | none => (some ([], GoErr.other), cs'') := by
  induction ts generalizing cs with
  | nil => exact ⟨cs, by simp [loopT]⟩
  | cons t ts ih =>
    rw [List.mapM_cons, loopT, hdrStep]
    cases hs : Matrix.singleChar t with
    | none => exact ⟨cs, by simp [esc_none hs]⟩
    | some c =>
      obtain ⟨cs'', h⟩ := ih (cs ++ [c])
      refine ⟨cs'', ?_⟩
      simp only [esc_some hs, bne_self_eq_false, Bool.false_eq_true, if_false, h, Option.pure_def,
        Option.bind_eq_bind, Option.bind_some]
      cases List.mapM Matrix.singleChar ts <;> simp

/-- Go's `chars == nil` / `len chars == 0` against the model's `Option` -/
def co (chars : List UInt8) : Option (List UInt8) := if chars.isEmpty then none else some chars

theorem co_nil : co [] = none := rfl
theorem co_ne {chars : List UInt8} (h : chars ≠ []) : co chars = some chars := by
  cases chars with
  | nil => exact absurd rfl h
  | cons a r => rfl

theorem loop_refines (pf : Bytes → Int → Int × GoErr) :
    ∀ (ls : List Bytes) (chars : List UInt8) (gm : GM) (m : Matrix.M), Rel gm m →
      ∃ gm' cs', match Matrix.readToks (pfO pf) (co chars) (ls.filterMap Matrix.lineToks) m with
        | none => loopT (stepF pf) ls (none, gm, chars) = (some ([], GoErr.other), gm', cs')
        | some m' => loopT (stepF pf) ls (none, gm, chars) = (none, gm', cs') ∧ Rel gm' m' := by
  intro ls
  induction ls with
  | nil => exact fun chars gm m hr => ⟨gm, chars, rfl, hr⟩
  | cons row rows ih =>
    intro chars gm m hr
    rw [loopT, show stepF pf row (none, gm, chars) = stepGo pf row gm chars from rfl,
      List.filterMap_cons]
    by_cases hskip : Skip row
    · rw [stepGo_skip _ hskip, (Matrix.lineToks_eq_none_iff row).2 hskip]
      exact ih chars gm m hr
    · simp only [Matrix.lineToks_of (not_or.1 hskip).1 (not_or.1 hskip).2]
      by_cases hc : chars = []
      · subst hc
        obtain ⟨cs'', hh⟩ := hdr_loop (Matrix.fields row) []
        rw [stepGo_hdr _ hskip, hh, co_nil, Matrix.readToks]
        cases List.mapM Matrix.singleChar (Matrix.fields row) with
        | none => exact ⟨gm, cs'', rfl⟩
        | some cs' => exact ih cs' gm m hr
      · rw [stepGo_row _ hskip _ hc, co_ne hc]
        cases Matrix.fields row with
        | nil => exact ⟨gm, chars, rfl⟩
        | cons lab vals =>
          rw [Matrix.readToks]
          by_cases hlen : vals.length = chars.length
          · simp only [hlen, bne_self_eq_false, Bool.false_eq_true, if_false, ne_eq,
              not_true_eq_false]
            cases hl : Matrix.singleChar lab with
            | none => exact ⟨gm, chars, by simp [esc_none hl]⟩
            | some c =>
              obtain ⟨gm', hv⟩ := valGo_spec pf c chars vals gm m hr hlen
              simp only [esc_some hl, bne_self_eq_false, Bool.false_eq_true, if_false]
              cases hm : List.mapM (pfO pf) vals with
              | none => rw [hm] at hv; exact ⟨gm', chars, by rw [hv]⟩
              | some vs =>
                rw [hm] at hv
                rw [hv.1]
                have := ih chars gm' _ hv.2
                rwa [co_ne hc] at this
          · exact ⟨gm, chars, by simp [hlen]⟩

/-- a model-level failure is an error return, whatever the stream's ending -/
theorem ReadNCBI_of_none (hF : GoSrc.smtext_ReadNCBI_Found = true) (hE : GoSrc.extractSingleChar_Found = true)
    (pf : Bytes → Int → Int × GoErr) (ls : List Bytes) (e : Ending)
    (h : readRowsP (pfO pf) none ls [] = none) :
    GoSrc.smtext_ReadNCBI pf ⟨ls, e⟩ = some ([], GoErr.other) := by
  obtain ⟨gm', cs', hl⟩ := loop_refines pf ls [] [] [] Rel_nil
  rw [readRowsP_eq_readToks] at h
  rw [co_nil, h] at hl
  rw [ReadNCBI_eq hF hE, hl, finish]

/-- a model-level success: the matrix at a clean end of input, the stream's error otherwise -/
theorem ReadNCBI_of_some (hF : GoSrc.smtext_ReadNCBI_Found = true) (hE : GoSrc.extractSingleChar_Found = true)
    (pf : Bytes → Int → Int × GoErr) (ls : List Bytes) (m : Matrix.M)
    (h : readRowsP (pfO pf) none ls [] = some m) :
    GoSrc.smtext_ReadNCBI pf ⟨ls, .fail⟩ = some ([], GoErr.other) ∧
    ∃ gm, GoSrc.smtext_ReadNCBI pf ⟨ls, .eof⟩ = some (gm, GoErr.nil) ∧ Rel gm m := by
  obtain ⟨gm', cs', hl⟩ := loop_refines pf ls [] [] [] Rel_nil
  rw [readRowsP_eq_readToks] at h
  rw [co_nil, h] at hl
  rw [ReadNCBI_eq hF hE, ReadNCBI_eq hF hE, hl.1]
  exact ⟨rfl, gm', rfl, hl.2⟩

/-- the quarter-decimal parser as a `strconv.ParseFloat` stand-in -/
def pfQ (s : Bytes) (_ : Int) : Int × GoErr :=
  match Matrix.parseQuarter s with
  | some q => (q, GoErr.nil)
  | none => (0, GoErr.other)

theorem pfO_pfQ : pfO pfQ = Matrix.parseQuarter := by
  funext s
  unfold pfO pfQ
  cases Matrix.parseQuarter s <;> simp

theorem readRowsP_pfQ (x : Bytes) : readRowsP (pfO pfQ) none (scanLines x) [] = Matrix.readNCBI x := by
  rw [pfO_pfQ, readRowsP_parseQuarter]
  rfl

end NcbiGo
end Bio.GoSrcLemmas

/-
  Helper lemmas for C18 with a consumer that may keep state
  (`Bio/Model/IterReadersH.lean`): every history-consumer loop, run with the
  consumer `h`, logs `takeThroughH h acc` of what the corresponding pure-consumer
  loop of `Bio/Model/IterReaders.lean` logs when it is never stopped — hence
  `takeThroughH h []` of the item list of the format's `decodeSrc`.
-/
import Bio.Model.IterReadersH
import Bio.Lemmas.TakeThrough
import Bio.Lemmas.Iter
import Bio.Lemmas.IterReaders
import Bio.Lemmas.Traverse

namespace Bio.IterH
open Bio Bio.Iter Bio.GoRt Bio.GoSrcLemmas

/-! ## The take-through law for history consumers -/

/-- `it` hands its consumer the items of `L`, in order, up to and including the
first one after which the consumer (asked about everything it was handed so far)
says stop — and nothing after it. -/
def TakeThroughLawH {α : Type} (it : SeqH α) (L : List α) : Prop :=
  ∀ h, it h = takeThroughH h [] L

/-! ## The base loops -/

section loops
variable {ρ σ : Type} (S : Source ρ σ)

theorem iterLoopH_eq (h : List (Item ρ) → Bool) (acc : List (Item ρ)) (s : σ) :
    iterLoopH S h acc s = match S.next s with
      | .err => acc ++ [.err]
      | .done => acc
      | .item a s' =>
        if h (acc ++ [.ok a]) then iterLoopH S h (acc ++ [.ok a]) s' else acc ++ [.ok a] := by
  rw [iterLoopH]; split <;> simp_all

theorem readerLoopH_eq_iterLoopH (h : List (Item ρ) → Bool) (acc : List (Item ρ)) (s : σ) :
    readerLoopH S h acc s = iterLoopH S h acc s := by
  induction s using S.induct generalizing acc <;> rw [readerLoopH, iterLoopH_eq] <;> split <;>
    simp_all

theorem iterLoopH_log (h : List (Item ρ) → Bool) (acc : List (Item ρ)) (s : σ) :
    iterLoopH S h acc s = takeThroughH h acc (S.items s) := by
  induction s using S.induct generalizing acc with
  | err s hs => rw [iterLoopH_eq, S.items_eq, hs]; exact (takeThroughH_singleton h acc _).symm
  | done s hs => rw [iterLoopH_eq, S.items_eq, hs]; rfl
  | item s a s' hs ih => rw [iterLoopH_eq, S.items_eq, hs]; simp only [takeThroughH_cons, ih]

/-- The answer to `yield(nil, err)` is never looked at: consumers that agree on
every history that ends in a record get the same log. -/
theorem iterLoopH_congr (h g : List (Item ρ) → Bool)
    (hg : ∀ l a, h (l ++ [.ok a]) = g (l ++ [.ok a])) (acc : List (Item ρ)) (s : σ) :
    iterLoopH S h acc s = iterLoopH S g acc s := by
  induction s using S.induct generalizing acc with
  | err s hs => rw [iterLoopH_eq, iterLoopH_eq S g, hs]
  | done s hs => rw [iterLoopH_eq, iterLoopH_eq S g, hs]
  | item s a s' hs ih => rw [iterLoopH_eq, iterLoopH_eq S g, hs]; simp only [hg, ih]

end loops

/-! ## The SAM `ReaderHeader` loop -/

section sam
variable {σ : Type} (pf : Bytes → Option Bytes) (S : Source Bytes σ)

theorem samHeaderLoopH_eq (h : List (Item Sam.Entry) → Bool) (acc : List (Item Sam.Entry)) (s : σ) :
    samHeaderLoopH pf S h acc s = match S.next s with
      | .err => acc ++ [.err]
      | .done => acc
      | .item text s' =>
        if text = [] then samHeaderLoopH pf S h acc s'
        else if h (acc ++ [Sam.lineItem pf text])
          then samHeaderLoopH pf S h (acc ++ [Sam.lineItem pf text]) s'
          else acc ++ [Sam.lineItem pf text] := by
  rw [samHeaderLoopH]
  split
  · rename_i hs; simp only [hs]
  · rename_i hs; simp only [hs]
  · rename_i text s' hs
    simp only [hs]
    by_cases h0 : text = []
    · simp [h0]
    · simp only [ne_eq, h0, not_false_eq_true, ↓reduceIte]
      split
      · rfl
      · rename_i hne
        rw [Sam.lineItem_not_hdr pf (fun h64 => by
          cases text with
          | nil => exact h0 rfl
          | cons b t => simp at h64; subst h64; exact hne t hs rfl HEq.rfl)]
        cases Sam.parseLine pf (splitOn TAB text) <;> rfl

theorem samHeaderLoopH_log (h : List (Item Sam.Entry) → Bool) (acc : List (Item Sam.Entry)) (s : σ) :
    samHeaderLoopH pf S h acc s
      = takeThroughH h acc (samHeaderLoop pf S (fun _ => true) s) := by
  induction s using S.induct generalizing acc with
  | err s hs => rw [samHeaderLoopH_eq, samHeaderLoop_eq, hs]; exact (takeThroughH_singleton h acc _).symm
  | done s hs => rw [samHeaderLoopH_eq, samHeaderLoop_eq, hs]; rfl
  | item s text s' hs ih =>
    rw [samHeaderLoopH_eq, samHeaderLoop_eq, hs]
    by_cases h0 : text = []
    · simp only [h0, ↓reduceIte]; exact ih acc
    · simp only [h0, ↓reduceIte, takeThroughH_cons, ih]

end sam

/-! ## Ranging over an inner iterator -/

theorem runBody_nil {α β : Type} (body : List β → α → List β × Bool) :
    runBody body [] = ([], true) := rfl

theorem runBody_concat {α β : Type} (body : List β → α → List β × Bool) (l : List α) (x : α) :
    runBody body (l ++ [x]) = body (runBody body l).1 x := by
  simp [runBody, List.foldl_append]

theorem foldl_filterMapBodyH_fst {α β : Type} (g : α → Option β) (h : List β → Bool) (l : List α) :
    ∀ st : List β × Bool,
      (l.foldl (fun st x => filterMapBodyH g h st.1 x) st).1 = st.1 ++ l.filterMap g := by
  induction l with
  | nil => intro st; simp
  | cons x xs ih =>
    intro st
    rw [List.foldl_cons, ih]
    cases hg : g x with
    | none => simp [filterMapBodyH, hg]
    | some y => simp [filterMapBodyH, hg]

theorem runBody_filterMap_fst {α β : Type} (g : α → Option β) (h : List β → Bool) (l : List α) :
    (runBody (filterMapBodyH g h) l).1 = l.filterMap g := by
  simpa [runBody] using foldl_filterMapBodyH_fst g h l ([], true)

theorem runBody_filterMap_snd {α β : Type} (g : α → Option β) (h : List β → Bool) (l : List α)
    (x : α) :
    (runBody (filterMapBodyH g h) (l ++ [x])).2
      = match g x with
        | none => true
        | some y => h (l.filterMap g ++ [y]) := by
  rw [runBody_concat, runBody_filterMap_fst]
  cases hg : g x <;> simp [filterMapBodyH, hg]

/-- Running the filter-and-map body over a history take-through of `xs` gives the
history take-through of `xs.filterMap g`: items skipped by `continue` give no
callback, do not stop the loop and are not part of the outer consumer's history. -/
theorem runBody_takeThroughH {α β : Type} (g : α → Option β) (h : List β → Bool) (xs : List α) :
    ∀ acc : List α,
      (runBody (filterMapBodyH g h)
          (takeThroughH (fun l => (runBody (filterMapBodyH g h) l).2) acc xs)).1
        = takeThroughH h (acc.filterMap g) (xs.filterMap g) := by
  induction xs with
  | nil => intro acc; simp [takeThroughH, runBody_filterMap_fst]
  | cons x xs ih =>
    intro acc
    rw [takeThroughH_cons, runBody_filterMap_snd]
    cases hg : g x with
    | none =>
      simp only [if_true]
      rw [ih, List.filterMap_append, List.filterMap_cons_none hg, List.filterMap_cons_none hg]
      simp
    | some y =>
      rw [List.filterMap_cons_some hg, takeThroughH_cons]
      by_cases hy : h (acc.filterMap g ++ [y]) = true
      · simp only [hy, if_true]
        rw [ih, List.filterMap_append, List.filterMap_cons_some hg]
        simp
      · simp only [hy, if_false, Bool.false_eq_true]
        rw [runBody_filterMap_fst, List.filterMap_append, List.filterMap_cons_some hg]
        simp

theorem wrapFilterMapH_law {α β : Type} (g : α → Option β) (inner : SeqH α) (L : List α)
    (hl : TakeThroughLawH inner L) : TakeThroughLawH (wrapFilterMapH g inner) (L.filterMap g) := by
  intro h
  rw [wrapFilterMapH, rangeOverH, hl]
  simpa using runBody_takeThroughH g h L []

theorem wrapH_eq_filterMap {α : Type} (inner : SeqH α) : wrapH inner = wrapFilterMapH some inner :=
  rfl

/-- `wrapH` is `wrapFilterMapH some` (`wrapH_eq_filterMap`). -/
theorem wrapH_law {α : Type} (inner : SeqH α) (L : List α) (hl : TakeThroughLawH inner L) :
    TakeThroughLawH (wrapH inner) L := by
  have := wrapFilterMapH_law some inner L hl
  rwa [List.filterMap_some, ← wrapH_eq_filterMap] at this

theorem foldl_wrapBody {α : Type} (h : List α → Bool) (l : List α) :
    ∀ st : List α × Bool,
      l.foldl (fun st x => ((st.1 ++ [x], h (st.1 ++ [x])) : List α × Bool)) st
        = (st.1 ++ l, if l = [] then st.2 else h (st.1 ++ l)) := by
  induction l with
  | nil => intro st; simp
  | cons x xs ih =>
    intro st
    rw [List.foldl_cons, ih]
    cases xs <;> simp

/-- For ANY inner iterator: the wrapper calls the inner iterator with the outer
consumer itself — the inner history is the outer history.  (`inner` is handed
`true` for the empty history, about which no iterator ever asks.) -/
theorem wrapH_apply {α : Type} (inner : SeqH α) (h : List α → Bool) :
    wrapH inner h = inner (fun l => if l = [] then true else h l) := by
  have hb : ∀ l : List α,
      runBody (fun out x => ((out ++ [x], h (out ++ [x])) : List α × Bool)) l
        = (l, if l = [] then true else h l) := by
    intro l; simpa [runBody] using foldl_wrapBody h l ([], true)
  simp only [wrapH, rangeOverH, hb]

theorem samBodyH_eq (h : List (Item Sam.Sam) → Bool) : samBodyH h = filterMapBodyH samPick h := by
  funext out it
  rcases it with (_ | _) | _ <;> rfl

theorem samWrapH_eq : samWrapH = wrapFilterMapH samPick := by
  funext inner h
  rw [samWrapH, wrapFilterMapH, samBodyH_eq]

theorem samWrapH_law (inner : SeqH (Item Sam.Entry)) (L : List (Item Sam.Entry))
    (hl : TakeThroughLawH inner L) : TakeThroughLawH (samWrapH inner) (Sam.dropHeaders L) := by
  rw [samWrapH_eq, dropHeaders_eq]; exact wrapFilterMapH_law samPick inner L hl

/-! ## `File` -/

theorem fileH_none {ρ : Type} (h : List (Item ρ) → Bool) :
    fileH (none : Option (SeqH (Item ρ))) h = [.err] := rfl

theorem fileH_law {ρ ι : Type} {rd : ι → SeqH (Item ρ)} {items : ι → List (Item ρ)}
    (hl : ∀ i, TakeThroughLawH (rd i) (items i)) (o : Option ι) :
    TakeThroughLawH (fileH (o.map rd))
      (match o with | none => [.err] | some i => items i) := by
  intro h
  cases o with
  | none => rw [Option.map_none, fileH_none]; exact (takeThroughH_singleton h [] _).symm
  | some i => exact wrapH_law _ _ (hl i) h

/-! ## The readers satisfy the history law, for the `decodeSrc` item lists -/

theorem fastaIterH_law (e : Ending) (x : Bytes) :
    TakeThroughLawH (fastaIterH e x) (Fasta.decodeSrc e x) := by
  intro h; rw [fastaIterH, iterLoopH_log, fasta_full]

theorem fastaReaderH_law (e : Ending) (x : Bytes) :
    TakeThroughLawH (fastaReaderH e x) (Fasta.decodeSrc e x) :=
  wrapH_law _ _ (fastaIterH_law e x)

theorem fastqIterH_law (e : Ending) (x : Bytes) :
    TakeThroughLawH (fastqIterH e x) (Fastq.decodeSrc e x) := by
  intro h; rw [fastqIterH, iterLoopH_log, fastq_full]; rfl

theorem fastqReaderH_law (e : Ending) (x : Bytes) :
    TakeThroughLawH (fastqReaderH e x) (Fastq.decodeSrc e x) :=
  wrapH_law _ _ (fastqIterH_law e x)

theorem bedReaderH_law (e : Ending) (x : Bytes) :
    TakeThroughLawH (bedReaderH e x) (Bed.decodeSrc e x) := by
  intro h; rw [bedReaderH, readerLoopH_eq_iterLoopH, iterLoopH_log, bed_full]; rfl

theorem newickReaderH_law (pd : Bytes → Option Newick.Dist) (e : Ending) (x : Bytes) :
    TakeThroughLawH (newickReaderH pd e x) (Newick.decodeSrc pd e x) := by
  intro h; rw [newickReaderH, readerLoopH_eq_iterLoopH, iterLoopH_log, newick_full]

theorem samReaderHeaderH_law (pf : Bytes → Option Bytes) (e : Ending) (x : Bytes) :
    TakeThroughLawH (samReaderHeaderH pf e x) (Sam.decodeHeaderSrc pf e x) := by
  intro h; rw [samReaderHeaderH, samHeaderLoopH_log, sam_full]; rfl

theorem samReaderH_law (pf : Bytes → Option Bytes) (e : Ending) (x : Bytes) :
    TakeThroughLawH (samReaderH pf e x) (Sam.decodeSrc pf e x) :=
  samWrapH_law _ _ (samReaderHeaderH_law pf e x)

theorem fastaFileH_law (o : Option Input) :
    TakeThroughLawH (fastaFileH o)
      (match o with | none => [.err] | some i => Fasta.decodeSrc i.1 i.2) := by
  cases o <;> exact fileH_law (fun i : Input => fastaReaderH_law i.1 i.2) _

theorem fastqFileH_law (o : Option Input) :
    TakeThroughLawH (fastqFileH o)
      (match o with | none => [.err] | some i => Fastq.decodeSrc i.1 i.2) := by
  cases o <;> exact fileH_law (fun i : Input => fastqReaderH_law i.1 i.2) _

theorem bedFileH_law (o : Option Input) :
    TakeThroughLawH (bedFileH o)
      (match o with | none => [.err] | some i => Bed.decodeSrc i.1 i.2) := by
  cases o <;> exact fileH_law (fun i : Input => bedReaderH_law i.1 i.2) _

theorem newickFileH_law (pd : Bytes → Option Newick.Dist) (o : Option Input) :
    TakeThroughLawH (newickFileH pd o)
      (match o with | none => [.err] | some i => Newick.decodeSrc pd i.1 i.2) := by
  cases o <;> exact fileH_law (fun i : Input => newickReaderH_law pd i.1 i.2) _

theorem samFileH_law (pf : Bytes → Option Bytes) (o : Option Input) :
    TakeThroughLawH (samFileH pf o)
      (match o with | none => [.err] | some i => Sam.decodeSrc pf i.1 i.2) := by
  cases o <;> exact fileH_law (fun i : Input => samReaderH_law pf i.1 i.2) _

theorem samFileHeaderH_law (pf : Bytes → Option Bytes) (o : Option Input) :
    TakeThroughLawH (samFileHeaderH pf o)
      (match o with | none => [.err] | some i => Sam.decodeHeaderSrc pf i.1 i.2) := by
  cases o <;> exact fileH_law (fun i : Input => samReaderHeaderH_law pf i.1 i.2) _

/-! ## The explicit-stack iterators -/

open Bio.Newick in
theorem travH_log (pre : Bool) (h : List Tree → Bool) (fuel : Nat) :
    ∀ (s : List (Tree × Nat)) (acc : List Tree),
      travH pre h fuel s acc = takeThroughH h acc (trav pre (fun _ => true) fuel s) := by
  induction fuel with
  | zero => intro s acc; simp [travH, trav, takeThroughH]
  | succ fuel ih =>
    intro s acc
    cases s with
    | nil => simp [travH, trav, takeThroughH]
    | cons x s =>
      obtain ⟨n, i⟩ := x
      cases pre <;> cases h0 : (i == 0) <;> cases hl : (i == n.kids.length) <;>
        cases hg : n.kids.get? i <;>
        simp [travH, trav, h0, hl, hg, ih, takeThroughH_cons, takeThroughH]

open Bio.Newick in
theorem traverseH_log (pre : Bool) (h : List Tree → Bool) (t : Tree) :
    traverseH pre h t = takeThroughH h [] (if pre then preRec t else postRec t) := by
  rw [traverseH, travH_log, trav_start pre _ t _ (by omega)]
  exact congrArg _ (takeThrough_false _)

open Bio.Trie in
theorem eachLoopH_log (h : List Bytes → Bool) (fuel : Nat) :
    ∀ (s : List (Bool × T)) (cur : Bytes) (acc : List Bytes),
      eachLoopH h fuel s cur acc = takeThroughH h acc (eachLoop (fun _ => true) fuel s cur) := by
  induction fuel with
  | zero => intro s cur acc; simp [eachLoopH, eachLoop, takeThroughH]
  | succ fuel ih =>
    intro s cur acc
    cases s with
    | nil => simp [eachLoopH, eachLoop, takeThroughH]
    | cons x s =>
      obtain ⟨leaf, rem⟩ := x
      cases hb : (leaf && !cur.isEmpty) <;> cases rem <;> cases s <;>
        simp [eachLoopH, eachLoop, hb, ih, takeThroughH_cons, takeThroughH]

open Bio.Trie in
theorem forEachLogH_log (h : List Bytes → Bool) (t : T) :
    forEachLogH h t = takeThroughH h [] (leaves t) := by
  rw [forEachLogH, eachLoopH_log, eachLoop_start _ t _ (by omega)]
  exact congrArg _ (takeThrough_false _)

open Bio.Sequtil in
theorem canonLoopH_log (h : List Bytes → Bool) (seq rc : Bytes) (k : Nat) :
    ∀ (n i : Nat) (acc : List Bytes),
      canonLoopH h seq rc k i n acc
        = takeThroughH h acc (canonLoop (fun _ => true) seq rc k i n) := by
  intro n
  induction n with
  | zero => intro i acc; simp [canonLoopH, canonLoop, takeThroughH]
  | succ n ih => intro i acc; simp [canonLoopH, canonLoop, ih, takeThroughH_cons]

end Bio.IterH
